/-
  C19 — failures change nothing.
  The "cannot crash" half of C19 is a statement about the Go runtime (panics, nil dereferences) and is
  decided by the correspondence harness on malformed inputs; the model represents a recovered panic as
  `Outcome.panic`.  What is proved here is the state half: a transaction that is rejected — by the
  ante chain or by its handler, with an error or with a (recovered) panic — leaves the modelled state
  of every module exactly as it was; and the converse bookkeeping: an `ok` answer is the only way any
  module's state moves.
-/
import GoatModel.Driver
namespace Goat.C19
open Goat Goat.Wire Goat.Driver Goat.World

theorem res_ne_ok {α} (r : Outcome α) (h : ∀ a, r ≠ .ok a) : "=> " ++ World.res r ≠ "=> ok" := by
  cases r with
  | ok a => exact absurd rfl (h a)
  | err e =>
    intro hh; simp only [World.res] at hh
    have := congrArg String.toList hh
    simp [String.toList_append] at this
  | panic e =>
    intro hh; simp only [World.res] at hh
    have := congrArg String.toList hh
    simp [String.toList_append] at this

/-- baseapp's write-back rule -/
theorem commitTx_failed {α} (w : W) (r : Outcome α) (f : α → W)
    (h : (commitTx w r f).2 ≠ "=> ok") : (commitTx w r f).1 = w := by
  unfold commitTx at h ⊢
  cases r with
  | ok a => exact absurd rfl h
  | err e => rfl
  | panic e => rfl

/-- **Keeper level**: a message whose handler does not answer `ok` changes no module's state. -/
theorem failed_msg_changes_nothing (w : W) (o : Op)
    (hf : (txStep w o).2 ≠ "=> ok") : (txStep w o).1 = w := by
  suffices h : ∀ p, txStep w o = p → p.2 ≠ "=> ok" → p.1 = w from h _ rfl hf
  intro p hp
  unfold txStep at hp
  dsimp only at hp
  -- every handler's result goes through `commitTx`; an unknown kind returns `w` itself
  split at hp <;> subst hp <;> first | exact commitTx_failed _ _ _ | (intro _; rfl)

/-- **Transaction level** (ante chain + handler, including the execution-block message with its
    dequeue verification and three request lists): anything but `ok` leaves the driver state — all
    module states, the execution head and beacon root — exactly as it was. -/
theorem failed_tx_changes_nothing (d : D) (o : Op) (hf : (runTx d o).2 ≠ "=> ok") : (runTx d o).1 = d := by
  revert hf
  unfold runTx
  cases ante d o with
  | err e => exact fun _ => rfl
  | panic e => exact fun _ => rfl
  | ok u =>
    dsimp only
    by_cases hg : (o.str "oog" == "1") = true
    · rw [if_pos hg]; exact fun _ => rfl
    rw [if_neg hg]
    by_cases hk : (o.kind == "tx.ethblock") = true
    · rw [if_pos hk]
      cases newEthBlock d o with
      | ok d' => exact fun hf => absurd rfl hf
      | err e => exact fun _ => rfl
      | panic e => exact fun _ => rfl
    rw [if_neg hk]
    by_cases hn : (o.kind == "tx.generic") = true
    · rw [if_pos hn]; exact fun _ => rfl
    · rw [if_neg hn]
      intro hf
      rw [failed_msg_changes_nothing d.w o hf]

/-- a transaction rejected by the ante chain never reaches its handler -/
theorem ante_rejects_before_handler (d : D) (o : Op) (h : ante d o ≠ .ok ()) : (runTx d o).1 = d := by
  unfold runTx
  split
  · rfl
  · rfl
  · rename_i hu; exact absurd hu h

/-- CheckTx, ProcessProposal, exports and determinism probes never move the state. -/
theorem readonly_ops (d : D) (o : Op)
    (hk : o.kind = "a.checktx" ∨ o.kind = "a.process" ∨ o.kind = "a.export" ∨ o.kind = "a.det" ∨ o.kind = "tx.raw") :
    (Driver.step d o).1 = d := by
  unfold Driver.step
  rcases hk with hk | hk | hk | hk | hk <;> simp only [hk]

/-- the transactions of a block, one after the other -/
def runTxs (d : D) (ops : List Op) : D := ops.foldl (fun d o => (runTx d o).1) d

/-- **A failed transaction in isolation** (what the `a.failiso` runs observe on the real application): if the last
    transaction of a block fails, the block ends in the state it would have ended in without that transaction.  Ante-chain
    bookkeeping outside the four modules (the signer's account sequence) is not part of `D`. -/
theorem failed_last_tx_block_same (d : D) (ops : List Op) (o : Op)
    (hf : (runTx (runTxs d ops) o).2 ≠ "=> ok") : runTxs d (ops ++ [o]) = runTxs d ops := by
  unfold runTxs at *
  rw [List.foldl_append]
  simp only [List.foldl_cons, List.foldl_nil]
  exact failed_tx_changes_nothing _ o hf

/-- … and anywhere in the block: removing every failing transaction changes nothing -/
theorem failed_txs_can_be_dropped (d : D) : ∀ (ops : List Op),
    runTxs d ops = runTxs d (ops.foldl (fun (acc : List Op × D) o =>
      if (runTx acc.2 o).2 = "=> ok" then (acc.1 ++ [o], (runTx acc.2 o).1) else acc) ([], d)).1 := by
  intro ops
  suffices h : ∀ (ops : List Op) (pre : List Op) (dd : D), runTxs d pre = dd →
      runTxs dd ops = runTxs d (ops.foldl (fun (acc : List Op × D) o =>
        if (runTx acc.2 o).2 = "=> ok" then (acc.1 ++ [o], (runTx acc.2 o).1) else acc) (pre, dd)).1 from
    h ops [] d rfl
  intro ops
  induction ops with
  | nil => intro pre dd h; simp [runTxs] at *; exact h.symm
  | cons o os ih =>
    intro pre dd h
    simp only [List.foldl_cons]
    by_cases hok : (runTx dd o).2 = "=> ok"
    · rw [if_pos hok]
      have : runTxs d (pre ++ [o]) = (runTx dd o).1 := by
        unfold runTxs at *; rw [List.foldl_append, h]; rfl
      rw [← ih (pre ++ [o]) (runTx dd o).1 this]
      rfl
    · rw [if_neg hok]
      rw [← ih pre dd h]
      show runTxs (runTx dd o).1 os = runTxs dd os
      rw [failed_tx_changes_nothing dd o hok]

end Goat.C19
