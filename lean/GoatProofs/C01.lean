/-
  C01 — voted relayer proposals need a genuine two-thirds quorum: `VerifyProposal` of
  x/relayer/keeper accepts only under `Quorum`, and each of the five voted bridge handlers takes effect
  only through it, on its own action and payload.
-/
import GoatModel.Relayer
import GoatModel.Bitcoin
import GoatProofs.Lemmas.Relayer
import GoatProofs.Lemmas.BitcoinOps
namespace Goat.C01
open Goat.Relayer

/-- threshold = ceil(2(n+1)/3): the least t with 3t ≥ 2(n+1) -/
theorem threshold_spec (n : Nat) : 3 * threshold n ≥ 2 * (n + 1) ∧ 3 * (threshold n - 1) < 2 * (n + 1) :=
  Relayer.threshold_spec n

/-- What a genuine quorum is, for a group state `s`, a voted message `m` and the chain id:
    the message names the current proposer, sequence and epoch; every marked bitmap position denotes
    a current voter; the aggregate signature verifies over exactly this action (method), payload,
    chain, epoch and sequence under the proposer's key followed by the keys of exactly the marked
    voters; and proposer plus marked voters number at least ceil(2(n+1)/3). -/
def Quorum (c : Crypto) (chainId : String) (s : State) (m : VoteMsg) : Prop :=
  m.proposer = s.proposer ∧ m.seq = s.seq ∧ m.epoch = s.epoch ∧
  (∀ i, bitmapContains m.bitmap i = true → i < s.voters.length) ∧
  ∃ pk ks, lookup s.recs s.proposer = some pk ∧
    (markedVoters s m.bitmap).mapM (fun v => (lookup s.recs v).map (·.voteKey)) = some ks ∧
    c.aggVerify (pk.voteKey :: ks) (voteSignDoc c m.method chainId s.proposer s.seq s.epoch m.sigDoc) m.signature = true ∧
    (markedVoters s m.bitmap).length = bitmapCount m.bitmap ∧
    (markedVoters s m.bitmap).length + 1 ≥ threshold s.voters.length

/-- **C01 (soundness of acceptance).** `VerifyProposal` accepts only with a genuine quorum, and then
    changes nothing but the proposer-accepted flag and returns the current sequence.
    For every crypto instantiation, group size, bitmap, membership. -/
theorem C01_accept_sound (c : Crypto) (chainId : String) (s : State) (m : VoteMsg) (s' : State) (q : Nat)
    (h : verifyProposal c chainId s m = .ok (s', q)) :
    Quorum c chainId s m ∧ s' = { s with accepted := true } ∧ q = s.seq := by
  obtain ⟨hp, hs, he, _, hthr, _, keys, hk, hkl, hv, h1, h2⟩ := verifyProposal_ok h
  obtain ⟨pk, ks, hpk, hmap, rfl⟩ := collectKeys_ok hk
  have hmv : (markedVoters s m.bitmap).length = bitmapCount m.bitmap := by
    rw [← mapM_option_length _ _ _ hmap]
    exact Nat.succ.inj hkl
  have hbelow := marks_below m.bitmap s.voters.length (by rw [← markedVoters_length]; exact hmv)
  exact ⟨⟨hp.symm, hs, he, hbelow, pk, ks, hpk, hmap, hv, hmv, by omega⟩, h1, h2⟩

/-- a rejected proposal yields no new state at all (the transactional wrapper keeps the old one) -/
theorem C01_no_quorum_rejected (c : Crypto) (chainId : String) (s : State) (m : VoteMsg)
    (h : ¬ Quorum c chainId s m) : ∀ r, verifyProposal c chainId s m ≠ .ok r := by
  intro r hr
  exact h (C01_accept_sound c chainId s m r.1 r.2 hr).1

/-! ### the five voted bridge handlers -/

theorem newBlockHashes_needs_quorum (rc : Crypto) (chainId : String) (rel : State) (s : Bitcoin.State)
    (vote : VoteMsg) (hv : Bool) (start : Nat) (hashes : List Bytes) (r : State × Bitcoin.State)
    (h : Bitcoin.newBlockHashes rc chainId rel s vote hv start hashes = .ok r) :
    Quorum rc chainId rel { vote with method := "Bitcoin/NewBlocks", sigDoc := List.replicate 8 0 ++ le64 start ++ hashes.flatten } := by
  obtain ⟨_, _, _, _, _, _, rel', q, hvp, _⟩ := Bitcoin.newBlockHashes_ok h
  exact (C01_accept_sound rc chainId rel _ rel' q hvp).1

theorem newPubkey_needs_quorum (rc : Crypto) (chainId : String) (rel : State) (s : Bitcoin.State)
    (vote : VoteMsg) (hv : Bool) (pk : Bitcoin.PubKey) (r : State × Bitcoin.State)
    (h : Bitcoin.newPubkey rc chainId rel s vote hv pk = .ok r) :
    Quorum rc chainId rel { vote with method := "Bitcoin/NewPubkey", sigDoc := pk.encode } := by
  obtain ⟨_, _, _, rel', q, hvp, _⟩ := Bitcoin.newPubkey_ok h
  exact (C01_accept_sound rc chainId rel _ rel' q hvp).1

theorem processWithdrawal_needs_quorum (c : Bitcoin.Crypto) (rc : Crypto) (chainId : String) (rel : State) (s : Bitcoin.State)
    (vote : VoteMsg) (hv : Bool) (ids : List Nat) (tx : Bytes) (fee : Nat) (r : State × Bitcoin.State)
    (h : Bitcoin.processWithdrawal c rc chainId rel s vote hv ids tx fee = .ok r) :
    Quorum rc chainId rel { vote with method := "Bitcoin/ProcessWithdrawal",
                                      sigDoc := (ids.map le64).flatten ++ rc.sha256 tx ++ le64 fee } := by
  obtain ⟨_, _, _, _, _, _, _, _, _, rel', q, hvp, _⟩ := Bitcoin.processWithdrawal_ok h
  exact (C01_accept_sound rc chainId rel _ rel' q hvp).1

theorem replaceWithdrawal_needs_quorum (c : Bitcoin.Crypto) (rc : Crypto) (chainId : String) (rel : State) (s : Bitcoin.State)
    (vote : VoteMsg) (hv : Bool) (pid : Nat) (tx : Bytes) (fee : Nat) (r : State × Bitcoin.State)
    (h : Bitcoin.replaceWithdrawal c rc chainId rel s vote hv pid tx fee = .ok r) :
    Quorum rc chainId rel { vote with method := "Bitcoin/ReplaceWithdrawal", sigDoc := le64 pid ++ le64 fee ++ rc.sha256 tx } := by
  obtain ⟨_, _, _, _, _, _, _, _, _, _, _, rel', q, hvp, _⟩ := Bitcoin.replaceWithdrawal_ok h
  exact (C01_accept_sound rc chainId rel _ rel' q hvp).1

theorem newConsolidation_needs_quorum (c : Bitcoin.Crypto) (rc : Crypto) (chainId : String) (rel : State) (s : Bitcoin.State)
    (vote : VoteMsg) (hv : Bool) (tx : Bytes) (r : State × Bitcoin.State)
    (h : Bitcoin.newConsolidation c rc chainId rel s vote hv tx = .ok r) :
    Quorum rc chainId rel { vote with method := "Bitcoin/NewConsolidation", sigDoc := rc.sha256 tx } := by
  obtain ⟨_, _, _, _, _, _, _, _, rel', q, hvp, _⟩ := Bitcoin.newConsolidation_ok h
  exact (C01_accept_sound rc chainId rel _ rel' q hvp).1

/-! ### the unrepaired function (pinned commit) — finding F1 -/

/-- with 3 voters, marks {100, 101} (beyond the list) and only the proposer's key verifying, the
    unchecked function accepts although no marked position denotes a voter -/
theorem F1_unchecked_accepts_marks_beyond_voters :
    ∃ (c : Crypto) (s : State) (m : VoteMsg) (r : State × Nat),
      verifyProposalUnchecked c "x" s m = .ok r ∧ ¬ (∀ i, bitmapContains m.bitmap i = true → i < s.voters.length) := by
  let c : Crypto := { sha256 := id, hash160 := id, aggVerify := fun ks _ _ => ks.length == 1, blsVerify := fun _ _ _ => false,
                      ecdsaVerify := fun _ _ _ => false, addrOf := fun _ => "" }
  let pv : Voter := { address := [], voteKey := [1], status := .activated, height := 0 }
  let s : State := { params := { electingPeriod := 0, acceptProposerTimeout := 0 }, proposer := "p", voters := ["a", "b", "c"], epoch := 0,
                     lastElected := 0, accepted := true, seq := 0, randao := [], recs := [("p", pv)], onBoarding := [], offBoarding := [], pubkeys := [] }
  let m : VoteMsg := { proposer := "p", method := "", sigDoc := [], seq := 0, epoch := 0,
                       bitmap := [0,0,0,0,0,0,0,0, 0,0,0,0, 0x30,0,0,0], signature := [] }
  refine ⟨c, s, m, (s, 0), by decide, ?_⟩
  intro h
  have := h 100 (by decide)
  simp [s] at this

/-! ### non-vacuity: a state and a message that `verifyProposal` accepts (hence, by `C01_accept_sound`, with a quorum) -/
example : ∃ (c : Crypto) (s : State) (m : VoteMsg) (r : State × Nat), verifyProposal c "x" s m = .ok r := by
  let c : Crypto := { sha256 := id, hash160 := id, aggVerify := fun ks _ _ => ks.length == 3, blsVerify := fun _ _ _ => false,
                      ecdsaVerify := fun _ _ _ => false, addrOf := fun _ => "" }
  let mk (k : UInt8) : Voter := { address := [], voteKey := [k], status := .activated, height := 0 }
  let s : State := { params := { electingPeriod := 0, acceptProposerTimeout := 0 }, proposer := "p", voters := ["a", "b", "c"], epoch := 0,
                     lastElected := 0, accepted := false, seq := 7, randao := [], recs := [("p", mk 1), ("a", mk 2), ("b", mk 3), ("c", mk 4)],
                     onBoarding := [], offBoarding := [], pubkeys := [] }
  let m : VoteMsg := { proposer := "p", method := "", sigDoc := [], seq := 7, epoch := 0, bitmap := [5,0,0,0,0,0,0,0], signature := [] }
  exact ⟨c, s, m, ({ s with accepted := true }, 7), by decide⟩

end Goat.C01
