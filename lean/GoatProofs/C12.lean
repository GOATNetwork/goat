/-
  C12 — one block of the reward pool: the shares of a distribution never exceed the pool, the scheduled
  reward follows the halving schedule, and `UpdateRewardPool` (income, then emission) neither creates nor
  loses value.  That a distribution and whole histories conserve the total is in C12H.
  The fixed-point arithmetic behind the share bounds is in GoatProofs/Lemmas/Arith.lean.
-/
import GoatProofs.Lemmas.Arith
import GoatProofs.Lemmas.LockingOps
namespace Goat.C12
open Goat.Locking

/-- **Shares never exceed the pool.**  For every pool and every vector of voting powers with a
    positive total, the per-validator shares `⌊pool · ⌊pᵢ·10¹⁸/T⌋ / 10¹⁸⌋` (the repaired code:
    truncating fraction) add up to at most the pool — so no pool ever goes negative. -/
theorem shares_sum_le_pool (pool : Nat) (ps : List Nat) (ht : 0 < ps.sum) :
    (ps.map (fun p => mulTruncInt pool (decQuoTruncate p ps.sum))).sum ≤ pool :=
  shares_le_pool pool ps ht

/-- each share is at most the exact proportional amount `pool·pᵢ/T` (never more than its power's part) -/
theorem share_at_most_proportional (pool p t : Nat) (ht : 0 < t) :
    mulTruncInt pool (decQuoTruncate p t) * t ≤ pool * p :=
  share_le_proportional pool p t

/-- `halve k r`: `r` floor-halved `k` times, "halved once per elapsed halving interval" taken literally.
    The Go code divides by `2 ^ halvings` in one step (`scheduled_eq`); by `repeated_halving_eq` that is the same. -/
def halve : Nat → Nat → Nat
  | 0, r => r
  | k + 1, r => halve k r / 2

theorem repeated_halving_eq (k r : Nat) : halve k r = r / 2 ^ k := by
  induction k with
  | zero => simp [halve]
  | succ n ih => simp [halve, ih, Nat.div_div_eq_div_mul, Nat.pow_succ]

/-- the scheduled reward is the initial reward floor-halved `height / interval` times -/
theorem scheduled_eq (p : Params) (h : Int) (hi : 0 < p.halvingInterval) (hh : 0 ≤ h) :
    scheduledReward p h = p.initialReward / (2 ^ (h / p.halvingInterval).toNat : Nat) := by
  unfold scheduledReward
  simp only
  split
  · rfl
  · rename_i hz
    have h0 : h / p.halvingInterval = 0 := by
      have := Int.ediv_nonneg hh (Int.le_of_lt hi)
      omega
    simp [h0]

/-- **Emission.**  `emit` moves exactly `min(remaining grant, scheduled)` from the grant into the
    distribution pool, nothing else changes, and the sum is conserved. -/
theorem emission (pool : Pool) (sched : Int) :
    let r := if sched > pool.remain then pool.remain else sched
    (emit pool sched).goat = pool.goat + r ∧ (emit pool sched).remain = pool.remain - r ∧
    (emit pool sched).gas = pool.gas ∧
    (emit pool sched).goat + (emit pool sched).remain = pool.goat + pool.remain := by
  intro r
  have he : emit pool sched = if r ≠ 0 then { pool with goat := pool.goat + r, remain := pool.remain - r } else pool := rfl
  by_cases h0 : r = 0
  · rw [he, if_neg (not_not_intro h0), h0]
    exact ⟨(Int.add_zero _).symm, (Int.sub_zero _).symm, rfl, rfl⟩
  · rw [he, if_pos h0]
    exact ⟨rfl, rfl, rfl, by show pool.goat + r + (pool.remain - r) = _; omega⟩

/-- the overflow-checked summation of the grants in `addIncome`, when it answers, is the plain sum -/
theorem grants_fold (gs : List Int) (acc : Option Int) (r : Int)
    (h : gs.foldl (fun (acc : Option Int) x => match acc with
          | none => none
          | some r => if fits256 (r + x) then some (r + x) else none) acc = some r) :
    ∃ a, acc = some a ∧ r = a + gs.sum := by
  induction gs generalizing acc with
  | nil => exact ⟨r, h, (Int.add_zero r).symm⟩
  | cons x xs ih =>
    obtain ⟨b, hb, rfl⟩ := ih _ h
    cases acc with
    | none => cases hb
    | some a =>
      dsimp only at hb
      split at hb
      · cases hb
        exact ⟨a, rfl, by rw [List.sum_cons, Int.add_assoc]⟩
      · cases hb

/-- income: the single gas-revenue request is added when positive, grants are added to the grant -/
theorem income (pool p1 : Pool) (g : Int) (grants : List Int) (h : addIncome pool [g] grants = some p1) :
    p1.gas = pool.gas + (if g > 0 then g else 0) ∧ p1.remain = pool.remain + grants.sum ∧ p1.goat = pool.goat := by
  unfold addIncome at h
  by_cases hc : (!fits256 (List.foldl (fun (acc : Int) x => if x > 0 then acc + x else acc) pool.gas [g])) = true
  · simp only [hc, if_true] at h; cases h
  · simp only [hc, Bool.false_eq_true, if_false] at h
    rw [Option.map_eq_some_iff] at h
    obtain ⟨remain, hf, hp⟩ := h
    obtain ⟨_, ha, hr⟩ := grants_fold grants _ remain hf
    cases ha
    subst hp
    refine ⟨?_, hr, rfl⟩
    simp only [List.foldl_cons, List.foldl_nil]
    split <;> simp

/-- `UpdateRewardPool` = income then emission (conservation: granted + gas revenue all end up in
    remain + goat + gas; nothing is created or lost) -/
theorem updateRewardPool_conserves (s s' : State) (h : Int) (g : Int) (grants : List Int)
    (hok : updateRewardPool s h [g] grants = .ok s') :
    s'.pool.goat + s'.pool.remain + s'.pool.gas
      = s.pool.goat + s.pool.remain + s.pool.gas + grants.sum + (if g > 0 then g else 0) ∧
    s'.validators = s.validators ∧ s'.qRewards = s.qRewards := by
  obtain ⟨g', p1, hg, hp1, _, rfl⟩ := updateRewardPool_ok_iff.mp hok
  cases hg
  obtain ⟨h1, h2, h3⟩ := income s.pool p1 g grants hp1
  obtain ⟨_, _, e3, e4⟩ := emission p1 (scheduledReward s.params h)
  refine ⟨?_, rfl, rfl⟩
  show (emit p1 _).goat + (emit p1 _).remain + (emit p1 _).gas = _
  rw [e4, e3, h1, h2, h3]
  omega

/-! ### the unrepaired share fraction (rounded `Quo`) lets the shares exceed the pool — finding F5 -/

theorem F5_rounded_shares_exceed_pool :
    ∃ (pool : Nat) (ps : List Nat),
      (ps.map (fun p => mulTruncInt pool (decQuo p ps.sum))).sum > pool := by
  refine ⟨10000000000000000000, [100, 100, 100, 100, 100, 100], ?_⟩
  decide +kernel

-- the same pool and powers with the truncating fraction
example : (([100, 100, 100, 100, 100, 100] : List Nat).map (fun p => mulTruncInt 10000000000000000000 (decQuoTruncate p 600))).sum ≤ 10000000000000000000 := by
  decide +kernel

end Goat.C12
