/-
  C09H — history-level statements of C09: along ARBITRARY finite operation lists run through
  `Driver.step` the recorded execution head only ever moves along parent → child links, a block that
  is not committed moves it back to a head recorded before, the committed head's number never
  decreases, and the beacon root never changes without the head.

  (The two `Std.Data.String` imports — part of the Lean toolchain, not Mathlib — are used only in the
  non-vacuity section, for `"1".toNat? = some 1` and the like: `String.toNat?` / `toInt?` do not
  reduce in the kernel.)
-/
import GoatModel.Driver
import GoatProofs.C09
import Std.Data.String.ToNat
import Std.Data.String.ToInt
namespace Goat.C09H
open Goat Goat.App Goat.Wire Goat.Driver

/-! ### child links and chains -/

/-- `b` is a direct child of `a`: its parent hash is `a`'s hash and its number is `a`'s number + 1 -/
def Child (a b : Head) : Prop := b.parentHash = a.blockHash ∧ b.blockNumber = a.blockNumber + 1

instance (a b : Head) : Decidable (Child a b) := by unfold Child; exact inferInstance

/-- reflexive-transitive closure of a relation -/
inductive RTC {α : Type} (r : α → α → Prop) : α → α → Prop where
  | refl (a : α) : RTC r a a
  | tail {a b c : α} : RTC r a b → r b c → RTC r a c

theorem RTC.single {α : Type} {r : α → α → Prop} {a b : α} (h : r a b) : RTC r a b := .tail (.refl a) h

theorem RTC.trans {α : Type} {r : α → α → Prop} {a b c : α} (h1 : RTC r a b) (h2 : RTC r b c) : RTC r a c := by
  induction h2 with
  | refl => exact h1
  | tail _ hr ih => exact .tail ih hr

theorem RTC.map {α β : Type} {r : α → α → Prop} {s : β → β → Prop} (f : α → β)
    (hf : ∀ x y, r x y → s (f x) (f y)) {a b : α} (h : RTC r a b) : RTC s (f a) (f b) := by
  induction h with
  | refl => exact .refl _
  | tail _ hr ih => exact .tail ih (hf _ _ hr)

/-- `b` is reachable from `a` by zero or more parent → child links -/
def Chain : Head → Head → Prop := RTC Child

/-- the same on the goat module's whole state (head + beacon root): one link is a child link of the
    heads; the beacon root of the new state is free (it is the hash of the finalising consensus block) -/
def GChild (a b : GState) : Prop := Child a.head b.head
def GChain : GState → GState → Prop := RTC GChild

theorem Chain.refl (a : Head) : Chain a a := RTC.refl a
theorem Chain.trans {a b c : Head} (h1 : Chain a b) (h2 : Chain b c) : Chain a c := RTC.trans h1 h2
theorem Chain.step {a b c : Head} (h1 : Chain a b) (h2 : Child b c) : Chain a c := RTC.tail h1 h2
theorem GChain.heads {a b : GState} (h : GChain a b) : Chain a.head b.head :=
  RTC.map (fun g : GState => g.head) (fun _ _ h => h) h

/-- chains with their number of links -/
inductive ChainN : Nat → Head → Head → Prop where
  | zero (a : Head) : ChainN 0 a a
  | succ {n : Nat} {a b c : Head} : ChainN n a b → Child b c → ChainN (n + 1) a c

theorem chain_iff_chainN (a b : Head) : Chain a b ↔ ∃ n, ChainN n a b := by
  constructor
  · intro h
    induction h with
    | refl => exact ⟨0, .zero _⟩
    | tail _ hr ih => obtain ⟨n, hn⟩ := ih; exact ⟨n + 1, .succ hn hr⟩
  · rintro ⟨n, hn⟩
    induction hn with
    | zero => exact Chain.refl _
    | succ _ hr ih => exact Chain.step ih hr

/-! ### along a chain the number counts the links -/

theorem chainN_number {n : Nat} {a b : Head} (h : ChainN n a b) : b.blockNumber = a.blockNumber + n := by
  induction h with
  | zero => rfl
  | succ _ hr ih => rw [hr.2, ih]; omega

theorem chainN_number_eq_iff {n : Nat} {a b : Head} (h : ChainN n a b) : a.blockNumber = b.blockNumber ↔ n = 0 := by
  rw [chainN_number h]; omega

theorem chainN_zero {a b : Head} (h : ChainN 0 a b) : a = b := by cases h; rfl

theorem chain_number_le {a b : Head} (h : Chain a b) : a.blockNumber ≤ b.blockNumber := by
  obtain ⟨n, hn⟩ := (chain_iff_chainN a b).1 h; rw [chainN_number hn]; omega

/-- **Monotone, with equality iff no step was taken.** -/
theorem head_number_monotone {a b : Head} (h : Chain a b) :
    a.blockNumber ≤ b.blockNumber ∧ (a.blockNumber = b.blockNumber ↔ a = b) := by
  obtain ⟨n, hn⟩ := (chain_iff_chainN a b).1 h
  refine ⟨chain_number_le h, fun e => ?_, fun e => by rw [e]⟩
  obtain rfl := (chainN_number_eq_iff hn).mp e
  exact chainN_zero hn

/-- a head is never replaced by a different head of the same height (a sibling), … -/
theorem no_sibling {a b : Head} (h : Chain a b) (hn : b.blockNumber = a.blockNumber) : b = a :=
  ((head_number_monotone h).2.1 hn.symm).symm

/-- … nor by a head of a smaller height (an ancestor, or anything else below) -/
theorem no_ancestor {a b : Head} (h : Chain a b) : ¬ b.blockNumber < a.blockNumber := by
  have := chain_number_le h; omega

/-- the same for whole goat states: one link strictly raises the number, so a chain that ends at the
    same height has no link — head AND beacon root are the ones it started from -/
theorem gchain_eq_or_lt {a b : GState} (h : GChain a b) : a = b ∨ a.head.blockNumber < b.head.blockNumber := by
  induction h with
  | refl => exact Or.inl rfl
  | tail _ hr ih =>
    right
    have := hr.2
    rcases ih with ih | ih
    · rw [← ih] at this; omega
    · omega

/-! ### single steps: which operations touch the goat module's state -/

/-- state-loading operations: the harness's way of installing an arbitrary initial state -/
def isLoad (k : String) : Bool := k == "reset" || k == "init.goat" || k.startsWith "load."

/-- the two of them that write the goat module's state or the saved pre-state (the `load.*` kinds
    write other modules only) -/
def isInstall (k : String) : Bool := k == "reset" || k == "init.goat"

theorem not_install_of_not_load {k : String} (h : isLoad k = false) : isInstall k = false := by
  unfold isLoad at h; unfold isInstall
  rw [Bool.or_eq_false_iff, Bool.or_eq_false_iff] at h
  rw [h.1.1, h.1.2]; rfl

/-- none of the operations is a state-loading one -/
def NoLoad (ops : List Op) : Prop := ∀ o ∈ ops, isLoad o.kind = false
def NoInstall (ops : List Op) : Prop := ∀ o ∈ ops, isInstall o.kind = false

instance (ops : List Op) : Decidable (NoLoad ops) := by unfold NoLoad; exact inferInstance
instance (ops : List Op) : Decidable (NoInstall ops) := by unfold NoInstall; exact inferInstance

theorem NoLoad.noInstall {ops : List Op} (h : NoLoad ops) : NoInstall ops :=
  fun o ho => not_install_of_not_load (h o ho)

/-- one transaction: the goat state stays, or the operation is the execution-block message, its payload
    is a direct child of the recorded head naming the recorded beacon root, the new head is that payload
    and the new beacon root is the operation's `headerhash` -/
theorem runTx_goat (d : D) (o : Op) :
    (runTx d o).1.goat = d.goat ∨
    (o.kind = "tx.ethblock" ∧ ∃ p, payloadOf o = some p ∧ p.parentHash = d.goat.head.blockHash ∧
      p.blockNumber = d.goat.head.blockNumber + 1 ∧ p.beaconRoot = d.goat.beaconRoot ∧
      (runTx d o).1.goat = { head := { blockHash := p.blockHash, blockNumber := p.blockNumber, parentHash := p.parentHash },
                             beaconRoot := o.bytes "headerhash" }) := by
  rcases C09.runTx_cases d o with ⟨d', hk, hd, h⟩ | ⟨w, h⟩
  · obtain ⟨p, w, hp, hchk, rfl⟩ := C09.newEthBlock_ok hd
    obtain ⟨_, _, _, h3, h4, _, h6⟩ := C09.head_only_by_child _ _ _ _ _ hchk
    exact Or.inr ⟨hk, p, hp, h3, h4, h6, by rw [h]⟩
  · exact Or.inl (by rw [h])

/-- what one operation can do to (goat state, saved pre-state) -/
def Shape (d d' : D) (k : String) : Prop :=
  (d'.goat = d.goat ∧ d'.snap = d.snap) ∨
  (k = "a.blockstart" ∧ d'.goat = d.goat ∧ d'.snap = some (d.w, d.goat)) ∨
  (k = "tx.ethblock" ∧ GChild d.goat d'.goat ∧ d'.snap = d.snap) ∨
  (k = "a.end" ∧ d'.goat = d.goat ∧ d'.snap = none) ∨
  (k = "a.end" ∧ ∃ w g, d.snap = some (w, g) ∧ d'.w = w ∧ d'.goat = g ∧ d'.snap = none)

theorem Shape.ite {d : D} {k : String} {c : Prop} [Decidable c] {x y : D × String}
    (hx : Shape d x.1 k) (hy : Shape d y.1 k) : Shape d (if c then x else y).1 k := by
  split
  · exact hx
  · exact hy

theorem endBlock_shape (d : D) (time : Int) (ns fs : String) :
    ((endBlock d time ns fs).1.goat = d.goat ∧ (endBlock d time ns fs).1.snap = none) ∨
    (∃ w g, d.snap = some (w, g) ∧ (endBlock d time ns fs).1.w = w ∧ (endBlock d time ns fs).1.goat = g ∧
      (endBlock d time ns fs).1.snap = none) := by
  rcases C09.endBlock_cases d time ns fs with ⟨_, _, w, s, h⟩ | ⟨eng, cls, h⟩
  · rw [h]; exact Or.inl ⟨rfl, rfl⟩
  · rw [h]
    cases hs : d.snap with
    | none => unfold failBlock; rw [hs]; exact Or.inl ⟨rfl, rfl⟩
    | some p => exact Or.inr ⟨p.1, p.2, rfl, C09.failBlock_restores d eng cls p.1 p.2 hs⟩

/-- **Every operation that is not `reset` / `init.goat` has one of five effects** on (goat state, saved
    pre-state): nothing; a block start saving the current state; an execution-block message moving the
    head to a direct child; an end of block dropping the saved state; an end of block restoring it. -/
theorem step_shape (d : D) (o : Op) (hk : isInstall o.kind = false) : Shape d (step d o).1 o.kind := by
  unfold step
  -- one goal per kind `step` matches on, in its order.  `reset` and `init.goat` (first and seventh) are excluded by `hk`;
  -- besides them only `a.blockstart`, `a.end` and the default (transactions, hooks) touch the goat state or the saved one
  split
  · rename_i h; rw [h] at hk; exact absurd hk (by decide)
  · exact Or.inl ⟨rfl, rfl⟩
  · exact Or.inl ⟨rfl, rfl⟩
  · exact Or.inl ⟨rfl, rfl⟩
  · exact Or.inl ⟨rfl, rfl⟩
  · exact Or.inl ⟨rfl, rfl⟩
  · rename_i h; rw [h] at hk; exact absurd hk (by decide)
  · exact Or.inl ⟨rfl, rfl⟩
  · rename_i h; exact Or.inr (Or.inl ⟨h, rfl, rfl⟩)
  · exact Or.inl ⟨rfl, rfl⟩
  · exact Or.inl ⟨rfl, rfl⟩
  · exact Or.inl ⟨rfl, rfl⟩
  · exact Or.inl ⟨rfl, rfl⟩
  · exact Or.inl ⟨rfl, rfl⟩
  · exact Or.inl ⟨rfl, rfl⟩
  · exact Or.inl ⟨rfl, rfl⟩
  · rename_i h
    rcases endBlock_shape d (o.int "time") (o.str "newstatus") (o.str "fcustatus") with h1 | h1
    · exact Or.inr (Or.inr (Or.inr (Or.inl ⟨h, h1⟩)))
    · exact Or.inr (Or.inr (Or.inr (Or.inr ⟨h, h1⟩)))
  · exact Or.inl ⟨rfl, rfl⟩
  · have htx : Shape d (runTx d o).1 o.kind := by
      rcases runTx_goat d o with h1 | ⟨h1, p, _, h3, h4, _, h⟩
      · exact Or.inl ⟨h1, C09.runTx_keeps_snap d o⟩
      · exact Or.inr (Or.inr (Or.inl ⟨h1, by rw [GChild, h]; exact ⟨h3, h4⟩, C09.runTx_keeps_snap d o⟩))
    refine Shape.ite (Shape.ite htx htx) (Shape.ite (Or.inl ?_) (Or.inl ⟨rfl, rfl⟩))
    obtain ⟨w', r⟩ := World.step d.w o
    dsimp only
    split <;> split <;> exact ⟨rfl, rfl⟩

/-- the execution-block message is run as a transaction -/
theorem step_ethblock_eq_runTx (d : D) (o : Op) (hk : o.kind = "tx.ethblock") : (step d o).1 = (runTx d o).1 := by
  unfold step
  simp only [hk, String.reduceEq, imp_self, String.startsWith_string_iff, String.reduceToList,
    List.cons_prefix_cons, List.nil_prefix, and_self, ↓reduceIte]
  split <;> rfl

theorem step_end_eq_endBlock (d : D) (o : Op) (hk : o.kind = "a.end") :
    (step d o).1 = (endBlock d (o.int "time") (o.str "newstatus") (o.str "fcustatus")).1 := by
  unfold step; simp only [hk]

/-- **Only the execution-block message moves the head**: an operation that is neither that message,
    nor a state-loading operation, nor the end of a block leaves the goat module's state (head and
    beacon root) exactly as it was. -/
theorem only_ethblock_ops_move_head (d : D) (o : Op) (h1 : o.kind ≠ "tx.ethblock")
    (h2 : isLoad o.kind = false) (h3 : o.kind ≠ "a.end") : (step d o).1.goat = d.goat := by
  rcases step_shape d o (not_install_of_not_load h2) with h | ⟨_, h, _⟩ | ⟨h, _⟩ | ⟨h, _⟩ | ⟨h, _⟩
  · exact h.1
  · exact h
  · exact absurd h h1
  · exact absurd h h3
  · exact absurd h h3

/-- … and the saved pre-state too, except that a block start saves the current state -/
theorem other_ops_keep_snap (d : D) (o : Op) (h1 : o.kind ≠ "a.blockstart")
    (h2 : isLoad o.kind = false) (h3 : o.kind ≠ "a.end") : (step d o).1.snap = d.snap := by
  rcases step_shape d o (not_install_of_not_load h2) with h | ⟨h, _⟩ | ⟨_, _, h⟩ | ⟨h, _⟩ | ⟨h, _⟩
  · exact h.2
  · exact absurd h h1
  · exact h
  · exact absurd h h3
  · exact absurd h h3

theorem blockstart_op_saves (d : D) (o : Op) (hk : o.kind = "a.blockstart") :
    (step d o).1.goat = d.goat ∧ (step d o).1.snap = some (d.w, d.goat) := by
  unfold step; simp only [hk]; exact ⟨rfl, rfl⟩

/-- **The end of a block keeps the goat state or restores the saved one** (and drops the saved state) -/
theorem end_op_keeps_or_restores (d : D) (o : Op) (hk : o.kind = "a.end") :
    ((step d o).1.goat = d.goat ∨ ∃ w g, d.snap = some (w, g) ∧ (step d o).1.w = w ∧ (step d o).1.goat = g) ∧
    (step d o).1.snap = none := by
  rw [step_end_eq_endBlock d o hk]
  rcases endBlock_shape d (o.int "time") (o.str "newstatus") (o.str "fcustatus") with h | ⟨w, g, h1, h2, h3, h4⟩
  · exact ⟨Or.inl h.1, h.2⟩
  · exact ⟨Or.inr ⟨w, g, h1, h2, h3⟩, h4⟩

/-- a block that ends without being committed (in particular: on an engine error / INVALID,
    `C09.engine_fault_not_committed`) inside a started block restores exactly the saved state -/
theorem end_op_uncommitted_restores (d : D) (o : Op) (hk : o.kind = "a.end") (w0 : World.W) (g0 : GState)
    (hs : d.snap = some (w0, g0))
    (hnc : (endBlock d (o.int "time") (o.str "newstatus") (o.str "fcustatus")).2.1 = false) :
    (step d o).1.w = w0 ∧ (step d o).1.goat = g0 ∧ (step d o).1.snap = none := by
  rw [step_end_eq_endBlock d o hk]
  exact C09.uncommitted_block_restores_prestate d _ _ _ w0 g0 hs hnc

/-- **The execution-block message**: either nothing of the goat state changes, or its payload is a
    direct child of the recorded head naming the recorded beacon root, the new head is that payload and
    the new beacon root is the operation's `headerhash`. -/
theorem ethblock_op_moves_to_child (d : D) (o : Op) (hk : o.kind = "tx.ethblock") :
    (step d o).1.goat = d.goat ∨
    ∃ p, payloadOf o = some p ∧ p.parentHash = d.goat.head.blockHash ∧
      p.blockNumber = d.goat.head.blockNumber + 1 ∧ p.beaconRoot = d.goat.beaconRoot ∧
      (step d o).1.goat = { head := { blockHash := p.blockHash, blockNumber := p.blockNumber, parentHash := p.parentHash },
                            beaconRoot := o.bytes "headerhash" } := by
  rw [step_ethblock_eq_runTx d o hk]
  exact (runTx_goat d o).imp_right And.right

/-- **One step, the beacon root**: an operation that is not a state-loading one leaves the beacon root,
    or it is a successful execution-block message (the root becomes its `headerhash` and the head moves
    to a direct child), or it is the end of a block that is not committed (the saved state is back). -/
theorem beacon_root_step (d : D) (o : Op) (hl : isLoad o.kind = false) :
    (step d o).1.goat = d.goat ∨
    (o.kind = "tx.ethblock" ∧ (step d o).1.goat.beaconRoot = o.bytes "headerhash" ∧
      Child d.goat.head (step d o).1.goat.head) ∨
    (o.kind = "a.end" ∧ ∃ w g, d.snap = some (w, g) ∧ (step d o).1.goat = g) := by
  by_cases h1 : o.kind = "tx.ethblock"
  · rcases ethblock_op_moves_to_child d o h1 with h | ⟨p, _, h3, h4, _, h⟩
    · exact Or.inl h
    · refine Or.inr (Or.inl ⟨h1, ?_, ?_⟩)
      · rw [h]
      · rw [h]; exact ⟨h3, h4⟩
  · by_cases h3 : o.kind = "a.end"
    · rcases (end_op_keeps_or_restores d o h3).1 with h | ⟨w, g, h, _, h'⟩
      · exact Or.inl h
      · exact Or.inr (Or.inr ⟨h3, w, g, h, h'⟩)
    · exact Or.inl (only_ethblock_ops_move_head d o h1 hl h3)

/-! ### histories

  Remarks on the model.  (i) The head moves when the execution-block message is *executed* inside the
  block and persists only if the block's `a.end` commits; `committed` below is the state that
  persists.  (ii) The harness may send the message outside any started block (no saved state): the
  model then applies it directly — still only to a direct child.  (iii) A second `a.blockstart` inside
  a running block overwrites the saved state with the current one; an abort then restores that one —
  still a head that had been recorded before.  The theorems below cover all of these. -/

/-- an arbitrary finite list of operations run through the driver's step function -/
def run : D → List Op → D := List.foldl (fun d o => (step d o).1)

@[simp] theorem run_nil (d : D) : run d [] = d := rfl
@[simp] theorem run_cons (d : D) (o : Op) (ops : List Op) : run d (o :: ops) = run (step d o).1 ops := rfl
theorem run_append (d : D) (ops1 ops2 : List Op) : run d (ops1 ++ ops2) = run (run d ops1) ops2 := by
  unfold run; rw [List.foldl_append]

/-- the goat state that is in force once the current block is over without a commit: the state saved
    at the block start if a block is running, else the current one.  Outside blocks this is the
    current state. -/
def committed (d : D) : GState :=
  match d.snap with
  | some (_, g) => g
  | none => d.goat

/-- the invariant: inside a block the current state is chain-reachable from the saved one -/
def WF (d : D) : Prop := ∀ w g, d.snap = some (w, g) → GChain g d.goat

theorem WF_of_snap_none {d : D} (h : d.snap = none) : WF d := by
  intro w g hs; rw [h] at hs; cases hs

theorem committed_of_snap_none {d : D} (h : d.snap = none) : committed d = d.goat := by
  unfold committed; rw [h]

theorem committed_of_snap_some {d : D} {w : World.W} {g : GState} (h : d.snap = some (w, g)) : committed d = g := by
  unfold committed; rw [h]

theorem committed_chain_goat {d : D} (hw : WF d) : GChain (committed d) d.goat := by
  cases hs : d.snap with
  | none => rw [committed_of_snap_none hs]; exact RTC.refl _
  | some p => obtain ⟨w, g⟩ := p; rw [committed_of_snap_some hs]; exact hw w g hs

/-- each of the five effects keeps the invariant and moves the committed state along a chain -/
theorem shape_preserves {d d' : D} {k : String} (hs : Shape d d' k) (hw : WF d) :
    WF d' ∧ GChain (committed d) (committed d') := by
  rcases hs with ⟨h1, h2⟩ | ⟨_, h1, h2⟩ | ⟨_, h1, h2⟩ | ⟨_, h1, h2⟩ | ⟨_, w, g, h0, _, h1, h2⟩
  · constructor
    · intro w g h; rw [h1]; exact hw w g (h2 ▸ h)
    · have : committed d' = committed d := by unfold committed; rw [h1, h2]
      rw [this]; exact RTC.refl _
  · constructor
    · intro w g h; rw [h2] at h; cases h; rw [h1]; exact RTC.refl _
    · rw [committed_of_snap_some h2]; exact committed_chain_goat hw
  · constructor
    · intro w g h; rw [h2] at h; exact RTC.tail (hw w g h) h1
    · cases hs : d.snap with
      | none =>
        rw [committed_of_snap_none hs, committed_of_snap_none (h2.trans hs)]; exact RTC.single h1
      | some p =>
        obtain ⟨w, g⟩ := p
        rw [committed_of_snap_some hs, committed_of_snap_some (h2.trans hs)]; exact RTC.refl _
  · constructor
    · exact WF_of_snap_none h2
    · rw [committed_of_snap_none h2, h1]; exact committed_chain_goat hw
  · constructor
    · exact WF_of_snap_none h2
    · rw [committed_of_snap_none h2, h1, committed_of_snap_some h0]; exact RTC.refl _

theorem run_preserves (ops : List Op) : ∀ (d : D), NoInstall ops → WF d →
    WF (run d ops) ∧ GChain (committed d) (committed (run d ops)) := by
  induction ops with
  | nil => intro d _ hw; exact ⟨hw, RTC.refl _⟩
  | cons o os ih =>
    intro d hn hw
    obtain ⟨h1, h2⟩ := shape_preserves (step_shape d o (hn o List.mem_cons_self)) hw
    obtain ⟨h3, h4⟩ := ih (step d o).1 (fun x hx => hn x (List.mem_cons_of_mem _ hx)) h1
    exact ⟨h3, RTC.trans h2 h4⟩

/-- **History theorem, general form** (whole goat state; start possibly inside a block; `load.*`
    operations allowed — only `reset` and `init.goat` are excluded).  Between any two points of a
    history the committed state moves along a chain, and at every point the current state is
    chain-reachable from the committed one. -/
theorem history_chain (d0 : D) (ops1 ops2 : List Op) (hw : WF d0) (hn : NoInstall (ops1 ++ ops2)) :
    GChain (committed d0) (committed (run d0 ops1)) ∧
    GChain (committed (run d0 ops1)) (committed (run d0 (ops1 ++ ops2))) ∧
    GChain (committed (run d0 (ops1 ++ ops2))) (run d0 (ops1 ++ ops2)).goat := by
  have hn1 : NoInstall ops1 := fun o ho => hn o (List.mem_append_left _ ho)
  have hn2 : NoInstall ops2 := fun o ho => hn o (List.mem_append_right _ ho)
  obtain ⟨h1, h2⟩ := run_preserves ops1 d0 hn1 hw
  obtain ⟨h3, h4⟩ := run_preserves ops2 (run d0 ops1) hn2 h1
  rw [run_append]
  exact ⟨h2, h4, committed_chain_goat h3⟩

/-- **The recorded head only ever moves along parent → child links, and an aborted block moves it
    back to a head recorded before**: for every list of operations none of which is a state-loading
    one, run from a state outside any block, the head after the run and the head saved for the
    running block (if any) are both chain-reachable from the initial head. -/
theorem head_chain (d0 : D) (h0 : d0.snap = none) (ops : List Op) (hn : NoLoad ops) :
    Chain d0.goat.head (run d0 ops).goat.head ∧
    (∀ w g, (run d0 ops).snap = some (w, g) → Chain d0.goat.head g.head) := by
  obtain ⟨h1, h2⟩ := run_preserves ops d0 hn.noInstall (WF_of_snap_none h0)
  rw [committed_of_snap_none h0] at h2
  refine ⟨GChain.heads (RTC.trans h2 (committed_chain_goat h1)), ?_⟩
  intro w g hs
  rw [committed_of_snap_some hs] at h2
  exact h2.heads

/-- the same with the extra fact that the current head descends from the saved one -/
theorem head_chain_strong (d0 : D) (h0 : d0.snap = none) (ops : List Op) (hn : NoLoad ops) :
    ∀ w g, (run d0 ops).snap = some (w, g) →
      Chain d0.goat.head g.head ∧ Chain g.head (run d0 ops).goat.head := by
  obtain ⟨h1, h2⟩ := run_preserves ops d0 hn.noInstall (WF_of_snap_none h0)
  intro w g hs
  exact ⟨(head_chain d0 h0 ops hn).2 w g hs, (h1 w g hs).heads⟩

/-! ### the committed head never goes back

  The *current* head's number is not monotone along a history: a block that is not committed moves the
  head back to the saved one.  The right statement is about the committed state (`committed`): the
  state saved at the start of the running block, or the current state outside blocks. -/

/-- **Between any two points of a history the committed head moves along a chain**: its number never
    decreases, and if the number is the same the committed head (indeed the whole committed goat
    state) is the same — a committed head is never replaced by a sibling or an ancestor. -/
theorem head_number_monotone_committed (d0 : D) (h0 : d0.snap = none) (ops1 ops2 : List Op)
    (hn : NoLoad (ops1 ++ ops2)) :
    Chain (committed (run d0 ops1)).head (committed (run d0 (ops1 ++ ops2))).head ∧
    (committed (run d0 ops1)).head.blockNumber ≤ (committed (run d0 (ops1 ++ ops2))).head.blockNumber ∧
    ((committed (run d0 ops1)).head.blockNumber = (committed (run d0 (ops1 ++ ops2))).head.blockNumber →
      committed (run d0 (ops1 ++ ops2)) = committed (run d0 ops1)) := by
  obtain ⟨_, h, _⟩ := history_chain d0 ops1 ops2 (WF_of_snap_none h0) hn.noInstall
  refine ⟨h.heads, chain_number_le h.heads, fun e => ?_⟩
  rcases gchain_eq_or_lt h with h | h
  · exact h.symm
  · omega

/-- the current head is never below the committed one, and never below the initial one -/
theorem head_number_ge (d0 : D) (h0 : d0.snap = none) (ops : List Op) (hn : NoLoad ops) :
    d0.goat.head.blockNumber ≤ (committed (run d0 ops)).head.blockNumber ∧
    (committed (run d0 ops)).head.blockNumber ≤ (run d0 ops).goat.head.blockNumber := by
  have h := history_chain d0 ops [] (WF_of_snap_none h0) (by rw [List.append_nil]; exact hn.noInstall)
  rw [List.append_nil, committed_of_snap_none h0] at h
  exact ⟨chain_number_le h.1.heads, chain_number_le h.2.2.heads⟩

/-! ### the beacon root moves only with the head -/

/-- **The beacon root tracks the head**: in a history without state-loading operations, whenever the
    head after the run has the number of the initial head, the whole goat state — head and beacon
    root — is the initial one; and the same between the committed states at any two points. -/
theorem beacon_root_tracks (d0 : D) (h0 : d0.snap = none) (ops : List Op) (hn : NoLoad ops)
    (he : (run d0 ops).goat.head.blockNumber = d0.goat.head.blockNumber) :
    (run d0 ops).goat.head = d0.goat.head ∧ (run d0 ops).goat.beaconRoot = d0.goat.beaconRoot := by
  obtain ⟨h1, h2⟩ := run_preserves ops d0 hn.noInstall (WF_of_snap_none h0)
  rw [committed_of_snap_none h0] at h2
  rcases gchain_eq_or_lt (RTC.trans h2 (committed_chain_goat h1)) with h | h
  · rw [← h]; exact ⟨rfl, rfl⟩
  · omega

theorem beacon_root_tracks_committed (d0 : D) (h0 : d0.snap = none) (ops1 ops2 : List Op)
    (hn : NoLoad (ops1 ++ ops2))
    (he : (committed (run d0 (ops1 ++ ops2))).head = (committed (run d0 ops1)).head) :
    (committed (run d0 (ops1 ++ ops2))).beaconRoot = (committed (run d0 ops1)).beaconRoot := by
  rw [(head_number_monotone_committed d0 h0 ops1 ops2 hn).2.2 (by rw [he])]

/-! ### non-vacuity: a concrete two-block history -/

section Example
open Goat.World

/-- `newEthBlock` with the two parsed inputs whose parsers (`String.toNat?`, `String.splitOn`,
    `String.toInt?`) do not reduce in the kernel taken as parameters -/
def newEthBlockP (d : D) (o : Op) (pl : Option App.Payload) (lr : Locking.Reqs) : Outcome D :=
  let rc := relCrypto d.w.o
  let bc := btcCrypto d.w.o
  let proposer := o.bytes "proposer"
  let comet := o.bytes "comet"
  match pl with
  | none => if proposer ≠ comet then .err "proposer" else .panic "nil-payload"
  | some p =>
  match App.newEthBlockChecks d.goat proposer comet (some p) with
  | .err e => .err e
  | .panic e => .panic e
  | .ok p =>
    match dueTxs d.w with
    | .err e => .err e
    | .panic e => .panic e
    | .ok (btc1, lk1, dueB, dueL) =>
      match App.verifyDequeue p.extraData p.txs dueB dueL with
      | .err _ => .err "dequeue-mismatch"
      | .panic e => .panic e
      | .ok () =>
        if o.str "reqdecode" == "err" then .err "requests-decode"
        else
          let w1 := { d.w with btc := btc1, lock := lk1 }
          match Locking.processRequests rc.hash160 (fun a => w1.accounts.contains a) w1.lock (o.int "height") (o.int "time") lr with
          | .err e => .err e
          | .panic e => .panic e
          | .ok (lk2, accs) =>
            match Bitcoin.processBridgeRequest bc w1.btc (bridgeReqs o) with
            | .err e => .err e
            | .panic e => .panic e
            | .ok btc2 =>
              let adds := (o.list "adds").map (fun x => let f := flds x; ({ voter := fitLeft 20 (bytesOf f[0]!), keyHash := fitLeft 32 (bytesOf f[1]!) } : Relayer.AddReq))
              let removes := (o.list "removes").map (fun x => fitLeft 20 (bytesOf x))
              let rel2 := Relayer.processRequest rc w1.rel (o.nat "height") adds removes
              .ok { d with w := { w1 with lock := lk2, btc := btc2, rel := rel2, accounts := w1.accounts ++ accs },
                           goat := { head := { blockHash := p.blockHash, blockNumber := p.blockNumber, parentHash := p.parentHash },
                                     beaconRoot := o.bytes "headerhash" } }

theorem newEthBlock_eq_P (d : D) (o : Op) : newEthBlock d o = newEthBlockP d o (payloadOf o) (lockReqs o) := by
  unfold newEthBlock newEthBlockP; rfl

/-- the state an outcome carries, `d` if it carries none -/
def okOr (r : Outcome D) (d : D) : D := match r with | .ok d' => d' | _ => d

/-- a step with the execution-block message, through `newEthBlockP` -/
theorem step_eth_twin (d : D) (o : Op) (pl : Option App.Payload) (lr : Locking.Reqs)
    (hk : o.kind = "tx.ethblock") (ha : ante d o = .ok ()) (hg : (o.str "oog" == "1") = false)
    (hp : payloadOf o = pl) (hl : lockReqs o = lr) :
    (step d o).1 = okOr (newEthBlockP d o pl lr) d := by
  rw [step_ethblock_eq_runTx d o hk]
  subst hp hl
  unfold runTx
  rw [ha]
  simp only [hg, hk, BEq.rfl, if_true, Bool.false_eq_true, if_false]
  rw [newEthBlock_eq_P]
  cases newEthBlockP d o (payloadOf o) (lockReqs o) <;> rfl

theorem toNat_1 : "1".toNat? = some 1 := by
  rw [String.toNat?_eq_some_ofDigitChars (String.isNat_of_isDigit (by decide) (by decide))]; decide
theorem toNat_2 : "2".toNat? = some 2 := by
  rw [String.toNat?_eq_some_ofDigitChars (String.isNat_of_isDigit (by decide) (by decide))]; decide

theorem toNat_0 : "0".toNat? = some 0 := by
  rw [String.toNat?_eq_some_ofDigitChars (String.isNat_of_isDigit (by decide) (by decide))]; decide
theorem toInt_0 : "0".toInt? = some 0 := String.toInt?_eq_some_iff.2 (Or.inl ⟨0, toNat_0, rfl⟩)
theorem splitOn_0 : "0".splitOn "," = ["0"] := by
  unfold String.splitOn
  rw [if_neg (by decide), String.splitOnAux, if_neg (by decide +kernel), if_neg (by decide +kernel),
    String.splitOnAux, if_pos (by decide +kernel)]
  decide +kernel

/-- 33 zero bytes: no transaction root, no system transaction -/
def extra0 : String := "000000000000000000000000000000000000000000000000000000000000000000"
def oStart : Op := { kind := "a.blockstart", args := [] }
/-- block 1: child of the initial head (hash [], number 0), consensus block hash c1 -/
def oEth1 : Op := { kind := "tx.ethblock", args := [("number", "1"), ("hash", "aa"), ("extra", extra0), ("gas", "0"), ("headerhash", "c1")] }
def oEndOk : Op := { kind := "a.end", args := [("newstatus", "VALID"), ("fcustatus", "VALID")] }
/-- block 2: child of block 1, naming the recorded beacon root c1 -/
def oEth2 : Op := { kind := "tx.ethblock", args := [("number", "2"), ("parent", "aa"), ("hash", "bb"), ("beacon", "c1"), ("extra", extra0), ("gas", "0"), ("headerhash", "c2")] }
/-- the engine's forkchoice call errors -/
def oEndErr : Op := { kind := "a.end", args := [("newstatus", "VALID"), ("fcustatus", "ERROR")] }
def hist : List Op := [oStart, oEth1, oEndOk, oStart, oEth2, oEndErr]
def d0 : D := {}

theorem hist_noLoad : NoLoad hist := by decide +kernel

def pay (o : Op) (n : Nat) : App.Payload :=
  { parentHash := o.bytes "parent", feeRecipient := o.bytes "feerecip", blockNumber := n,
    blockHash := o.bytes "hash", blobGasUsed := o.nat "blob", beaconRoot := o.bytes "beacon",
    extraData := o.bytes "extra", txs := o.list "txs", timestampInFuture := o.bool "tsfuture" }
def lr0 (o : Op) : Locking.Reqs := { lockReqs o with gas := [0] }

theorem payloadOf_number (o : Op) (s : String) (n : Nat) (hp : (o.str "haspayload" == "0") = false)
    (hg : o.get? "number" = some s) (hs : s.toNat? = some n) : payloadOf o = some (pay o n) := by
  have hn : o.nat "number" = n := by rw [Op.nat, Op.nat?, hg, Option.bind_some, hs]; rfl
  unfold payloadOf
  rw [hp, if_neg Bool.false_ne_true, hn]; rfl

theorem lockReqs_gas0 (o : Op) (h : o.str "gas" = "0") : lockReqs o = lr0 o := by
  have hg : (lockReqs o).gas = [0] := by
    show (listOf (o.str "gas")).map intOf = [0]
    rw [h]; unfold listOf
    rw [if_neg (by decide), splitOn_0]
    show [("0".toInt?).getD 0] = [0]
    rw [toInt_0]; rfl
  show (⟨(lockReqs o).gas, _, _, _, _, _, _, _⟩ : Locking.Reqs) = _
  rw [hg]; rfl

/-- the six states of the history, in kernel-evaluable form -/
def e1 : D := (step d0 oStart).1
def e2 : D := okOr (newEthBlockP e1 oEth1 (some (pay oEth1 1)) (lr0 oEth1)) e1
def e3 : D := (step e2 oEndOk).1
def e4 : D := (step e3 oStart).1
def e5 : D := okOr (newEthBlockP e4 oEth2 (some (pay oEth2 2)) (lr0 oEth2)) e4
def e6 : D := (step e5 oEndErr).1

theorem step_e1 : (step e1 oEth1).1 = e2 := by
  rw [e2]
  exact step_eth_twin e1 oEth1 _ _ rfl (by decide +kernel) (by decide +kernel)
    (payloadOf_number oEth1 "1" 1 (by decide +kernel) (by decide +kernel) toNat_1) (lockReqs_gas0 oEth1 (by decide +kernel))
theorem step_e4 : (step e4 oEth2).1 = e5 := by
  rw [e5]
  exact step_eth_twin e4 oEth2 _ _ rfl (by decide +kernel) (by decide +kernel)
    (payloadOf_number oEth2 "2" 2 (by decide +kernel) (by decide +kernel) toNat_2) (lockReqs_gas0 oEth2 (by decide +kernel))

theorem run_hist_3 (ops : List Op) : run d0 (oStart :: oEth1 :: oEndOk :: ops) = run e3 ops := by
  rw [run_cons, run_cons, run_cons, e3, ← step_e1, e1]
theorem run_hist_5 (ops : List Op) : run d0 (oStart :: oEth1 :: oEndOk :: oStart :: oEth2 :: ops) = run e5 ops := by
  rw [run_hist_3, run_cons, run_cons, ← step_e4, e4]
theorem run_hist : run d0 hist = e6 := by
  rw [hist, run_hist_5, run_cons, run_nil, e6]

def head1 : Head := { blockHash := [0xaa], blockNumber := 1, parentHash := [] }
def head2 : Head := { blockHash := [0xbb], blockNumber := 2, parentHash := [0xaa] }

/-- what the kernel computes about the history, in one evaluation: goat state and saved state after the
    third, fifth and sixth operation, and which of the two ends of block commits -/
theorem hist_eval :
    (e3.goat = { head := head1, beaconRoot := [0xc1] } ∧ e3.snap.isNone = true) ∧
    (e5.goat = { head := head2, beaconRoot := [0xc2] } ∧ e5.snap.isSome = true) ∧
    (e6.goat = { head := head1, beaconRoot := [0xc1] } ∧ e6.snap.isNone = true) ∧
    (endBlock e2 (oEndOk.int "time") (oEndOk.str "newstatus") (oEndOk.str "fcustatus")).2.1 = true ∧
    (endBlock e5 (oEndErr.int "time") (oEndErr.str "newstatus") (oEndErr.str "fcustatus")).2.1 = false := by
  decide +kernel

/-- **The concrete history**: from the empty state (head: hash [], number 0) block 1 — a valid child
    payload — is executed and committed (head = block 1, beacon root c1); block 2 — again a valid child —
    is executed (head = block 2, beacon root c2) but the engine's forkchoice call errors at the end of
    the block, so the block is not committed and head and beacon root are those of block 1 again. -/
theorem example_history :
    d0.goat.head = { blockHash := [], blockNumber := 0, parentHash := [] } ∧
    (run d0 [oStart, oEth1, oEndOk]).goat = { head := head1, beaconRoot := [0xc1] } ∧
    (run d0 [oStart, oEth1, oEndOk, oStart, oEth2]).goat = { head := head2, beaconRoot := [0xc2] } ∧
    (run d0 hist).goat = { head := head1, beaconRoot := [0xc1] } ∧ (run d0 hist).snap.isNone = true := by
  rw [run_hist, run_hist_5, run_hist_3, run_nil, run_nil]; exact ⟨rfl, hist_eval.1.1, hist_eval.2.1.1, hist_eval.2.2.1⟩

example : (run d0 hist).goat.head = head1 := by rw [example_history.2.2.2.1]
example : Child d0.goat.head head1 ∧ Child head1 head2 ∧ ¬ Child head2 head1 := by decide
/-- the first end of block commits, the second does not -/
example : (endBlock e2 (oEndOk.int "time") (oEndOk.str "newstatus") (oEndOk.str "fcustatus")).2.1 = true ∧
    (endBlock e5 (oEndErr.int "time") (oEndErr.str "newstatus") (oEndErr.str "fcustatus")).2.1 = false :=
  hist_eval.2.2.2
/-- the history theorems apply to it (their hypotheses hold) … -/
example : Chain d0.goat.head (run d0 hist).goat.head := (head_chain d0 rfl hist hist_noLoad).1
/-- … and while block 2 is running the saved head is block 1 and the current head its child -/
example : ∀ w g, (run d0 [oStart, oEth1, oEndOk, oStart, oEth2]).snap = some (w, g) →
    Chain d0.goat.head g.head ∧ Chain g.head head2 := by
  intro w g h
  have := head_chain_strong d0 rfl _ (by decide +kernel) w g h
  rw [example_history.2.2.1] at this
  exact this

end Example

end Goat.C09H
