/-
  C14 — one vote record, one piece of evidence: downtime demotes and jails an active validator exactly when
  its absences reach the maximum, and a validator that is not active is not counted (so not demoted again
  while it is out); double-signing tombstones for good.  Histories are in C14H.
-/
import GoatProofs.Lemmas.LockingOps
namespace Goat.C14
open Goat.Locking

/-- **Validators that are not active are not counted for downtime** (and are not slashed again):
    a vote record for a non-active validator changes nothing at all. -/
theorem non_active_not_counted (s : State) (now : Int) (vi : VoteInfo) (v : Validator)
    (hv : vget s vi.address = some v) (hs : v.status ≠ .active) : handleVote s now vi = .ok s := by
  unfold handleVote
  simp [hv, hs]

/-- **Downtime, exactly.** For an active validator a vote record demotes it iff the absences of the
    current window (including this one) reach the configured maximum; then its power is 0, its status
    is `downgrade`, it is jailed until now + jail duration and it is out of the ranking; otherwise only
    its counters move. -/
theorem downtime_exact (s s' : State) (now : Int) (vi : VoteInfo) (v : Validator)
    (hv : vget s vi.address = some v) (hs : v.status = .active) (hok : handleVote s now vi = .ok s') :
    let missed := if vi.absent then v.missed + 1 else v.missed
    ∃ v', vget s' vi.address = some v' ∧
      (if (missed : Int) ≥ s.params.maxMissed then
          v'.status = .downgrade ∧ v'.power = 0 ∧ v'.jailedUntil = now + s.params.downtimeJail ∧
          (v.power, vi.address) ∉ s'.ranking ∧ s'.valset = s.valset
       else v'.status = .active ∧ v'.power = v.power ∧ v'.locking = v.locking ∧ s'.ranking = s.ranking) := by
  dsimp only
  obtain ⟨w, hw, h⟩ := handleVote_ok hok
  rw [hv] at hw
  cases hw
  rcases h with ⟨hna, _⟩ | ⟨_, hd, rfl⟩ | ⟨_, hd, rfl⟩
  · exact absurd hs hna
  · exact ⟨_, vget_vset_same _ _ _, (if_neg hd).mpr ⟨hs, rfl, rfl, vset_ranking _ _ _⟩⟩
  · refine ⟨_, vget_vset_same _ _ _, (if_pos hd).mpr ⟨rfl, rfl, rfl, ?_, ?_⟩⟩
    · rw [vset_ranking, (slashAll_frame _ _ _ _).2.1]
      exact rankRemove_not_mem s v.power vi.address
    · rw [vset_valset, (slashAll_frame _ _ _ _).2.2]
      rfl

/-- **Fresh evidence slashes and tombstones**: unexpired duplicate-vote / light-client-attack
    evidence against a validator that is not yet tombstoned leaves it tombstoned with power 0 and out
    of the ranking. -/
theorem evidence_tombstones (s s' : State) (now height : Int) (maxAge : Option (Int × Int)) (e : Evidence) (v : Validator)
    (hk : e.kind = 1 ∨ e.kind = 2) (hfresh : isStale now height maxAge e = false)
    (hv : vget s e.address = some v) (hs : v.status ≠ .tombstoned)
    (hok : handleEvidence s now height maxAge e = .ok s') :
    ∃ v', vget s' e.address = some v' ∧ v'.status = .tombstoned ∧ v'.power = 0 ∧ (v.power, e.address) ∉ s'.ranking := by
  rcases handleEvidence_ok hok with ⟨h | h | ⟨w, hw, h⟩, _⟩ | ⟨w, hw, _, _, _, rfl⟩
  · exact (hk.elim h.1 h.2).elim
  · rw [hfresh] at h
    cases h
  · rw [hv] at hw
    cases hw
    exact absurd h hs
  · rw [hv] at hw
    cases hw
    refine ⟨_, vget_vset_same _ _ _, rfl, rfl, ?_⟩
    rw [vset_ranking, (slashAll_frame _ _ _ _).2.1]
    exact rankRemove_not_mem s v.power e.address

/-- "older than both age limits" spelled out -/
theorem isStale_iff (now height d b : Int) (e : Evidence) :
    isStale now height (some (d, b)) e = true ↔ (now - e.time > d ∧ height - e.height > b) := by
  unfold isStale; simp

/-- **Stale evidence is ignored**: evidence older than *both* age limits changes nothing. -/
theorem stale_evidence_ignored (s : State) (now height : Int) (maxAge : Option (Int × Int)) (e : Evidence)
    (h : isStale now height maxAge e = true) : handleEvidence s now height maxAge e = .ok s := by
  unfold handleEvidence
  by_cases hk : e.kind ≠ 1 ∧ e.kind ≠ 2
  · rw [if_pos hk]
  · rw [if_neg hk, if_pos h]

/-- evidence against an already tombstoned validator changes nothing (slashed exactly once) -/
theorem tombstoned_not_slashed_again (s : State) (now height : Int) (maxAge : Option (Int × Int)) (e : Evidence) (v : Validator)
    (hv : vget s e.address = some v) (hs : v.status = .tombstoned) : handleEvidence s now height maxAge e = .ok s := by
  unfold handleEvidence
  by_cases hk : e.kind ≠ 1 ∧ e.kind ≠ 2
  · rw [if_pos hk]
  · rw [if_neg hk]
    cases isStale now height maxAge e
    · rw [if_neg Bool.false_ne_true, hv]
      dsimp only
      rw [hs]
      rfl
    · rw [if_pos rfl]

/-- **Tombstoning is absorbing under locks**: whatever is locked to a tombstoned validator later, it
    stays tombstoned, gains no power and does not enter the ranking or the recorded set. -/
theorem tombstone_absorbing_lock (s s' : State) (now : Int) (a : Bytes) (coins : Coins) (v : Validator)
    (hv : vget s a = some v) (hs : v.status = .tombstoned) (hok : lockOne s now a coins = .ok s') :
    ∃ v', vget s' a = some v' ∧ v'.status = .tombstoned ∧ v'.power = v.power ∧ s'.ranking = s.ranking ∧ s'.valset = s.valset := by
  obtain ⟨w, hw, h⟩ := lockOne_ok hok
  rw [hv] at hw
  cases hw
  rw [hs] at h
  rcases h with ⟨h1 | h1, _⟩ | ⟨⟨h1, _⟩, _⟩ | ⟨_, rfl⟩
  · cases h1
  · cases h1
  · cases h1
  · exact ⟨_, vget_vset_same _ _ _, rfl, rfl, vset_ranking _ _ _, vset_valset _ _ _⟩

end Goat.C14
