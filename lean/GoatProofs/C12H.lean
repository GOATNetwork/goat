/-
  C12H — history-level reward accounting.

  "All reward value is accounted for at every block: granted funds plus reported gas fees equal the
   undistributed pools plus validators' unclaimed rewards plus claimed payouts.  Each execution block
   moves min(remaining grant, initial reward halved once per elapsed halving interval) into
   distribution; the next block shares the pools among the previous block's validators in proportion
   to voting power, carrying over only rounding dust.  A claim pays out exactly the accrued amounts
   once and resets them, and no pool or accrued reward is ever negative."

  Formulation.  The model (like the Go code) keeps goat-denominated and gas-denominated value apart,
  so the accounting is two equations (`conservation`), the property's single equation is their sum
  (`conservation_combined`):

      granted  = pool.remain + pool.goat + Σ v.reward    + queued goat + paid goat
      gas fees = pool.gas                + Σ v.gasReward + queued gas  + paid gas

  `granted` (sum of accepted grant requests), `gas fees` (sum of accepted positive gas revenue) and
  `paid` (rewards handed to the execution layer by `dequeue`) are a ghost `Ledger`; "claimed payouts"
  are the `Reward` records queued by `claim` plus the ones already handed over.  Histories are lists of
  the module's entry points (`Op`, the same type as in C11H: `processRequests`, `beginBlock`,
  `endBlocker`, `dequeue`); an operation that fails (error, or panic such as the 256-bit overflow of a
  pool) leaves state and ledger unchanged.  `run_state`: the runs are the runs of C11H.

  Well-formedness.  The only hypothesis of conservation is `VKeys`: validator addresses are distinct
  (the model's validator map is an association list and `vset` rewrites every entry of a key; with a
  duplicated key one claim resets two entries and pays one — `Example`).  `VKeys` is preserved by every
  operation, so it is a hypothesis on the start state only; it follows from C11H's `WF` (`vkeys_of_wf`).

  Non-negativity needs what is true of the inputs of the Go code and is *not* checked by it:
  grants ≥ 0 (`uint256` on the execution layer; `pool.Remain.Add` accepts any sign), voting powers ≥ 0
  (CometBFT), `InitialBlockReward ≥ 0` (`Params.Validate` demands ≥ 1; parameters never change).
  Negative gas revenue is ignored by the code itself.  A zero total power is an error of
  `distributeReward`, so "positive total" needs no hypothesis.  `Example` shows each hypothesis is needed.

  Rounding dust.  "dust < number of validators" is false for pools above 10¹⁸ base units
  (`dust_not_below_count`: 10¹⁹ among 6 equal powers leaves 40): the share fraction is truncated to 18
  decimals before it is multiplied with the pool.  Proved instead: every share is at most the exact
  proportional amount and misses it by less than `1 + P/10¹⁸` (`share_le_proportional`,
  `share_ge_proportional`); the dust of a pool `P` shared among `n` vote infos is `≥ 0` and
  `< n·(1 + P/10¹⁸)` (`dust_bound`, `distributeReward_dust`).

  Proof structure.  Every measure is read from `rview s` (parameters, pools, queue of claimed rewards,
  accrued rewards by address).  Token updates, lock, unlock, votes, evidence, maturing unlocks and
  EndBlocker write ranking / index entries and records whose accrued rewards stay, so they keep `rview`
  (`*_rview`); `create` adds records with zero rewards (`Keep`).  The operations that move value are
  described exactly: `updateRewardPool_exact`, `distributeReward_spec`, `claimOne_exact` / `claim_exact`,
  `dequeue_spec`; `processRequests_spec` and `beginBlock_spec` compose them; `apply_spec`, `history`,
  `conservation`, `nonnegativity`, `conservation_from_genesis` are the statements about histories.
-/
import GoatModel.Locking
import GoatProofs.Lemmas.Locking
import GoatProofs.Lemmas.LockingOps
import GoatProofs.Lemmas.Arith
import GoatProofs.Lemmas.LockingConserve
import GoatProofs.Lemmas.RewardConserve
import GoatProofs.C12
import GoatProofs.C11H
namespace Goat.C12H
open Goat Goat.Locking

/-! ## measures -/

/-- validator addresses are distinct (true of the `Validators` store of the Go code) -/
def VKeys (s : State) : Prop := AKeys (rview s).rewards

/-- validators' unclaimed goat rewards -/
def accruedGoat (s : State) : Int := asum (·.1) (rview s).rewards
/-- validators' unclaimed gas-fee rewards -/
def accruedGas (s : State) : Int := asum (·.2) (rview s).rewards

def rewardsGoat (rs : List Reward) : Int := isum (rs.map (·.goat))
def rewardsGas (rs : List Reward) : Int := isum (rs.map (·.gas))

/-- claimed, not yet handed over to the execution layer -/
def queuedGoat (s : State) : Int := rewardsGoat s.qRewards
def queuedGas (s : State) : Int := rewardsGas s.qRewards

/-- the undistributed pools -/
def pools (s : State) : Int := s.pool.goat + s.pool.gas + s.pool.remain

/-- goat-denominated value inside the module: grant, distribution pool, accrued, claimed-and-queued -/
def goatTotal (s : State) : Int := s.pool.remain + s.pool.goat + accruedGoat s + queuedGoat s
/-- gas-fee value inside the module -/
def gasTotal (s : State) : Int := s.pool.gas + accruedGas s + queuedGas s

theorem goatTotal_split (s : State) : goatTotal s = s.pool.remain + s.pool.goat + (accruedGoat s + queuedGoat s) :=
  Int.add_assoc _ _ _

theorem gasTotal_split (s : State) : gasTotal s = s.pool.gas + (accruedGas s + queuedGas s) := Int.add_assoc _ _ _

theorem accruedGoat_eq (s : State) : accruedGoat s = isum (s.validators.map (fun e => e.2.reward)) := by
  unfold accruedGoat asum rview; simp only [List.map_map]; rfl

theorem accruedGas_eq (s : State) : accruedGas s = isum (s.validators.map (fun e => e.2.gasReward)) := by
  unfold accruedGas asum rview; simp only [List.map_map]; rfl

theorem vkeys_iff (s : State) : VKeys s ↔ (s.validators.map (·.1)).Nodup := by
  unfold VKeys AKeys rview; simp only [List.map_map]; rfl

/-- the well-formedness used for C11H implies distinct validator addresses -/
theorem vkeys_of_wf (s : State) (h : C11H.WF s) : VKeys s := by
  have := h.keys
  rw [KeysNodup, view, List.map_map] at this
  exact (vkeys_iff s).mpr this

theorem vkeys_of_rview {s s' : State} (h : rview s' = rview s) (hk : VKeys s) : VKeys s' := by
  unfold VKeys; rw [h]; exact hk

theorem aget_rewards {s : State} {a : Bytes} {v : Validator} (hv : vget s a = some v) :
    aget (rview s).rewards a = some (v.reward, v.gasReward) := by
  rw [rget_rview, hv]; rfl

/-- accrued rewards are non-negative -/
def ValNonNeg (s : State) : Prop := ∀ e ∈ (rview s).rewards, 0 ≤ e.2.1 ∧ 0 ≤ e.2.2

/-- no pool, accrued reward or queued payout is negative -/
structure RNonNeg (s : State) : Prop where
  goat : 0 ≤ s.pool.goat
  gas : 0 ≤ s.pool.gas
  remain : 0 ≤ s.pool.remain
  vals : ValNonNeg s
  queued : ∀ r ∈ s.qRewards, 0 ≤ r.goat ∧ 0 ≤ r.gas

theorem ValNonNeg.vget {s : State} (h : ValNonNeg s) (a : Bytes) (v : Validator) (hv : vget s a = some v) :
    0 ≤ v.reward ∧ 0 ≤ v.gasReward :=
  h _ (aget_some (aget_rewards hv))

theorem ValNonNeg.accruedGoat {s : State} (h : ValNonNeg s) : 0 ≤ accruedGoat s :=
  asum_nonneg _ _ (fun e he => (h e he).1)

theorem ValNonNeg.accruedGas {s : State} (h : ValNonNeg s) : 0 ≤ accruedGas s :=
  asum_nonneg _ _ (fun e he => (h e he).2)

theorem rewardsGoat_nonneg (rs : List Reward) (h : ∀ r ∈ rs, 0 ≤ r.goat ∧ 0 ≤ r.gas) : 0 ≤ rewardsGoat rs :=
  isum_map_nonneg _ _ (fun r hr => (h r hr).1)

theorem rewardsGas_nonneg (rs : List Reward) (h : ∀ r ∈ rs, 0 ≤ r.goat ∧ 0 ≤ r.gas) : 0 ≤ rewardsGas rs :=
  isum_map_nonneg _ _ (fun r hr => (h r hr).2)

/-! ## frame relation: pools, queue of claimed rewards and every accrued reward unchanged
    (new validators start with zero rewards) -/

structure Keep (s s' : State) : Prop where
  keys : VKeys s'
  params : s'.params = s.params
  pool : s'.pool = s.pool
  qRewards : s'.qRewards = s.qRewards
  rewards : ∃ extra, (rview s').rewards = (rview s).rewards ++ extra ∧ ∀ e ∈ extra, e.2 = ((0 : Int), (0 : Int))

theorem Keep.refl {s : State} (h : VKeys s) : Keep s s := ⟨h, rfl, rfl, rfl, [], (List.append_nil _).symm, fun e he => by cases he⟩

theorem Keep.trans {a b c : State} (h1 : Keep a b) (h2 : Keep b c) : Keep a c := by
  obtain ⟨x1, e1, z1⟩ := h1.rewards
  obtain ⟨x2, e2, z2⟩ := h2.rewards
  refine ⟨h2.keys, h2.params.trans h1.params, h2.pool.trans h1.pool, h2.qRewards.trans h1.qRewards, x1 ++ x2, ?_, ?_⟩
  · rw [e2, e1, List.append_assoc]
  · intro e he
    rcases List.mem_append.mp he with h | h
    · exact z1 e h
    · exact z2 e h

theorem Keep.of_rview {s s' : State} (hk : VKeys s) (h : rview s' = rview s) : Keep s s' :=
  ⟨vkeys_of_rview h hk, congrArg RView.params h, congrArg RView.pool h, congrArg RView.qRewards h, [],
   by rw [h, List.append_nil], fun e he => by cases he⟩

theorem asum_zero_extra (f : Int × Int → Int) (hf : f (0, 0) = 0) (extra : List (Bytes × Int × Int))
    (h : ∀ e ∈ extra, e.2 = ((0 : Int), (0 : Int))) : asum f extra = 0 := by
  induction extra with
  | nil => rfl
  | cons e es ih =>
    rw [asum_cons, h e List.mem_cons_self, hf, ih (fun x hx => h x (List.mem_cons_of_mem _ hx))]; rfl

theorem Keep.asum {s s' : State} (h : Keep s s') (f : Int × Int → Int) (hf : f (0, 0) = 0) :
    asum f (rview s').rewards = asum f (rview s).rewards := by
  obtain ⟨x, e, z⟩ := h.rewards
  rw [e, asum_append, asum_zero_extra f hf x z, Int.add_zero]

theorem Keep.goat {s s' : State} (h : Keep s s') : accruedGoat s' = accruedGoat s := h.asum _ rfl

theorem Keep.gas {s s' : State} (h : Keep s s') : accruedGas s' = accruedGas s := h.asum _ rfl

theorem Keep.queuedGoat {s s' : State} (h : Keep s s') : queuedGoat s' = queuedGoat s := congrArg rewardsGoat h.qRewards

theorem Keep.queuedGas {s s' : State} (h : Keep s s') : queuedGas s' = queuedGas s := congrArg rewardsGas h.qRewards

theorem Keep.goatTotal {s s' : State} (h : Keep s s') : goatTotal s' = goatTotal s := by
  unfold C12H.goatTotal; rw [h.pool, h.goat, h.queuedGoat]

theorem Keep.gasTotal {s s' : State} (h : Keep s s') : gasTotal s' = gasTotal s := by
  unfold C12H.gasTotal; rw [h.pool, h.gas, h.queuedGas]

theorem Keep.valNonNeg {s s' : State} (h : Keep s s') (hn : ValNonNeg s) : ValNonNeg s' := by
  obtain ⟨x, e, z⟩ := h.rewards
  intro y hy
  rw [e] at hy
  rcases List.mem_append.mp hy with h1 | h1
  · exact hn y h1
  · rw [z y h1]; exact ⟨Int.le_refl _, Int.le_refl _⟩

theorem Keep.nonneg {s s' : State} (h : Keep s s') (hn : RNonNeg s) : RNonNeg s' := by
  refine ⟨?_, ?_, ?_, h.valNonNeg hn.vals, ?_⟩
  · rw [h.pool]; exact hn.goat
  · rw [h.pool]; exact hn.gas
  · rw [h.pool]; exact hn.remain
  · rw [h.qRewards]; exact hn.queued

/-- an existing validator keeps its accrued rewards -/
theorem Keep.vget {s s' : State} (h : Keep s s') (a : Bytes) (v : Validator) (hv : vget s a = some v) :
    ∃ v', Locking.vget s' a = some v' ∧ v'.reward = v.reward ∧ v'.gasReward = v.gasReward := by
  obtain ⟨x, e, _⟩ := h.rewards
  obtain ⟨y, hy, hy2⟩ := Option.map_eq_some_iff.mp (aget_rewards hv)
  have hg : aget (rview s').rewards a = some (v.reward, v.gasReward) := by
    rw [e, aget, List.find?_append, hy]
    exact congrArg some hy2
  rw [rget_rview] at hg
  obtain ⟨v', hv', hp⟩ := Option.map_eq_some_iff.mp hg
  exact ⟨v', hv', congrArg Prod.fst hp, congrArg Prod.snd hp⟩

/-! ## writing one validator record -/

/-- crediting `x` / `y` to the record of an existing validator -/
theorem accrued_vset {s : State} {a : Bytes} {v v' : Validator} {x y : Int} (hk : VKeys s) (hv : vget s a = some v)
    (hx : v'.reward = v.reward + x) (hy : v'.gasReward = v.gasReward + y) :
    VKeys (vset s a v') ∧ accruedGoat (vset s a v') = accruedGoat s + x ∧ accruedGas (vset s a v') = accruedGas s + y ∧
    (ValNonNeg s → 0 ≤ v'.reward → 0 ≤ v'.gasReward → ValNonNeg (vset s a v')) := by
  have hg := aget_rewards hv
  have hr : (rview (vset s a v')).rewards = aset (rview s).rewards a (v'.reward, v'.gasReward) := by rw [rview_vset]
  refine ⟨?_, ?_, ?_, ?_⟩
  · unfold VKeys; rw [hr]; exact akeys_aset _ _ _ hk
  · unfold accruedGoat; rw [hr, asum_aset_some _ _ _ _ _ hk hg, hx, ← Int.add_assoc, Int.sub_add_cancel]
  · unfold accruedGas; rw [hr, asum_aset_some _ _ _ _ _ hk hg, hy, ← Int.add_assoc, Int.sub_add_cancel]
  · intro hn h1 h2 e he
    rw [hr] at he
    rcases mem_aset _ _ _ _ he with rfl | h'
    · exact ⟨h1, h2⟩
    · exact hn e h'

/-- a new validator starts with zero rewards -/
theorem vset_new_keep (s : State) (a : Bytes) (v : Validator) (hk : VKeys s) (hv : vget s a = none)
    (h1 : v.reward = 0) (h2 : v.gasReward = 0) : Keep s (vset s a v) := by
  have hg : aget (rview s).rewards a = none := by rw [rget_rview, hv]; rfl
  have hr : (rview (vset s a v)).rewards = (rview s).rewards ++ [(a, (0, 0))] := by
    rw [rview_vset, h1, h2]
    exact aset_none _ _ _ hg
  refine ⟨?_, vset_params _ _ _, vset_pool _ _ _, vset_qRewards _ _ _, [(a, (0, 0))], hr, ?_⟩
  · unfold VKeys
    rw [rview_vset]
    exact akeys_aset _ _ _ hk
  · intro e he
    simp only [List.mem_singleton] at he
    rw [he]

/-! ## operations that change none of the measures -/

theorem rview_of_fields {s s' : State} (h1 : s'.params = s.params) (h2 : s'.pool = s.pool)
    (h3 : s'.qRewards = s.qRewards) (h4 : s'.validators = s.validators) : rview s' = rview s := by
  unfold rview; rw [h1, h2, h3, h4]

theorem foldlM_rview {α : Type} {f : State → α → Outcome State}
    (hf : ∀ b x b', VKeys b → f b x = .ok b' → rview b' = rview b) {l : List α} {s s' : State} (hk : VKeys s)
    (h : l.foldlM f s = .ok s') : rview s' = rview s :=
  foldlM_inv (fun b => rview b = rview s) f (fun b x b' hb hs => (hf b x b' (vkeys_of_rview hb hk) hs).trans hb) l s s' rfl h

theorem onWeightChanged_rview {s s' : State} {token : String} {prev cur : Nat} (hk : VKeys s)
    (h : onWeightChanged s token prev cur = .ok s') : rview s' = rview s := by
  rw [onWeightChanged_eq] at h
  split at h
  · cases h; rfl
  · refine foldlM_rview (fun b e b' hb hs => ?_) hk h
    obtain ⟨v, s₀, p', hv, hw, rfl, _⟩ := weightStep_writes hs
    exact rview_vset_same hb hv hw.rview rfl rfl

/-- token weight / threshold updates change validators' powers only -/
theorem updateTokens_rview {s s' : State} {weights : List (String × Nat)} {thresholds : List (String × Int)} (hk : VKeys s)
    (h : updateTokens s weights thresholds = .ok s') : rview s' = rview s := by
  obtain ⟨s₁, h1, h2⟩ := updateTokens_ok h
  have r1 : rview s₁ = rview s := by
    refine foldlM_rview (fun b u b' hb hs => ?_) hk h1
    obtain ⟨tok, b₁, hw, rfl⟩ := weightSet_ok hs
    exact (rview_tset _ _ _).trans (onWeightChanged_rview hb hw)
  refine (foldlM_rview (fun b u b' _ hs => ?_) (vkeys_of_rview r1 hk) h2).trans r1
  rcases thresholdSet_ok hs with rfl | ⟨tok, th, rfl⟩
  · rfl
  · rfl

/-- creating validators: the new records carry no rewards -/
theorem create_frame {hash160 : Bytes → Bytes} {hasAccount : Bytes → Bool} {s s' : State} {reqs : List CreateReq}
    {accs : List Bytes} (hk : VKeys s) (h : create hash160 hasAccount s reqs = .ok (s', accs)) : Keep s s' := by
  refine foldlM_inv (fun (acc : State × List Bytes) => Keep s acc.1) _ ?_ _ _ _ (Keep.refl hk) h
  intro acc r acc' hacc hstep
  obtain ⟨_, rfl | ⟨hv, st, accs, rfl⟩⟩ := createStep_ok hstep
  · exact hacc
  · exact hacc.trans (vset_new_keep acc.1 _ _ hacc.keys hv rfl rfl)

/-! ## lock / unlock: holdings, power, status change — rewards do not -/

theorem lockOne_rview {s s' : State} {now : Int} {a : Bytes} {coins : Coins} (hk : VKeys s)
    (h : lockOne s now a coins = .ok s') : rview s' = rview s := by
  obtain ⟨v, s₀, v', hv, hw, rfl, _, hf, _⟩ := lockOne_writes h
  exact rview_vset_same hk hv hw.rview hf.reward hf.gasReward

theorem lock_rview {s s' : State} {now : Int} {reqs : List LockReq} (hk : VKeys s) (h : lock s now reqs = .ok s') :
    rview s' = rview s := by
  obtain ⟨_, agg, _, h⟩ := lock_agg h
  exact foldlM_rview (fun b e b' hb hs => lockOne_rview hb hs) hk h

theorem unlockOne_rview {s s' : State} {now : Int} {r : UnlockReq} (hk : VKeys s) (h : unlockOne s now r = .ok s') :
    rview s' = rview s := by
  obtain ⟨s3, ex, amt, hc, rfl⟩ := unlockOne_ok h
  obtain ⟨v, s₀, v', hv, hw, rfl, _, hf, _⟩ := unlockCore_writes hc
  exact (rview_enqueueUnlock _ _ _).trans (rview_vset_same hk hv hw.rview hf.reward hf.gasReward)

theorem unlock_rview {s s' : State} {now : Int} {reqs : List UnlockReq} (hk : VKeys s) (h : unlock s now reqs = .ok s') :
    rview s' = rview s :=
  foldlM_rview (fun _ _ _ hb hs => unlockOne_rview hb hs) hk h

/-! ## slashing touches holdings only: `reward` / `gasReward` are kept -/

theorem slashAll_rview (s : State) (addr : Bytes) (v : Validator) (frac : Nat) :
    rview (slashAll s addr v frac).1 = rview s := by
  rw [slashAll_fst]
  show rview (v.locking.foldl (fun t c => idxRemove t c.1 addr) s) = rview s
  exact (idxWrites_idxRemoves addr v.locking s).rview

theorem handleVote_rview {s s' : State} {now : Int} {vi : VoteInfo} (hk : VKeys s) (h : handleVote s now vi = .ok s') :
    rview s' = rview s := by
  obtain ⟨v, hv, ⟨_, rfl⟩ | ⟨_, _, rfl⟩ | ⟨_, _, rfl⟩⟩ := handleVote_ok h
  · rfl
  · exact rview_vset_same hk hv rfl rfl rfl
  · exact rview_vset_same hk hv (slashAll_rview _ _ _ _) rfl rfl

theorem handleVotes_rview {s s' : State} {now : Int} {votes : List VoteInfo} (hk : VKeys s)
    (h : handleVotes s now votes = .ok s') : rview s' = rview s :=
  foldlM_rview (fun _ _ _ hb hs => handleVote_rview hb hs) hk h

theorem handleEvidence_rview {s s' : State} {now height : Int} {maxAge : Option (Int × Int)} {e : Evidence} (hk : VKeys s)
    (h : handleEvidence s now height maxAge e = .ok s') : rview s' = rview s := by
  rcases handleEvidence_ok h with ⟨_, rfl⟩ | ⟨v, hv, _, _, _, rfl⟩
  · rfl
  · exact rview_vset_same hk hv (slashAll_rview _ _ _ _) rfl rfl

theorem dequeueMature_rview (s : State) (now : Int) : rview (dequeueMature s now) = rview s := by
  rw [dequeueMature_eq]; rfl

theorem endBlocker_rview {s s' : State} {ups : List Update} (hk : VKeys s) (h : endBlocker s = .ok (s', ups)) :
    rview s' = rview s := by
  refine C07.endBlocker_inv (fun t => rview t = rview s) (fun t x ht => ht) ?_ ?_ h rfl
  · intro t a u ht hu _
    exact Eq.trans (rview_vset_same (vkeys_of_rview ht hk) hu rfl rfl rfl) ht
  · intro t a u ht hu _
    exact Eq.trans (rview_vset_same (vkeys_of_rview ht hk) hu rfl rfl rfl) ht

/-! ## the execution block's income and emission (`updateRewardPool`) -/

/-- gas revenue accepted from a request list: positive amounts only -/
def gasAccepted (gas : List Int) : Int := isum (gas.map (fun x => if x > 0 then x else 0))

/-- the amount moved from the grant into the distribution pool: min(remaining grant, scheduled) -/
def emitted (p : Params) (height : Int) (remain : Int) : Int :=
  if scheduledReward p height > remain then remain else scheduledReward p height

/-- validated parameters: `InitialBlockReward ≥ 1` in `Params.Validate`; only `≥ 0` is needed -/
def ParamsOK (s : State) : Prop := 0 ≤ s.params.initialReward

theorem scheduled_nonneg (p : Params) (h : Int) (hp : 0 ≤ p.initialReward) : 0 ≤ scheduledReward p h := by
  unfold scheduledReward
  dsimp only
  split
  · exact Int.ediv_nonneg hp (Int.natCast_nonneg _)
  · exact hp

theorem gasAccepted_nonneg (gas : List Int) : 0 ≤ gasAccepted gas :=
  isum_map_nonneg _ _ (fun x _ => by split <;> omega)

/-- **updateRewardPool, exactly**: a successful call has exactly one gas request `g`; the gas pool grows
    by `g` when positive; the grant grows by the sum of the grant requests and then
    `min(remaining grant, scheduled reward)` moves from the grant into the goat pool.  Validators,
    queue and parameters are untouched. -/
theorem updateRewardPool_exact (s s' : State) (height : Int) (gas grants : List Int)
    (h : updateRewardPool s height gas grants = .ok s') :
    (∃ g, gas = [g]) ∧
    s'.pool.gas = s.pool.gas + gasAccepted gas ∧
    s'.pool.remain = s.pool.remain + isum grants - emitted s.params height (s.pool.remain + isum grants) ∧
    s'.pool.goat = s.pool.goat + emitted s.params height (s.pool.remain + isum grants) ∧
    s'.params = s.params ∧ s'.validators = s.validators ∧ s'.qRewards = s.qRewards := by
  obtain ⟨g, p1, rfl, hp1, _, rfl⟩ := updateRewardPool_ok_iff.mp h
  obtain ⟨h1, h2, h3⟩ := C12.income s.pool p1 g grants hp1
  obtain ⟨e1, e2, e3, _⟩ := C12.emission p1 (scheduledReward s.params height)
  refine ⟨⟨g, rfl⟩, (e3.trans h1).trans ?_, ?_, ?_, rfl, rfl, rfl⟩
  · exact congrArg _ (Int.add_zero _).symm
  · show (emit p1 (scheduledReward s.params height)).remain = _
    rw [e2, h2, isum_eq_sum]; rfl
  · show (emit p1 (scheduledReward s.params height)).goat = _
    rw [e1, h3, h2, isum_eq_sum]; rfl

/-- the accrued totals, their signs and the distinctness of the addresses are read from the validator records -/
theorem accrued_congr {s s' : State} (h : s'.validators = s.validators) :
    (VKeys s → VKeys s') ∧ accruedGoat s' = accruedGoat s ∧ accruedGas s' = accruedGas s ∧
    (ValNonNeg s → ValNonNeg s') := by
  unfold VKeys accruedGoat accruedGas ValNonNeg rview
  rw [h]
  exact ⟨id, rfl, rfl, id⟩

theorem emitted_bounds (p : Params) (height : Int) {R : Int} (hp : 0 ≤ p.initialReward) (hR : 0 ≤ R) :
    0 ≤ emitted p height R ∧ emitted p height R ≤ R := by
  have := scheduled_nonneg p height hp
  unfold emitted
  split <;> omega

/-- no pool goes negative in `updateRewardPool`: the emission is between 0 and the remaining grant -/
theorem updateRewardPool_nonneg {s s' : State} {height : Int} {gas grants : List Int}
    (h : updateRewardPool s height gas grants = .ok s') (hn : RNonNeg s) (hp : ParamsOK s) (hg : ∀ x ∈ grants, 0 ≤ x) :
    RNonNeg s' := by
  obtain ⟨_, h1, h2, h3, _, h5, h6⟩ := updateRewardPool_exact s s' height gas grants h
  have hR : 0 ≤ s.pool.remain + isum grants := Int.add_nonneg hn.remain (isum_nonneg grants hg)
  obtain ⟨e1, e2⟩ := emitted_bounds s.params height hp hR
  refine ⟨?_, ?_, ?_, (accrued_congr h5).2.2.2 hn.vals, h6 ▸ hn.queued⟩
  · rw [h3]; exact Int.add_nonneg hn.goat e1
  · rw [h1]; exact Int.add_nonneg hn.gas (gasAccepted_nonneg gas)
  · rw [h2]; omega

/-! ## distribution of the pools (`distributeReward`) -/

/-- sum of the previous block's voting powers (`totalPower`) -/
def totalPower (votes : List VoteInfo) : Int := votes.foldl (fun acc v => acc + v.power) 0

/-- share of a pool `P` for voting power `p` of `total`: `⌊P · ⌊p·10¹⁸/total⌋ / 10¹⁸⌋`, nothing of an empty pool -/
def share (P : Int) (total : Int) (p : Int) : Int :=
  if P ≠ 0 then ((mulTruncInt P.toNat (decQuoTruncate p.toNat total.toNat) : Nat) : Int) else 0

def gasShare (pool : Pool) (total : Int) (v : VoteInfo) : Int := share pool.gas total v.power
def goatShare (pool : Pool) (total : Int) (v : VoteInfo) : Int := share pool.goat total v.power

/-- a share is the natural-number share of C12 (of an empty pool that share is 0 as well) -/
theorem share_eq_cast (P total p : Int) :
    share P total p = ((mulTruncInt P.toNat (decQuoTruncate p.toNat total.toNat) : Nat) : Int) := by
  unfold share
  split
  · rfl
  · rename_i h
    rw [Classical.not_not.mp h, Int.toNat_zero, mulTruncInt, Nat.zero_mul, Nat.zero_mul, Nat.zero_div, Nat.zero_div]
    rfl

theorem share_nonneg (P total p : Int) : 0 ≤ share P total p :=
  share_eq_cast P total p ▸ Int.natCast_nonneg _

/-- the distribution loop: what it hands out of the pools leaves the running remainders and enters `accrued` -/
theorem distribute_go_spec (total : Int) :
    ∀ (votes : List VoteInfo) (s : State) (rg rr : Int) (res : State × Int × Int), VKeys s →
      distributeReward.go total votes s rg rr = .ok res →
      VKeys res.1 ∧ res.1.params = s.params ∧ res.1.pool = s.pool ∧ res.1.qRewards = s.qRewards ∧
      res.2.1 = rg - isum (votes.map (gasShare s.pool total)) ∧ res.2.2 = rr - isum (votes.map (goatShare s.pool total)) ∧
      accruedGas res.1 = accruedGas s + isum (votes.map (gasShare s.pool total)) ∧
      accruedGoat res.1 = accruedGoat s + isum (votes.map (goatShare s.pool total)) ∧
      (ValNonNeg s → ValNonNeg res.1) := by
  intro votes
  induction votes with
  | nil =>
    intro s rg rr res hk h
    rw [distributeReward_go_nil] at h
    cases h
    exact ⟨hk, rfl, rfl, rfl, (Int.sub_zero _).symm, (Int.sub_zero _).symm, (Int.add_zero _).symm, (Int.add_zero _).symm, id⟩
  | cons x rest ih =>
    intro s rg rr res hk h
    obtain ⟨val, g, r, hv, hg, hr, h'⟩ := distributeReward_go_cons h
    obtain ⟨k1, k2, k3, k4⟩ := accrued_vset (v' := { val with gasReward := val.gasReward + g, reward := val.reward + r }) hk hv rfl rfl
    obtain rfl : g = gasShare s.pool total x := hg
    obtain rfl : r = goatShare s.pool total x := hr
    obtain ⟨i1, i2, i3, i4, i5, i6, i7, i8, i9⟩ := ih (vset s x.address _) _ _ res k1 h'
    refine ⟨i1, i2, i3, i4, i5.trans (Int.sub_sub _ _ _), i6.trans (Int.sub_sub _ _ _), ?_, ?_, fun hn => ?_⟩
    · rw [i7, k3, Int.add_assoc]; rfl
    · rw [i8, k2, Int.add_assoc]; rfl
    · have hval := hn.vget x.address val hv
      exact i9 (k4 hn (Int.add_nonneg hval.1 (share_nonneg s.pool.goat total x.power))
        (Int.add_nonneg hval.2 (share_nonneg s.pool.gas total x.power)))

/-- does this begin-block distribute?  (not at heights below 2, not without a last commit) -/
def distributes (height : Int) (votes : List VoteInfo) : Prop := ¬ height < 2 ∧ votes.isEmpty = false

instance (height : Int) (votes : List VoteInfo) : Decidable (distributes height votes) := by
  unfold distributes; exact inferInstance

/-- total moved out of the gas pool -/
def distGas (s : State) (height : Int) (votes : List VoteInfo) : Int :=
  if distributes height votes then isum (votes.map (gasShare s.pool (totalPower votes))) else 0
/-- total moved out of the goat pool -/
def distGoat (s : State) (height : Int) (votes : List VoteInfo) : Int :=
  if distributes height votes then isum (votes.map (goatShare s.pool (totalPower votes))) else 0

/-- **distributeReward, exactly**: the gas and goat pools decrease by exactly the sum of the shares
    and the accrued totals grow by the same sums; the remainder (rounding dust) stays in the pool; the
    grant, the queue, the parameters are untouched.  Without vote infos (or below height 2) nothing
    moves.  A zero total power is an error. -/
theorem distributeReward_spec (s s' : State) (height : Int) (votes : List VoteInfo) (hk : VKeys s)
    (h : distributeReward s height votes = .ok s') :
    VKeys s' ∧ s'.params = s.params ∧ s'.qRewards = s.qRewards ∧ s'.pool.remain = s.pool.remain ∧
    s'.pool.gas = s.pool.gas - distGas s height votes ∧ s'.pool.goat = s.pool.goat - distGoat s height votes ∧
    accruedGas s' = accruedGas s + distGas s height votes ∧ accruedGoat s' = accruedGoat s + distGoat s height votes ∧
    (ValNonNeg s → ValNonNeg s') ∧ (distributes height votes → totalPower votes ≠ 0) := by
  unfold distGas distGoat
  rcases distributeReward_cases h with ⟨hn, rfl⟩ | ⟨hlt, hemp, htot, s₂, rg, rr, hgo, rfl⟩
  · have hd : ¬ distributes height votes := fun hd => hn.elim hd.1 (fun e => Bool.false_ne_true (hd.2.symm.trans e))
    rw [if_neg hd, if_neg hd]
    exact ⟨hk, rfl, rfl, rfl, (Int.sub_zero _).symm, (Int.sub_zero _).symm, (Int.add_zero _).symm, (Int.add_zero _).symm,
      id, fun h => absurd h hd⟩
  · rw [if_pos ⟨hlt, hemp⟩, if_pos ⟨hlt, hemp⟩]
    obtain ⟨i1, i2, i3, i4, i5, i6, i7, i8, i9⟩ := distribute_go_spec _ votes s _ _ _ hk hgo
    exact ⟨i1, i2, i4, (congrArg Pool.remain i3 : s₂.pool.remain = _), i5, i6, i7, i8, i9, fun _ => htot⟩

/-- non-negative powers with a non-zero total: the total power and the sum of the shares of a pool, as natural numbers -/
theorem shares_nat (P : Int) (votes : List VoteInfo) (hpow : ∀ v ∈ votes, 0 ≤ v.power) (ht : totalPower votes ≠ 0) :
    0 < (votes.map (fun v => v.power.toNat)).sum ∧
    isum (votes.map (fun v => share P (totalPower votes) v.power)) =
      (((votes.map (fun v => v.power.toNat)).map
          (fun p => mulTruncInt P.toNat (decQuoTruncate p (votes.map (fun v => v.power.toNat)).sum))).sum : Nat) := by
  have hT : totalPower votes = isum (votes.map (·.power)) := by
    unfold totalPower; rw [foldl_add_eq, Int.zero_add]
  have hnn : ∀ x ∈ votes.map (·.power), 0 ≤ x := by
    intro x hx
    obtain ⟨v, hv, rfl⟩ := List.mem_map.mp hx
    exact hpow v hv
  have hTn : (totalPower votes).toNat = (votes.map (fun v => v.power.toNat)).sum := by
    rw [hT, toNat_isum _ hnn, List.map_map]; rfl
  have h0 : 0 < totalPower votes := Int.lt_iff_le_and_ne.mpr ⟨hT ▸ isum_nonneg _ hnn, Ne.symm ht⟩
  refine ⟨hTn ▸ Int.pos_iff_toNat_pos.mp h0, ?_⟩
  simp only [share_eq_cast, hTn]
  rw [isum_map_natCast, List.map_map]
  rfl

/-- **the shares never exceed the pool** (non-negative powers, non-zero total): `0 ≤ Σ shares ≤ P` -/
theorem shares_bound (P : Int) (hP : 0 ≤ P) (votes : List VoteInfo) (hpow : ∀ v ∈ votes, 0 ≤ v.power)
    (ht : totalPower votes ≠ 0) :
    0 ≤ isum (votes.map (fun v => share P (totalPower votes) v.power)) ∧
    isum (votes.map (fun v => share P (totalPower votes) v.power)) ≤ P := by
  obtain ⟨hpos, hS⟩ := shares_nat P votes hpow ht
  rw [hS]
  exact ⟨Int.natCast_nonneg _, Int.le_trans (Int.ofNat_le.mpr (C12.shares_sum_le_pool P.toNat _ hpos))
    (Int.le_of_eq (Int.toNat_of_nonneg hP))⟩

/-- **no pool goes negative in a distribution**: with non-negative pools and non-negative voting
    powers, `0 ≤ distributed ≤ pool`. -/
theorem dist_bounds (s : State) (height : Int) (votes : List VoteInfo) (hpow : ∀ v ∈ votes, 0 ≤ v.power)
    (ht : distributes height votes → totalPower votes ≠ 0) (hgas : 0 ≤ s.pool.gas) (hgoat : 0 ≤ s.pool.goat) :
    0 ≤ distGas s height votes ∧ distGas s height votes ≤ s.pool.gas ∧
    0 ≤ distGoat s height votes ∧ distGoat s height votes ≤ s.pool.goat := by
  unfold distGas distGoat
  by_cases hd : distributes height votes
  · rw [if_pos hd, if_pos hd]
    obtain ⟨a1, a2⟩ := shares_bound s.pool.gas hgas votes hpow (ht hd)
    obtain ⟨b1, b2⟩ := shares_bound s.pool.goat hgoat votes hpow (ht hd)
    exact ⟨a1, a2, b1, b2⟩
  · rw [if_neg hd, if_neg hd]
    exact ⟨Int.le_refl _, hgas, Int.le_refl _, hgoat⟩

/-! ## claims -/

/-- one claim request -/
def claimOne : State → ClaimReq → Outcome State := claimStep

/-- a validator record with the accrued amounts reset -/
def zeroed (v : Validator) : Validator := { v with reward := 0, gasReward := 0 }

/-- **one claim, exactly**: for an existing validator a `Reward` record carrying exactly the accrued
    `(reward, gasReward)` is appended to the queue and both accrued amounts are set to 0; every other
    validator, the pools and the parameters are untouched.  A claim for an unknown validator fails. -/
theorem claimOne_exact (s s' : State) (r : ClaimReq) (h : claimOne s r = .ok s') :
    ∃ v, vget s r.validator = some v ∧
      s'.qRewards = s.qRewards ++ [{ id := r.id, recipient := r.recipient, goat := v.reward, gas := v.gasReward }] ∧
      vget s' r.validator = some (zeroed v) ∧ (∀ a, a ≠ r.validator → vget s' a = vget s a) ∧
      s'.pool = s.pool ∧ s'.params = s.params := by
  obtain ⟨v, hv, rfl⟩ := claimStep_ok h
  exact ⟨v, hv, rfl, vget_vset_same _ _ _, fun a ha => vget_vset_other _ _ _ _ (fun x => ha x.symm), rfl, rfl⟩

/-- one claim in terms of the measures: what leaves `accrued` enters `queued` -/
theorem claimOne_spec {s s' : State} {r : ClaimReq} (hk : VKeys s) (h : claimOne s r = .ok s') :
    VKeys s' ∧ s'.params = s.params ∧ s'.pool = s.pool ∧
    accruedGoat s' + queuedGoat s' = accruedGoat s + queuedGoat s ∧
    accruedGas s' + queuedGas s' = accruedGas s + queuedGas s ∧
    (RNonNeg s → RNonNeg s') := by
  obtain ⟨v, hv, rfl⟩ := claimStep_ok h
  obtain ⟨k1, k2, k3, k4⟩ := accrued_vset (v' := zeroed v) hk hv (Int.add_right_neg _).symm (Int.add_right_neg _).symm
  have q1 : rewardsGoat (s.qRewards ++ [⟨r.id, r.recipient, v.reward, v.gasReward⟩]) = queuedGoat s + v.reward :=
    isum_map_concat _ _ _
  have q2 : rewardsGas (s.qRewards ++ [⟨r.id, r.recipient, v.reward, v.gasReward⟩]) = queuedGas s + v.gasReward :=
    isum_map_concat _ _ _
  refine ⟨k1, rfl, rfl, ?_, ?_, fun hn =>
    ⟨hn.goat, hn.gas, hn.remain, k4 hn.vals (Int.le_refl _) (Int.le_refl _), fun q hq' => ?_⟩⟩
  · exact (congr (congrArg _ k2) q1).trans (accrued_to_queue_sum _ _ _)
  · exact (congr (congrArg _ k3) q2).trans (accrued_to_queue_sum _ _ _)
  · rcases List.mem_append.mp hq' with h1 | h1
    · exact hn.queued q h1
    · rw [List.mem_singleton.mp h1]
      exact hn.vals.vget r.validator v hv

/-- **claim (a batch)**: `accrued + queued` is unchanged for goat and for gas; pools and parameters are
    untouched; nothing becomes negative. -/
theorem claim_spec {s s' : State} {reqs : List ClaimReq} (hk : VKeys s) (h : claim s reqs = .ok s') :
    VKeys s' ∧ s'.params = s.params ∧ s'.pool = s.pool ∧
    accruedGoat s' + queuedGoat s' = accruedGoat s + queuedGoat s ∧
    accruedGas s' + queuedGas s' = accruedGas s + queuedGas s ∧
    (RNonNeg s → RNonNeg s') := by
  refine foldlM_inv (fun b => VKeys b ∧ b.params = s.params ∧ b.pool = s.pool ∧
      accruedGoat b + queuedGoat b = accruedGoat s + queuedGoat s ∧
      accruedGas b + queuedGas b = accruedGas s + queuedGas s ∧ (RNonNeg s → RNonNeg b)) claimOne ?_ reqs s s'
      ⟨hk, rfl, rfl, rfl, rfl, id⟩ h
  intro b r b' ⟨b1, b2, b3, b4, b5, b6⟩ hstep
  obtain ⟨c1, c2, c3, c4, c5, c6⟩ := claimOne_spec b1 hstep
  exact ⟨c1, c2.trans b2, c3.trans b3, c4.trans b4, c5.trans b5, fun hn => c6 (b6 hn)⟩

/-- the records a batch of claims queues, computed from the state *before* the batch: the first claim
    of a validator pays its accrued amounts, every further claim of the same validator pays 0
    (`seen`: validators already claimed in this batch) -/
def payouts (s : State) : List Bytes → List ClaimReq → List Reward
  | _, [] => []
  | seen, r :: rs =>
    { id := r.id, recipient := r.recipient,
      goat := if r.validator ∈ seen then 0 else ((vget s r.validator).map (·.reward)).getD 0,
      gas := if r.validator ∈ seen then 0 else ((vget s r.validator).map (·.gasReward)).getD 0 }
      :: payouts s (r.validator :: seen) rs

theorem zeroed_zeroed (v : Validator) : zeroed (zeroed v) = zeroed v := rfl

/-- a batch of claims from a state `b` that is `s` with the records of `seen` reset -/
theorem claim_exact_aux (s : State) : ∀ (reqs : List ClaimReq) (seen : List Bytes) (b s' : State),
    (∀ a ∈ seen, vget b a = (vget s a).map zeroed) → (∀ a, a ∉ seen → vget b a = vget s a) →
    reqs.foldlM claimOne b = .ok s' →
    s'.qRewards = b.qRewards ++ payouts s seen reqs ∧
    (∀ a, a ∈ reqs.map (·.validator) ∨ a ∈ seen → vget s' a = (vget s a).map zeroed) ∧
    (∀ a, a ∉ reqs.map (·.validator) → a ∉ seen → vget s' a = vget s a) ∧
    s'.pool = b.pool := by
  intro reqs
  induction reqs with
  | nil =>
    intro seen b s' hb1 hb2 h
    rw [foldlM_nil_ok _ _ _ h]
    exact ⟨(List.append_nil _).symm, fun a ha => hb1 a (ha.resolve_left List.not_mem_nil), fun a _ => hb2 a, rfl⟩
  | cons r rs ih =>
    intro seen b s' hb1 hb2 h
    obtain ⟨b1, h1, h2⟩ := foldlM_cons_ok _ _ _ _ _ h
    obtain ⟨v, hv, hq, hsame, hother, hpool, _⟩ := claimOne_exact b b1 r h1
    -- `v`, the record the claim finds, is the record from before the batch, reset if already claimed
    have key : (vget s r.validator).map zeroed = some (zeroed v) ∧
        payouts s seen (r :: rs) = ⟨r.id, r.recipient, v.reward, v.gasReward⟩ :: payouts s (r.validator :: seen) rs := by
      rw [payouts]
      rcases Classical.em (r.validator ∈ seen) with hs | hs
      · have hr := (hb1 _ hs).symm.trans hv
        obtain ⟨v0, hx, rfl⟩ := Option.map_eq_some_iff.mp hr
        rw [if_pos hs, if_pos hs, hx]
        exact ⟨rfl, rfl⟩
      · rw [if_neg hs, if_neg hs, ← hb2 _ hs, hv]
        exact ⟨rfl, rfl⟩
    have hs1 : ∀ a ∈ r.validator :: seen, vget b1 a = (vget s a).map zeroed := by
      intro a ha
      rcases Classical.em (a = r.validator) with e | e
      · rw [e, hsame, key.1]
      · rw [hother a e]
        exact hb1 a ((List.mem_cons.mp ha).resolve_left e)
    have hs2 : ∀ a, a ∉ r.validator :: seen → vget b1 a = vget s a := by
      intro a ha
      rw [hother a (fun e => ha (e ▸ List.mem_cons_self))]
      exact hb2 a (fun h => ha (List.mem_cons_of_mem _ h))
    obtain ⟨i1, i2, i3, i4⟩ := ih (r.validator :: seen) b1 s' hs1 hs2 h2
    refine ⟨?_, fun a ha => i2 a ?_, fun a ha hs => i3 a (fun h => ha (List.mem_cons_of_mem _ h)) ?_, i4.trans hpool⟩
    · rw [i1, hq, key.2, List.append_assoc]
      rfl
    · rcases ha with ha | ha
      · exact (List.mem_cons.mp ha).elim (fun e => Or.inr (e ▸ List.mem_cons_self)) Or.inl
      · exact Or.inr (List.mem_cons_of_mem _ ha)
    · exact fun h => (List.mem_cons.mp h).elim (fun e => ha (e ▸ List.mem_cons_self)) hs

/-- **claim, exactly once.**  A successful batch queues, in request order, one record per request:
    the first claim of a validator carries exactly its accrued `(reward, gasReward)` from before the
    batch, every repeated claim of the same validator carries `(0, 0)`; afterwards the accrued
    amounts of every claimed validator are 0 and all other validators are unchanged. -/
theorem claim_exact (s s' : State) (reqs : List ClaimReq) (h : claim s reqs = .ok s') :
    s'.qRewards = s.qRewards ++ payouts s [] reqs ∧
    (∀ a, vget s' a = if a ∈ reqs.map (·.validator) then (vget s a).map zeroed else vget s a) ∧
    s'.pool = s.pool := by
  obtain ⟨k1, k2, k3, k4⟩ := claim_exact_aux s reqs [] s s' (fun a ha => nomatch ha) (fun _ _ => rfl) h
  refine ⟨k1, fun a => ?_, k4⟩
  split
  · rename_i ha
    exact k2 a (Or.inl ha)
  · rename_i ha
    exact k3 a ha List.not_mem_nil

/-- after a batch, every claimed validator has nothing accrued: a later claim (before the next
    distribution) pays `(0, 0)` -/
theorem claim_resets (s s' : State) (reqs : List ClaimReq) (h : claim s reqs = .ok s') (a : Bytes)
    (ha : a ∈ reqs.map (·.validator)) (v : Validator) (hv : vget s' a = some v) : v.reward = 0 ∧ v.gasReward = 0 := by
  have := (claim_exact s s' reqs h).2.1 a
  rw [if_pos ha, hv] at this
  obtain ⟨v0, _, rfl⟩ := Option.map_eq_some_iff.mp this.symm
  exact ⟨rfl, rfl⟩

/-- a single claim right after a batch that already claimed the validator queues `(0, 0)` -/
theorem claim_second_pays_zero (s s1 s2 : State) (reqs : List ClaimReq) (r : ClaimReq)
    (h1 : claim s reqs = .ok s1) (hr : r.validator ∈ reqs.map (·.validator)) (h2 : claim s1 [r] = .ok s2) :
    s2.qRewards = s1.qRewards ++ [{ id := r.id, recipient := r.recipient, goat := 0, gas := 0 }] := by
  obtain ⟨b1, hb1, hb2⟩ := foldlM_cons_ok _ _ _ _ _ h2
  obtain ⟨v, hv, hq, _⟩ := claimOne_exact s1 b1 r hb1
  obtain ⟨z1, z2⟩ := claim_resets s s1 reqs h1 r.validator hr v hv
  rw [foldlM_nil_ok _ _ _ hb2, hq, z1, z2]

/-! ## hand-over to the execution layer -/

/-- **dequeue**: the first ≤ 16 queued rewards are handed over, in order; `queued` decreases by
    exactly their amounts; pools, validators and parameters are untouched. -/
theorem dequeue_spec (s : State) (hk : VKeys s) :
    VKeys (dequeue s).1 ∧ (dequeue s).1.params = s.params ∧ (dequeue s).1.pool = s.pool ∧
    accruedGoat (dequeue s).1 = accruedGoat s ∧ accruedGas (dequeue s).1 = accruedGas s ∧
    (dequeue s).2.1 ++ (dequeue s).1.qRewards = s.qRewards ∧ (dequeue s).2.1.length ≤ 16 ∧
    queuedGoat (dequeue s).1 + rewardsGoat (dequeue s).2.1 = queuedGoat s ∧
    queuedGas (dequeue s).1 + rewardsGas (dequeue s).2.1 = queuedGas s ∧
    (RNonNeg s → RNonNeg (dequeue s).1 ∧ ∀ r ∈ (dequeue s).2.1, 0 ≤ r.goat ∧ 0 ≤ r.gas) := by
  rw [dequeue_eq]
  exact ⟨hk, rfl, rfl, rfl, rfl, List.take_append_drop _ _, List.length_take_le _ _,
    (Int.add_comm _ _).trans (isum_map_take_drop (fun r : Reward => r.goat) 16 s.qRewards).symm,
    (Int.add_comm _ _).trans (isum_map_take_drop (fun r : Reward => r.gas) 16 s.qRewards).symm,
    fun hn => ⟨⟨hn.goat, hn.gas, hn.remain, hn.vals, fun r hr => hn.queued r (List.mem_of_mem_drop hr)⟩,
      fun r hr => hn.queued r (List.mem_of_mem_take hr)⟩⟩

/-! ## the two entry points that move reward value -/

/-- **processRequests** (income + emission, token updates, create, lock, unlock, claim):
    the pools change exactly as `updateRewardPool` prescribes (grants and positive gas revenue come
    in, `min(remaining grant, scheduled)` moves from the grant to the goat pool); claims move value
    from `accrued` to `queued`; nothing else touches reward value.  Hence the goat total grows by
    exactly the grants, the gas total by exactly the accepted gas revenue. -/
theorem processRequests_spec (hash160 : Bytes → Bytes) (hasAccount : Bytes → Bool)
    (s s' : State) (height now : Int) (R : Reqs) (accs : List Bytes) (hk : VKeys s)
    (h : processRequests hash160 hasAccount s height now R = .ok (s', accs)) :
    VKeys s' ∧ s'.params = s.params ∧
    s'.pool.gas = s.pool.gas + gasAccepted R.gas ∧
    s'.pool.remain = s.pool.remain + isum R.grants - emitted s.params height (s.pool.remain + isum R.grants) ∧
    s'.pool.goat = s.pool.goat + emitted s.params height (s.pool.remain + isum R.grants) ∧
    accruedGoat s' + queuedGoat s' = accruedGoat s + queuedGoat s ∧
    accruedGas s' + queuedGas s' = accruedGas s + queuedGas s ∧
    goatTotal s' = goatTotal s + isum R.grants ∧
    gasTotal s' = gasTotal s + gasAccepted R.gas ∧
    (RNonNeg s → ParamsOK s → (∀ x ∈ R.grants, 0 ≤ x) → RNonNeg s') := by
  obtain ⟨s1, s2, s3, s4, s5, h1, h2, h3, h4, h5, h6⟩ := processRequests_ok h
  obtain ⟨_, x1, x2, x3, x4, x5, x6⟩ := updateRewardPool_exact s s1 height R.gas R.grants h1
  obtain ⟨v1, v2, v3, _⟩ := accrued_congr x5
  have e2 := Keep.of_rview (v1 hk) (updateTokens_rview (v1 hk) h2)
  have e3 := create_frame e2.keys h3
  have e4 := Keep.of_rview e3.keys (lock_rview e3.keys h4)
  have e := ((e2.trans e3).trans e4).trans (Keep.of_rview e4.keys (unlock_rview e4.keys h5))
  obtain ⟨c1, c2, c3, c4, c5, c6⟩ := claim_spec e.keys h6
  have hp : s'.pool = s1.pool := c3.trans e.pool
  have hgo : accruedGoat s' + queuedGoat s' = accruedGoat s + queuedGoat s := by
    rw [c4, e.goat, e.queuedGoat, v2, queuedGoat, x6]; rfl
  have hga : accruedGas s' + queuedGas s' = accruedGas s + queuedGas s := by
    rw [c5, e.gas, e.queuedGas, v3, queuedGas, x6]; rfl
  refine ⟨c1, c2.trans (e.params.trans x4), hp ▸ x1, hp ▸ x2, hp ▸ x3, hgo, hga, ?_, ?_, fun hn hpar hg => ?_⟩
  · rw [goatTotal_split, goatTotal_split, hgo, hp, x2, x3, income_emit_sum]
    exact Int.add_right_comm _ _ _
  · rw [gasTotal_split, gasTotal_split, hga, hp, x1]
    exact Int.add_right_comm _ _ _
  · exact c6 (e.nonneg (updateRewardPool_nonneg h1 hn hpar hg))

/-- **beginBlock** (distribution, maturing unlocks, downtime and double-sign slashing): the gas and
    goat pools decrease by exactly the distributed sums and `accrued` grows by the same; the grant and
    the queue of claimed rewards are untouched; slashing touches no reward.  Both totals are unchanged. -/
theorem beginBlock_spec (s s' : State) (height now : Int) (votes : List VoteInfo)
    (maxAge : Option (Int × Int)) (evs : List Evidence) (hk : VKeys s)
    (h : beginBlock s height now votes maxAge evs = .ok s') :
    VKeys s' ∧ s'.params = s.params ∧ s'.qRewards = s.qRewards ∧ s'.pool.remain = s.pool.remain ∧
    s'.pool.gas = s.pool.gas - distGas s height votes ∧ s'.pool.goat = s.pool.goat - distGoat s height votes ∧
    accruedGas s' = accruedGas s + distGas s height votes ∧ accruedGoat s' = accruedGoat s + distGoat s height votes ∧
    goatTotal s' = goatTotal s ∧ gasTotal s' = gasTotal s ∧
    (RNonNeg s → (∀ v ∈ votes, 0 ≤ v.power) → RNonNeg s') := by
  obtain ⟨s1, s3, h1, h3, h4⟩ := beginBlock_ok h
  obtain ⟨d1, d2, d3, d4, d5, d6, d7, d8, d9, d10⟩ := distributeReward_spec s s1 height votes hk h1
  have r2 : rview (dequeueMature s1 now) = rview s1 := dequeueMature_rview s1 now
  have k2 := vkeys_of_rview r2 d1
  have r3 := handleVotes_rview k2 h3
  have r4 := foldlM_rview (fun _ _ _ hb hs => handleEvidence_rview hb hs) (vkeys_of_rview r3 k2) h4
  have e := Keep.of_rview d1 (r4.trans (r3.trans r2))
  have hq : s'.qRewards = s.qRewards := e.qRewards.trans d3
  refine ⟨e.keys, e.params.trans d2, hq, e.pool ▸ d4, e.pool ▸ d5, e.pool ▸ d6, e.gas.trans d7, e.goat.trans d8, ?_, ?_,
    fun hn hpow => ?_⟩
  · rw [e.goatTotal, goatTotal_split, goatTotal_split, d4, d6, d8, queuedGoat, d3, ← Int.add_sub_assoc]
    exact pool_to_accrued_sum _ _ _ _
  · rw [e.gasTotal, gasTotal_split, gasTotal_split, d5, d7, queuedGas, d3]
    exact pool_to_accrued_sum _ _ _ _
  · obtain ⟨b1, b2, b3, b4⟩ := dist_bounds s height votes hpow d10 hn.gas hn.goat
    exact e.nonneg ⟨d6 ▸ Int.sub_nonneg_of_le b4, d5 ▸ Int.sub_nonneg_of_le b2, d4 ▸ hn.remain, d9 hn.vals, d3 ▸ hn.queued⟩

/-! ## histories -/

/-- ghost ledger: grants accepted, gas revenue accepted, rewards handed over to the execution layer -/
structure Ledger where
  granted : Int
  gasIn : Int
  paidGoat : Int
  paidGas : Int
  deriving DecidableEq, Repr

def Ledger.zero : Ledger := ⟨0, 0, 0, 0⟩
def Ledger.add (a b : Ledger) : Ledger :=
  ⟨a.granted + b.granted, a.gasIn + b.gasIn, a.paidGoat + b.paidGoat, a.paidGas + b.paidGas⟩

/-- the entry points of the module (the same histories as in C11H) -/
abbrev Op := C11H.Op

def applyProcess (hash160 : Bytes → Bytes) (hasAccount : Bytes → Bool) (s : State) (height now : Int) (r : Reqs) :
    State × Ledger :=
  match processRequests hash160 hasAccount s height now r with
  | .ok (s', _) => (s', ⟨isum r.grants, gasAccepted r.gas, 0, 0⟩)
  | _ => (s, Ledger.zero)

def applyBeginBlock (s : State) (height now : Int) (votes : List VoteInfo) (maxAge : Option (Int × Int))
    (evs : List Evidence) : State × Ledger :=
  match beginBlock s height now votes maxAge evs with
  | .ok s' => (s', Ledger.zero)
  | _ => (s, Ledger.zero)

def applyEndBlocker (s : State) : State × Ledger :=
  match endBlocker s with
  | .ok (s', _) => (s', Ledger.zero)
  | _ => (s, Ledger.zero)

def applyDequeue (s : State) : State × Ledger :=
  ((dequeue s).1, ⟨0, 0, rewardsGoat (dequeue s).2.1, rewardsGas (dequeue s).2.1⟩)

/-- one entry point: new state and ledger increment; a failing operation (error or panic) leaves the
    state and the ledger unchanged (the transaction / block is not committed) -/
def apply (s : State) : Op → State × Ledger
  | .process hash160 hasAccount height now r => applyProcess hash160 hasAccount s height now r
  | .beginBlock height now votes maxAge evs => applyBeginBlock s height now votes maxAge evs
  | .endBlocker => applyEndBlocker s
  | .dequeue => applyDequeue s

def run : State × Ledger → List Op → State × Ledger
  | sl, [] => sl
  | sl, op :: ops => run ((apply sl.1 op).1, sl.2.add (apply sl.1 op).2) ops

/-- the state component is the one of the C11H histories -/
theorem apply_state (denomOf : Bytes → String) (s : State) (op : Op) : (apply s op).1 = (C11H.apply denomOf s op).1 := by
  cases op with
  | process hash160 hasAccount height now r =>
    show (applyProcess hash160 hasAccount s height now r).1 = (C11H.applyProcess hash160 hasAccount s height now r).1
    unfold applyProcess C11H.applyProcess
    cases processRequests hash160 hasAccount s height now r <;> rfl
  | beginBlock height now votes maxAge evs =>
    show (applyBeginBlock s height now votes maxAge evs).1 = (C11H.applyBeginBlock s height now votes maxAge evs).1
    unfold applyBeginBlock C11H.applyBeginBlock
    cases beginBlock s height now votes maxAge evs <;> rfl
  | endBlocker =>
    show (applyEndBlocker s).1 = (C11H.applyEndBlocker s).1
    unfold applyEndBlocker C11H.applyEndBlocker
    cases endBlocker s <;> rfl
  | dequeue => rfl

/-- inputs are unsigned: grants are `uint256` values of the execution layer, voting powers are
    CometBFT's non-negative `int64` powers (needed for non-negativity only, not for conservation) -/
def OpOK : Op → Prop
  | .process _ _ _ _ r => ∀ x ∈ r.grants, 0 ≤ x
  | .beginBlock _ _ votes _ _ => ∀ v ∈ votes, 0 ≤ v.power
  | _ => True

/-- the property of one step -/
def StepOK (s : State) (op : Op) (r : State × Ledger) : Prop :=
  VKeys r.1 ∧ r.1.params = s.params ∧
  goatTotal r.1 + r.2.paidGoat = goatTotal s + r.2.granted ∧
  gasTotal r.1 + r.2.paidGas = gasTotal s + r.2.gasIn ∧
  0 ≤ r.2.gasIn ∧
  (RNonNeg s → ParamsOK s → OpOK op → RNonNeg r.1 ∧ 0 ≤ r.2.paidGoat ∧ 0 ≤ r.2.paidGas ∧ 0 ≤ r.2.granted)

/-- a step that leaves the ledger alone and keeps both totals -/
theorem stepOK_zero {s s' : State} (op : Op) (hk : VKeys s') (hp : s'.params = s.params) (h1 : goatTotal s' = goatTotal s)
    (h2 : gasTotal s' = gasTotal s) (hn : RNonNeg s → OpOK op → RNonNeg s') : StepOK s op (s', Ledger.zero) :=
  ⟨hk, hp, congrArg (· + 0) h1, congrArg (· + 0) h2, Int.le_refl _,
   fun h _ ho => ⟨hn h ho, Int.le_refl _, Int.le_refl _, Int.le_refl _⟩⟩

theorem stepOK_same (s : State) (op : Op) (hk : VKeys s) : StepOK s op (s, Ledger.zero) :=
  stepOK_zero op hk rfl rfl rfl (fun h _ => h)

/-- **one step of a history** -/
theorem apply_spec (s : State) (op : Op) (hk : VKeys s) : StepOK s op (apply s op) := by
  cases op with
  | process hash160 hasAccount height now r =>
    show StepOK s _ (applyProcess hash160 hasAccount s height now r)
    unfold applyProcess
    split
    · rename_i s' accs heq
      obtain ⟨k1, k2, _, _, _, _, _, k8, k9, k10⟩ := processRequests_spec hash160 hasAccount s s' height now r accs hk heq
      exact ⟨k1, k2, (Int.add_zero _).trans k8, (Int.add_zero _).trans k9, gasAccepted_nonneg _,
        fun hn hp hop => ⟨k10 hn hp hop, Int.le_refl _, Int.le_refl _, isum_nonneg _ hop⟩⟩
    · exact stepOK_same s _ hk
  | beginBlock height now votes maxAge evs =>
    show StepOK s _ (applyBeginBlock s height now votes maxAge evs)
    unfold applyBeginBlock
    split
    · rename_i s' heq
      obtain ⟨k1, k2, _, _, _, _, _, _, k9, k10, k11⟩ := beginBlock_spec s s' height now votes maxAge evs hk heq
      exact stepOK_zero _ k1 k2 k9 k10 k11
    · exact stepOK_same s _ hk
  | endBlocker =>
    show StepOK s _ (applyEndBlocker s)
    unfold applyEndBlocker
    split
    · rename_i s' ups heq
      have k := Keep.of_rview hk (endBlocker_rview hk heq)
      exact stepOK_zero _ k.keys k.params k.goatTotal k.gasTotal (fun hn _ => k.nonneg hn)
    · exact stepOK_same s _ hk
  | dequeue =>
    obtain ⟨k1, k2, k3, k4, k5, _, _, k8, k9, k10⟩ := dequeue_spec s hk
    have t1 : goatTotal (dequeue s).1 + rewardsGoat (dequeue s).2.1 = goatTotal s := by
      rw [goatTotal, k3, k4, Int.add_assoc, k8, goatTotal]
    have t2 : gasTotal (dequeue s).1 + rewardsGas (dequeue s).2.1 = gasTotal s := by
      rw [gasTotal, k3, k5, Int.add_assoc, k9, gasTotal]
    refine ⟨k1, k2, t1.trans (Int.add_zero _).symm, t2.trans (Int.add_zero _).symm, Int.le_refl _, fun hn _ _ => ?_⟩
    obtain ⟨x1, x2⟩ := k10 hn
    exact ⟨x1, rewardsGoat_nonneg _ x2, rewardsGas_nonneg _ x2, Int.le_refl _⟩

theorem run_nil (sl : State × Ledger) : run sl [] = sl := rfl
theorem run_cons (sl : State × Ledger) (op : Op) (ops : List Op) :
    run sl (op :: ops) = run ((apply sl.1 op).1, sl.2.add (apply sl.1 op).2) ops := rfl

/-- **History theorem (relative form).**  For every list of operations from every start state with
    distinct validator addresses and every start ledger: the differences
    `remain + goat + accruedGoat + queuedGoat + paidGoat − granted` and
    `gas + accruedGas + queuedGas + paidGas − gasIn` are preserved, the parameters never change, the
    accepted gas revenue only grows; and if the start state has no negative component, the initial
    reward is non-negative and all grants and voting powers of the history are non-negative, then no
    pool, accrued reward or queued payout of the final state is negative and the ledger only grows. -/
theorem history (ops : List Op) :
    ∀ (s0 : State) (L0 : Ledger), VKeys s0 →
      VKeys (run (s0, L0) ops).1 ∧ (run (s0, L0) ops).1.params = s0.params ∧
      goatTotal (run (s0, L0) ops).1 + (run (s0, L0) ops).2.paidGoat - (run (s0, L0) ops).2.granted
        = goatTotal s0 + L0.paidGoat - L0.granted ∧
      gasTotal (run (s0, L0) ops).1 + (run (s0, L0) ops).2.paidGas - (run (s0, L0) ops).2.gasIn
        = gasTotal s0 + L0.paidGas - L0.gasIn ∧
      L0.gasIn ≤ (run (s0, L0) ops).2.gasIn ∧
      (RNonNeg s0 → ParamsOK s0 → (∀ op ∈ ops, OpOK op) →
        RNonNeg (run (s0, L0) ops).1 ∧ L0.paidGoat ≤ (run (s0, L0) ops).2.paidGoat ∧
        L0.paidGas ≤ (run (s0, L0) ops).2.paidGas ∧ L0.granted ≤ (run (s0, L0) ops).2.granted) := by
  induction ops with
  | nil =>
    intro s0 L0 hk
    exact ⟨hk, rfl, rfl, rfl, Int.le_refl _, fun hn _ _ => ⟨hn, Int.le_refl _, Int.le_refl _, Int.le_refl _⟩⟩
  | cons op ops ih =>
    intro s0 L0 hk
    obtain ⟨a1, a2, a3, a4, a5, a6⟩ := apply_spec s0 op hk
    obtain ⟨b1, b2, b3, b4, b5, b6⟩ := ih (apply s0 op).1 (L0.add (apply s0 op).2) a1
    refine ⟨b1, b2.trans a2, b3.trans (ledger_step _ _ a3), b4.trans (ledger_step _ _ a4),
      Int.le_trans (Int.le_add_of_nonneg_right a5) b5, fun hn hp hops => ?_⟩
    obtain ⟨x1, x2, x3, x4⟩ := a6 hn hp (hops op List.mem_cons_self)
    obtain ⟨y1, y2, y3, y4⟩ := b6 x1 ((congrArg (fun p : Params => 0 ≤ p.initialReward) a2).mpr hp)
      (fun o ho => hops o (List.mem_cons_of_mem _ ho))
    exact ⟨y1, Int.le_trans (Int.le_add_of_nonneg_right x2) y2, Int.le_trans (Int.le_add_of_nonneg_right x3) y3,
      Int.le_trans (Int.le_add_of_nonneg_right x4) y4⟩

/-- **Reward accounting across histories (C12).**  If at the start
    `granted = remain + goat + Σ reward + claimed-queued goat + paid goat` and
    `gas fees = gas + Σ gasReward + claimed-queued gas + paid gas`, then after any interleaving of
    operations (failed ones included) both equations hold again: all reward value is accounted for. -/
theorem conservation (ops : List Op) (s0 : State) (L0 : Ledger) (hk : VKeys s0)
    (hgoat : L0.granted = s0.pool.remain + s0.pool.goat + accruedGoat s0 + queuedGoat s0 + L0.paidGoat)
    (hgas : L0.gasIn = s0.pool.gas + accruedGas s0 + queuedGas s0 + L0.paidGas) :
    let r := run (s0, L0) ops
    r.2.granted = r.1.pool.remain + r.1.pool.goat + accruedGoat r.1 + queuedGoat r.1 + r.2.paidGoat ∧
    r.2.gasIn = r.1.pool.gas + accruedGas r.1 + queuedGas r.1 + r.2.paidGas := by
  obtain ⟨_, _, h3, h4, _, _⟩ := history ops s0 L0 hk
  exact ⟨(Int.add_left_inj _).mp ((add_eq_add_of_sub_eq_sub h3).trans (congrArg _ hgoat)),
    (Int.add_left_inj _).mp ((add_eq_add_of_sub_eq_sub h4).trans (congrArg _ hgas))⟩

/-- the combined form of the property text: granted funds plus reported gas fees equal the
    undistributed pools plus validators' unclaimed rewards plus claimed payouts (queued or paid) -/
theorem conservation_combined (ops : List Op) (s0 : State) (L0 : Ledger) (hk : VKeys s0)
    (hgoat : L0.granted = s0.pool.remain + s0.pool.goat + accruedGoat s0 + queuedGoat s0 + L0.paidGoat)
    (hgas : L0.gasIn = s0.pool.gas + accruedGas s0 + queuedGas s0 + L0.paidGas) :
    let r := run (s0, L0) ops
    r.2.granted + r.2.gasIn = pools r.1 + (accruedGoat r.1 + accruedGas r.1)
      + (queuedGoat r.1 + queuedGas r.1 + r.2.paidGoat + r.2.paidGas) := by
  obtain ⟨h1, h2⟩ := conservation ops s0 L0 hk hgoat hgas
  dsimp only at h1 h2 ⊢
  rw [h1, h2]
  clear h1 h2 hgoat hgas
  unfold pools
  omega

/-- **No pool or accrued reward is ever negative**: from a start state without negative components,
    with a non-negative initial reward, non-negative grants and voting powers. -/
theorem nonnegativity (ops : List Op) (s0 : State) (L0 : Ledger) (hk : VKeys s0) (hn : RNonNeg s0) (hp : ParamsOK s0)
    (hops : ∀ op ∈ ops, OpOK op) :
    let r := run (s0, L0) ops
    0 ≤ r.1.pool.goat ∧ 0 ≤ r.1.pool.gas ∧ 0 ≤ r.1.pool.remain ∧
    (∀ a v, vget r.1 a = some v → 0 ≤ v.reward ∧ 0 ≤ v.gasReward) ∧
    (∀ q ∈ r.1.qRewards, 0 ≤ q.goat ∧ 0 ≤ q.gas) ∧
    0 ≤ accruedGoat r.1 ∧ 0 ≤ accruedGas r.1 ∧ 0 ≤ queuedGoat r.1 ∧ 0 ≤ queuedGas r.1 ∧
    L0.paidGoat ≤ r.2.paidGoat ∧ L0.paidGas ≤ r.2.paidGas ∧ L0.granted ≤ r.2.granted ∧ L0.gasIn ≤ r.2.gasIn := by
  intro r
  obtain ⟨_, _, _, _, h5, h6⟩ := history ops s0 L0 hk
  obtain ⟨x1, x2, x3, x4⟩ := h6 hn hp hops
  exact ⟨x1.goat, x1.gas, x1.remain, fun a v hv => x1.vals.vget a v hv, x1.queued, x1.vals.accruedGoat, x1.vals.accruedGas,
    rewardsGoat_nonneg _ x1.queued, rewardsGas_nonneg _ x1.queued, x2, x3, x4, h5⟩

/-! ## distribution: per validator, proportionality, rounding dust -/

theorem distribute_go_pointwise (total : Int) (a : Bytes) :
    ∀ (votes : List VoteInfo) (s : State) (rg rr : Int) (res : State × Int × Int),
      distributeReward.go total votes s rg rr = .ok res →
      ∀ val, vget s a = some val → ∃ val', vget res.1 a = some val' ∧
        val'.reward = val.reward + isum ((votes.filter (·.address == a)).map (goatShare s.pool total)) ∧
        val'.gasReward = val.gasReward + isum ((votes.filter (·.address == a)).map (gasShare s.pool total)) := by
  intro votes
  induction votes with
  | nil =>
    intro s rg rr res h val hv
    rw [distributeReward_go_nil] at h
    cases h
    exact ⟨val, hv, (Int.add_zero _).symm, (Int.add_zero _).symm⟩
  | cons x rest ih =>
    intro s rg rr res h val hv
    obtain ⟨val0, g, r, hv0, hg, hr, h'⟩ := distributeReward_go_cons h
    rcases Classical.em (x.address = a) with ha | ha
    · -- a vote of `a`: its shares, then those of the remaining votes
      cases (ha ▸ hv0).symm.trans hv
      obtain ⟨val', i1, i2, i3⟩ := ih (vset s x.address _) _ _ res h'
        { val with gasReward := val.gasReward + g, reward := val.reward + r } (ha ▸ vget_vset_same _ _ _)
      rw [List.filter_cons_of_pos (p := fun y : VoteInfo => y.address == a) (beq_iff_eq.mpr ha)]
      exact ⟨val', i1, i2.trans (by rw [hr, Int.add_assoc]; rfl), i3.trans (by rw [hg, Int.add_assoc]; rfl)⟩
    · rw [List.filter_cons_of_neg (p := fun y : VoteInfo => y.address == a) (fun h => ha (eq_of_beq h))]
      exact ih (vset s x.address _) _ _ res h' val ((vget_vset_other _ _ _ _ ha).trans hv)

/-- **distribution, per validator**: when a begin-block distributes, every validator's accrued
    amounts grow by exactly the shares of the vote infos carrying its address (validators without a
    vote info get nothing) -/
theorem distributeReward_validator (s s' : State) (height : Int) (votes : List VoteInfo)
    (h : distributeReward s height votes = .ok s') (hd : distributes height votes)
    (a : Bytes) (val : Validator) (hv : vget s a = some val) :
    ∃ val', vget s' a = some val' ∧
      val'.reward = val.reward + isum ((votes.filter (·.address == a)).map (goatShare s.pool (totalPower votes))) ∧
      val'.gasReward = val.gasReward + isum ((votes.filter (·.address == a)).map (gasShare s.pool (totalPower votes))) := by
  rcases distributeReward_cases h with ⟨hn, _⟩ | ⟨_, _, _, s₂, rg, rr, hgo, rfl⟩
  · exact (hn.elim hd.1 (fun e => Bool.false_ne_true (hd.2.symm.trans e))).elim
  · exact distribute_go_pointwise _ a votes s _ _ _ hgo val hv

/-- one vote info per validator (as in a CometBFT commit): the validator of vote info `v` receives
    exactly `share pool total v.power` of each pool -/
theorem distributeReward_single (s s' : State) (height : Int) (votes : List VoteInfo)
    (h : distributeReward s height votes = .ok s') (hd : distributes height votes)
    (v : VoteInfo) (hone : votes.filter (·.address == v.address) = [v]) (val : Validator) (hv : vget s v.address = some val) :
    ∃ val', vget s' v.address = some val' ∧
      val'.reward = val.reward + share s.pool.goat (totalPower votes) v.power ∧
      val'.gasReward = val.gasReward + share s.pool.gas (totalPower votes) v.power := by
  obtain ⟨val', h1, h2, h3⟩ := distributeReward_validator s s' height votes h hd v.address val hv
  rw [hone] at h2 h3
  exact ⟨val', h1, h2.trans (congrArg _ (Int.add_zero _)), h3.trans (congrArg _ (Int.add_zero _))⟩

/-- **in proportion to voting power**: a share never exceeds the exact proportional amount
    `P·p/total` … -/
theorem share_le_proportional (P total p : Int) (hP : 0 ≤ P) (ht : 0 < total) (hp : 0 ≤ p) :
    share P total p * total ≤ P * p := by
  rw [share_eq_cast]
  have h := Int.ofNat_le.mpr (C12.share_at_most_proportional P.toNat p.toNat total.toNat (Int.pos_iff_toNat_pos.mp ht))
  rwa [Int.natCast_mul, Int.natCast_mul, Int.toNat_of_nonneg hP, Int.toNat_of_nonneg hp,
    Int.toNat_of_nonneg (Int.le_of_lt ht)] at h

/-- … and misses it by less than `1 + P/10¹⁸`: `P·p·10¹⁸ < (share + 1)·10¹⁸·total + P·total` -/
theorem share_ge_proportional (P total p : Int) (hP : 0 < P) (ht : 0 < total) (hp : 0 ≤ p) :
    P * p * (e18 : Int) < (share P total p + 1) * (e18 : Int) * total + P * total := by
  rw [share_eq_cast]
  have h := Int.ofNat_lt.mpr (share_lower P.toNat p.toNat total.toNat (Int.pos_iff_toNat_pos.mp ht))
  simp only [Int.natCast_add, Int.natCast_mul, Int.toNat_of_nonneg (Int.le_of_lt hP), Int.toNat_of_nonneg hp,
    Int.toNat_of_nonneg (Int.le_of_lt ht), Int.natCast_one] at h
  exact h

/-- **rounding dust**: what a distribution among `n` vote infos leaves of a pool `P` is less than
    `n·(1 + P/10¹⁸)`; in particular less than `n` base units per 10¹⁸ … (see the counterexample to
    "dust < n" below) -/
theorem dust_bound (P : Int) (hP : 0 ≤ P) (votes : List VoteInfo) (hpow : ∀ v ∈ votes, 0 ≤ v.power)
    (ht : totalPower votes ≠ 0) :
    (P - isum (votes.map (fun v => share P (totalPower votes) v.power))) * (e18 : Int)
      < (votes.length : Int) * ((e18 : Int) + P) := by
  obtain ⟨hpos, hS⟩ := shares_nat P votes hpow ht
  have key := Int.ofNat_lt.mpr (dust_lt P.toNat (votes.map (fun v => v.power.toNat)) hpos)
  rw [List.length_map] at key
  simp only [Int.natCast_add, Int.natCast_mul, Int.toNat_of_nonneg hP] at key
  rw [hS, Int.sub_mul]
  exact Int.sub_left_lt_of_lt_add key

/-- the dust left in the pools by a successful distribution -/
theorem distributeReward_dust (s s' : State) (height : Int) (votes : List VoteInfo) (hk : VKeys s)
    (h : distributeReward s height votes = .ok s') (hd : distributes height votes)
    (hpow : ∀ v ∈ votes, 0 ≤ v.power) (hgas : 0 ≤ s.pool.gas) (hgoat : 0 ≤ s.pool.goat) :
    0 ≤ s'.pool.gas ∧ s'.pool.gas * (e18 : Int) < (votes.length : Int) * ((e18 : Int) + s.pool.gas) ∧
    0 ≤ s'.pool.goat ∧ s'.pool.goat * (e18 : Int) < (votes.length : Int) * ((e18 : Int) + s.pool.goat) := by
  obtain ⟨_, _, _, _, d5, d6, _, _, _, d10⟩ := distributeReward_spec s s' height votes hk h
  obtain ⟨_, b2, _, b4⟩ := dist_bounds s height votes hpow d10 hgas hgoat
  rw [d5, d6]
  rw [distGas, if_pos hd] at b2 ⊢
  rw [distGoat, if_pos hd] at b4 ⊢
  exact ⟨Int.sub_nonneg_of_le b2, dust_bound s.pool.gas hgas votes hpow (d10 hd), Int.sub_nonneg_of_le b4,
    dust_bound s.pool.goat hgoat votes hpow (d10 hd)⟩

/-- "the dust is less than the number of validators" is **false** for amounts above 10¹⁸ base
    units: a pool of 10¹⁹ shared among 6 equal powers leaves 40 -/
theorem dust_not_below_count :
    ∃ (P : Nat) (ps : List Nat), 0 < ps.sum ∧
      ¬ (P - (ps.map (fun p => mulTruncInt P (decQuoTruncate p ps.sum))).sum < ps.length) := by
  refine ⟨10000000000000000000, [100, 100, 100, 100, 100, 100], ?_⟩
  decide +kernel

/-! ## from an initial state -/

/-- **C12 from an initial state** with pools `(goat, gas, remain) = (0, 0, R)` (`R`: the genesis
    grant), nothing accrued and nothing queued, and an empty ledger: after any history

      granted + R = remain + goat + Σ reward    + queued goat + paid goat
      gas fees    = gas           + Σ gasReward + queued gas  + paid gas

    and — for `R ≥ 0`, a non-negative initial reward, non-negative grants and voting powers — every
    term is non-negative. -/
theorem conservation_from_initial (s0 : State) (R : Int) (hk : VKeys s0) (hpool : s0.pool = ⟨0, 0, R⟩)
    (hq : s0.qRewards = []) (hz : ∀ e ∈ s0.validators, e.2.reward = 0 ∧ e.2.gasReward = 0) (ops : List Op) :
    let r := run (s0, Ledger.zero) ops
    (r.2.granted + R = r.1.pool.remain + r.1.pool.goat + accruedGoat r.1 + queuedGoat r.1 + r.2.paidGoat ∧
     r.2.gasIn = r.1.pool.gas + accruedGas r.1 + queuedGas r.1 + r.2.paidGas) ∧
    (0 ≤ R → ParamsOK s0 → (∀ op ∈ ops, OpOK op) →
      0 ≤ r.1.pool.remain ∧ 0 ≤ r.1.pool.goat ∧ 0 ≤ r.1.pool.gas ∧
      (∀ a v, vget r.1 a = some v → 0 ≤ v.reward ∧ 0 ≤ v.gasReward) ∧
      0 ≤ accruedGoat r.1 ∧ 0 ≤ accruedGas r.1 ∧ 0 ≤ queuedGoat r.1 ∧ 0 ≤ queuedGas r.1 ∧
      0 ≤ r.2.paidGoat ∧ 0 ≤ r.2.paidGas ∧ 0 ≤ r.2.granted ∧ 0 ≤ r.2.gasIn) := by
  dsimp only
  have ha1 : accruedGoat s0 = 0 := by
    rw [accruedGoat_eq]; exact isum_map_eq_zero _ _ (fun e he => (hz e he).1)
  have ha2 : accruedGas s0 = 0 := by
    rw [accruedGas_eq]; exact isum_map_eq_zero _ _ (fun e he => (hz e he).2)
  have hq1 : queuedGoat s0 = 0 := by rw [queuedGoat, hq]; rfl
  have hq2 : queuedGas s0 = 0 := by rw [queuedGas, hq]; rfl
  have hT : goatTotal s0 = R + 0 + 0 + 0 := by rw [goatTotal, ha1, hq1, hpool]
  have hG : gasTotal s0 = 0 := by rw [gasTotal, ha2, hq2, hpool]; rfl
  obtain ⟨_, _, h3, h4, _, _⟩ := history ops s0 Ledger.zero hk
  have e3 : _ + (R + 0 + 0 + 0 + 0) = _ + 0 := hT ▸ add_eq_add_of_sub_eq_sub h3
  have e4 : _ + ((0 : Int) + 0) = _ + 0 := hG ▸ add_eq_add_of_sub_eq_sub h4
  simp only [Int.add_zero] at e3 e4
  refine ⟨⟨e3, e4⟩, fun hR hp hops => ?_⟩
  have hn : RNonNeg s0 := by
    refine ⟨hpool ▸ Int.le_refl _, hpool ▸ Int.le_refl _, hpool ▸ hR, fun e he => ?_, hq ▸ fun r hr => nomatch hr⟩
    obtain ⟨e0, he0, rfl⟩ := List.mem_map.mp he
    obtain ⟨z1, z2⟩ := hz e0 he0
    exact ⟨z1 ▸ Int.le_refl _, z2 ▸ Int.le_refl _⟩
  obtain ⟨n1, n2, n3, n4, _, n6, n7, n8, n9, n10, n11, n12, n13⟩ := nonnegativity ops s0 Ledger.zero hk hn hp hops
  exact ⟨n3, n1, n2, n4, n6, n7, n8, n9, n10, n11, n12, n13⟩

/-- the state before anything happened: no validators, empty queues, the genesis grant `R` -/
def genesis (p : Params) (R : Int) : State := { C11H.genesis p with pool := ⟨0, 0, R⟩ }

/-- **C12 from genesis** -/
theorem conservation_from_genesis (p : Params) (R : Int) (ops : List Op) :
    let r := run (genesis p R, Ledger.zero) ops
    (r.2.granted + R = r.1.pool.remain + r.1.pool.goat + accruedGoat r.1 + queuedGoat r.1 + r.2.paidGoat ∧
     r.2.gasIn = r.1.pool.gas + accruedGas r.1 + queuedGas r.1 + r.2.paidGas) ∧
    (0 ≤ R → 0 ≤ p.initialReward → (∀ op ∈ ops, OpOK op) →
      0 ≤ r.1.pool.remain ∧ 0 ≤ r.1.pool.goat ∧ 0 ≤ r.1.pool.gas ∧
      (∀ a v, vget r.1 a = some v → 0 ≤ v.reward ∧ 0 ≤ v.gasReward) ∧
      0 ≤ accruedGoat r.1 ∧ 0 ≤ accruedGas r.1 ∧ 0 ≤ queuedGoat r.1 ∧ 0 ≤ queuedGas r.1 ∧
      0 ≤ r.2.paidGoat ∧ 0 ≤ r.2.paidGas ∧ 0 ≤ r.2.granted ∧ 0 ≤ r.2.gasIn) :=
  conservation_from_initial (genesis p R) R ((vkeys_iff _).mpr List.nodup_nil) rfl rfl (fun e he => by cases he) ops

/-- the two histories coincide on the state: C11H and C12H speak about the same runs -/
theorem run_state (denomOf : Bytes → String) (ops : List Op) : ∀ (s : State) (L : Ledger) (L' : C11H.Ledger),
    (run (s, L) ops).1 = (C11H.run denomOf (s, L') ops).1 := by
  induction ops with
  | nil => intro s L L'; rfl
  | cons op ops ih =>
    intro s L L'
    show (run ((apply s op).1, _) ops).1 = (C11H.run denomOf ((C11H.apply denomOf s op).1, _) ops).1
    rw [apply_state denomOf s op]
    exact ih _ _ _

/-! ## small corollaries -/

/-- the emission is `min(scheduled reward, remaining grant)`; with `C12.scheduled_eq` the scheduled
    reward is the initial reward floor-halved once per elapsed halving interval -/
theorem emitted_eq_min (p : Params) (height remain : Int) :
    emitted p height remain = min (scheduledReward p height) remain := by
  unfold emitted; split <;> omega

/-- with no vote infos nothing moves -/
theorem distributeReward_no_votes (s : State) (height : Int) : distributeReward s height [] = .ok s := by
  unfold distributeReward
  by_cases h : height < 2
  · rw [if_pos h]
  · rw [if_neg h]
    rfl

/-- a failed operation leaves state and ledger unchanged -/
theorem apply_failed (s : State) :
    (∀ hash160 hasAccount height now r, (∀ x, processRequests hash160 hasAccount s height now r ≠ .ok x) →
      apply s (.process hash160 hasAccount height now r) = (s, Ledger.zero)) ∧
    (∀ height now votes maxAge evs, (∀ x, beginBlock s height now votes maxAge evs ≠ .ok x) →
      apply s (.beginBlock height now votes maxAge evs) = (s, Ledger.zero)) ∧
    ((∀ x, endBlocker s ≠ .ok x) → apply s .endBlocker = (s, Ledger.zero)) := by
  refine ⟨?_, ?_, ?_⟩
  · intro hash160 hasAccount height now r h
    show applyProcess hash160 hasAccount s height now r = _
    unfold applyProcess
    split
    · rename_i s' a heq; exact absurd heq (h _)
    · rfl
  · intro height now votes maxAge evs h
    show applyBeginBlock s height now votes maxAge evs = _
    unfold applyBeginBlock
    split
    · rename_i s' heq; exact absurd heq (h _)
    · rfl
  · intro h
    show applyEndBlocker s = _
    unfold applyEndBlocker
    split
    · rename_i s' a heq; exact absurd heq (h _)
    · rfl

/-! ## non-vacuity: a concrete history -/

namespace Example

def params : Params :=
  { unlockDuration := 10, exitingDuration := 20, downtimeJail := 5, maxValidators := 10, signedBlocksWindow := 100,
    maxMissed := 50, slashDoubleSign := 50000000000000000, slashDowntime := 10000000000000000,
    halvingInterval := 1000, initialReward := 100 }

def votes3 : List VoteInfo := [⟨[1], 1, false⟩, ⟨[2], 1, false⟩, ⟨[3], 1, false⟩]

/-- block 1: gas revenue 10, a grant of 1000, three validators created (emission: 100 into the goat pool);
    begin of block 2: the pools (100 goat, 10 gas) are shared among three equal powers:
      33 / 3 each, rounding dust 1 / 1 stays;
    block 2: emission of another 100; validator `[1]` claims twice in the same batch;
    end block; hand-over of the queued rewards -/
def ops : List Op :=
  [ .process id (fun _ => false) 1 50
      { gas := [10], grants := [1000],
        creates := [{ validator := [1], compressed := [1] }, { validator := [2], compressed := [2] },
                    { validator := [3], compressed := [3] }] },
    .beginBlock 2 60 votes3 none [],
    .process id (fun _ => false) 2 60
      { gas := [0], claims := [{ id := 7, validator := [1], recipient := [9] }, { id := 8, validator := [1], recipient := [9] }] },
    .endBlocker,
    .dequeue ]

def start : State × Ledger := (genesis params 0, Ledger.zero)
def final : State × Ledger := run start ops

/-- after block 1: the grant is 900 after the emission of min(1000, 100) = 100 -/
example : (run start (ops.take 1)).1.pool = ⟨100, 10, 900⟩ ∧ (run start (ops.take 1)).2 = ⟨1000, 10, 0, 0⟩ := by
  decide +kernel

/-- after the distribution: 33 / 3 for each of the three validators, dust 1 / 1 in the pools -/
example : (run start (ops.take 2)).1.pool = ⟨1, 1, 900⟩ ∧
    (run start (ops.take 2)).1.validators.map (fun e => (e.1, e.2.reward, e.2.gasReward))
      = [([1], 33, 3), ([2], 33, 3), ([3], 33, 3)] ∧
    accruedGoat (run start (ops.take 2)).1 = 99 ∧ accruedGas (run start (ops.take 2)).1 = 9 := by
  decide +kernel

/-- after block 2: the first claim queues exactly the accrued (33, 3), the second claim of the same
    validator queues (0, 0); the validator's accrued amounts are reset -/
example : (run start (ops.take 3)).1.qRewards = [⟨7, [9], 33, 3⟩, ⟨8, [9], 0, 0⟩] ∧
    (run start (ops.take 3)).1.pool = ⟨101, 1, 800⟩ ∧
    (run start (ops.take 3)).1.validators.map (fun e => (e.1, e.2.reward, e.2.gasReward))
      = [([1], 0, 0), ([2], 33, 3), ([3], 33, 3)] := by
  decide +kernel

/-- the history runs through and ends with
    granted 1000 = remain 800 + goat 101 + accrued 66 + queued 0 + paid 33,
    gas fees 10 = gas 1 + accrued 6 + queued 0 + paid 3 -/
example : final.2 = ⟨1000, 10, 33, 3⟩ ∧ final.1.pool = ⟨101, 1, 800⟩ ∧ accruedGoat final.1 = 66 ∧
    accruedGas final.1 = 6 ∧ queuedGoat final.1 = 0 ∧ queuedGas final.1 = 0 ∧ final.1.qRewards = [] := by
  decide +kernel

theorem ops_ok : ∀ op ∈ ops, OpOK op := by
  intro op hop
  simp only [ops, List.mem_cons, List.mem_nil_iff, or_false] at hop
  rcases hop with rfl | rfl | rfl | rfl | rfl
  · intro x hx
    simp only [List.mem_singleton] at hx
    subst hx; decide
  · intro v hv
    simp only [votes3, List.mem_cons, List.mem_nil_iff, or_false] at hv
    rcases hv with rfl | rfl | rfl <;> decide
  · intro x hx; cases hx
  · trivial
  · trivial

/-- the hypotheses of the history theorems hold for this history: the theorems apply to it -/
example : final.2.granted + 0 = final.1.pool.remain + final.1.pool.goat + accruedGoat final.1 + queuedGoat final.1
    + final.2.paidGoat ∧ final.2.gasIn = final.1.pool.gas + accruedGas final.1 + queuedGas final.1 + final.2.paidGas :=
  (conservation_from_genesis params 0 ops).1

example : 0 ≤ final.1.pool.goat ∧ 0 ≤ accruedGoat final.1 :=
  let h := (conservation_from_genesis params 0 ops).2 (by decide) (by decide) ops_ok
  ⟨h.2.1, h.2.2.2.2.1⟩

/-- the schedule: the initial reward halved once per elapsed halving interval -/
example : scheduledReward params 999 = 100 ∧ scheduledReward params 1000 = 50 ∧ scheduledReward params 2500 = 25 ∧
    scheduledReward params 7000 = 0 := by decide +kernel

/-- the emission is capped by the remaining grant: a grant of 30 is emitted completely -/
example :
    (match updateRewardPool (genesis params 0) 1 [0] [30] with
      | .ok s' => (s'.pool.goat, s'.pool.gas, s'.pool.remain)
      | _ => (-1, -1, -1)) = (30, 0, 0) := by decide +kernel

/-- a claim in a later block (no distribution in between) pays (0, 0) again; a claim for an unknown
    validator fails and, as a failed operation, changes nothing -/
example :
    (match claim final.1 [{ id := 9, validator := [1], recipient := [9] }] with
      | .ok s' => s'.qRewards
      | _ => []) = [⟨9, [9], 0, 0⟩] ∧
    (claim final.1 [{ id := 9, validator := [4], recipient := [9] }]).cls = "err:not-found" ∧
    (apply final.1 (.process id (fun _ => false) 3 70 { gas := [5], claims := [{ id := 9, validator := [4], recipient := [9] }] })).2
      = Ledger.zero ∧
    (apply final.1 (.process id (fun _ => false) 3 70 { gas := [5], claims := [{ id := 9, validator := [4], recipient := [9] }] })).1.pool
      = final.1.pool := by decide +kernel

/-- negative gas revenue is ignored (`Sign() > 0`), exactly one gas request is required -/
example :
    (match updateRewardPool final.1 3 [-5] [] with
      | .ok s' => s'.pool.gas
      | _ => -1) = 1 ∧
    (updateRewardPool final.1 3 [] []).cls = "err:gas-length" ∧
    (updateRewardPool final.1 3 [1, 2] []).cls = "err:gas-length" := by decide +kernel

/-- `OpOK` (grants) is needed for non-negativity: the model — like `pool.Remain.Add` in the Go code —
    accepts a negative grant amount (grants are `uint256` on the execution layer, so this cannot
    be reached); conservation still holds -/
example :
    let r := run start [.process id (fun _ => false) 1 50 { gas := [0], grants := [-5] }]
    r.1.pool = ⟨-5, 0, 0⟩ ∧ r.2.granted = -5 := by decide +kernel

/-- `OpOK` (voting powers) is needed for non-negativity: a negative power with a positive total lets
    the shares exceed the pool (CometBFT powers are non-negative) -/
example :
    let r := run start [ops[0], .beginBlock 2 60 [⟨[1], 3, false⟩, ⟨[2], -1, false⟩] none []]
    r.1.pool = ⟨-50, -5, 900⟩ ∧ accruedGoat r.1 = 150 ∧ accruedGas r.1 = 15 := by decide +kernel

/-- `ParamsOK` is needed for non-negativity (`Params.Validate` demands `InitialBlockReward ≥ 1`): a
    negative initial reward drains the goat pool into the grant -/
example :
    let r := run (genesis { params with initialReward := -7 } 0, Ledger.zero)
      [.process id (fun _ => false) 1 50 { gas := [0], grants := [10] }]
    r.1.pool = ⟨-7, 0, 17⟩ := by decide +kernel

/-- `VKeys` is needed (model artefact: association lists): with a duplicated validator key one claim
    resets both entries but pays one -/
example :
    let v : Validator := { pubkey := [1], power := 0, locking := [], reward := 5, gasReward := 0, status := .inactive,
                           offset := 0, missed := 0, jailedUntil := 0 }
    let s : State := { genesis params 0 with validators := [([1], v), ([1], v)] }
    accruedGoat s = 10 ∧
    (match claim s [{ id := 1, validator := [1], recipient := [9] }] with
      | .ok s' => (accruedGoat s', queuedGoat s')
      | _ => (-1, -1)) = (0, 5) := by decide +kernel

end Example

end Goat.C12H
