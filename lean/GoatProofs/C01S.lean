/-
  C01S — the signed document of a voted relayer proposal BINDS action and payload.

  `Goat.C01.C01_accept_sound` shows that an accepted proposal carries an aggregate signature that
  verifies over `voteSignDoc c method chainId proposer seq epoch sigDoc`.  This file shows that this
  document determines (method, proposer, seq, epoch, payload) and that each of the five payload
  encoders of x/bitcoin (`VoteSigDoc()`) determines the message fields it is built from.

  The hash is a parameter of the model.  Two idealisations appear below and are kept apart:

    * `∀ x, (c.sha256 x).length = 32`      (true of SHA-256; satisfiable)
    * `Function.Injective c.sha256`        (the usual idealisation of collision resistance)

  TOGETHER THEY ARE CONTRADICTORY (`ideal_hash_hyps_inconsistent`: pigeonhole, 256^33 inputs of
  33 bytes, 256^32 digests).  A theorem that assumes both is vacuous.  Therefore every binding
  theorem is stated first in the form

        equal documents  →  (the fields are equal)  ∨  Collision c.sha256

  (`…_or_collision`; `Collision f` exhibits two different inputs with the same hash), which is true
  of every hash function, needs only the satisfiable length hypothesis (and only where a digest is
  followed by more payload bytes), and is the faithful reading of "binding under collision
  resistance".  The versions under `Function.Injective c.sha256` are corollaries; those that need
  no length hypothesis are non-vacuous (e.g. `sha256 := id`); the single one that needs both
  (`processWithdrawal_doc_binds`) is vacuous and says so; `processWithdrawal_doc_binds'` replaces it.
-/
import GoatModel.Relayer
import GoatModel.Bitcoin
import GoatProofs.C01
import GoatProofs.Lemmas.BitcoinOps
import GoatProofs.Lemmas.Bytes
namespace Goat.C01S
open Goat Goat.Relayer

/-! ## bytes of strings -/

theorem strBytes_eq (s : String) : strBytes s = s.toUTF8.data.toList := byteArray_toList _

/-- the bytes of a string given by its characters are the concatenated UTF-8 encodings -/
theorem strBytes_ofList (cs : List Char) :
    strBytes (String.ofList cs) = cs.flatMap String.utf8EncodeChar := by
  simp [strBytes_eq, List.utf8Encode]

/-- a string is determined by its UTF-8 bytes -/
theorem strBytes_injective {p p' : String} (h : strBytes p = strBytes p') : p = p' := by
  rw [strBytes_eq, strBytes_eq] at h
  exact String.toByteArray_inj.mp (ByteArray.ext (Array.toList_inj.mp h))

/-! ## fixed-width little-endian integers -/

theorem two64_eq : two64 = 2 ^ 64 := by decide

theorem leToNat_le64 {n : Nat} (h : n < two64) : leToNat (le64 n) = n :=
  leToNat_leBytes_of_lt (k := 8) h

/-- `le64` is injective on unsigned 64-bit values -/
theorem le64_injective {a b : Nat} (ha : a < two64) (hb : b < two64) (h : le64 a = le64 b) : a = b := by
  rw [← leToNat_le64 ha, h, leToNat_le64 hb]

/-- the bound is needed: the model's `le64` works on `Nat` (Go: `uint64`) and wraps -/
theorem le64_not_injective_unbounded : le64 0 = le64 two64 ∧ (0 : Nat) ≠ two64 := by decide

/-- split `le64 a ++ x = le64 b ++ y` -/
theorem le64_append_inj {a b : Nat} (ha : a < two64) (hb : b < two64) {x y : Bytes}
    (h : le64 a ++ x = le64 b ++ y) : a = b ∧ x = y := by
  obtain ⟨h1, h2⟩ := List.append_inj h ((le64_length a).trans (le64_length b).symm)
  exact ⟨le64_injective ha hb h1, h2⟩

theorem map_le64_injective {ids ids' : List Nat} (h1 : ∀ i ∈ ids, i < two64) (h2 : ∀ i ∈ ids', i < two64)
    (h : ids.map le64 = ids'.map le64) : ids = ids' := by
  have key : ∀ {l : List Nat}, (∀ i ∈ l, i < two64) → (l.map le64).map leToNat = l := fun hl =>
    List.map_map.trans ((List.map_congr_left fun i hi => leToNat_le64 (hl i hi)).trans (List.map_id _))
  rw [← key h1, h, key h2]

/-- a concatenation of chunks of one fixed positive length determines the chunks -/
theorem flatten_injective_of_length {n : Nat} (hn : 0 < n) {l l' : List Bytes}
    (h1 : ∀ h ∈ l, h.length = n) (h2 : ∀ h ∈ l', h.length = n) (h : l.flatten = l'.flatten) : l = l' := by
  induction l generalizing l' with
  | nil =>
    cases l' with
    | nil => rfl
    | cons b t' =>
      have hb := h2 b List.mem_cons_self
      rw [(List.append_eq_nil_iff.mp h.symm).1] at hb
      exact absurd hb.symm (Nat.ne_of_gt hn)
  | cons a t ih =>
    cases l' with
    | nil =>
      have ha := h1 a List.mem_cons_self
      rw [(List.append_eq_nil_iff.mp h).1] at ha
      exact absurd ha.symm (Nat.ne_of_gt hn)
    | cons b t' =>
      obtain ⟨e1, e2⟩ := List.append_inj h ((h1 a List.mem_cons_self).trans (h2 b List.mem_cons_self).symm)
      rw [e1, ih (fun i hi => h1 i (List.mem_cons_of_mem _ hi)) (fun i hi => h2 i (List.mem_cons_of_mem _ hi)) e2]

/-- the length condition is needed (the handler checks it: `hashes.any (·.length ≠ 32)`) -/
theorem flatten_not_injective_unvalidated :
    ([[1], [2]] : List Bytes).flatten = [[1, 2]].flatten ∧ ([[1], [2]] : List Bytes) ≠ [[1, 2]] := by decide

/-! ## the method names -/

/-- the five voted bridge actions (`method` in the sign doc) -/
def methods : List String :=
  ["Bitcoin/NewBlocks", "Bitcoin/NewPubkey", "Bitcoin/ProcessWithdrawal",
   "Bitcoin/ReplaceWithdrawal", "Bitcoin/NewConsolidation"]

/-- every method string whose sign doc is built with `voteSignDoc` in the model: the five bridge
    actions and the relayer's own `"Relayer/NewVoter"` (a proof-of-possession by ONE voter key over
    the same document format) -/
def allMethods : List String := "Relayer/NewVoter" :: methods

/-- no name's UTF-8 bytes are a prefix of another name's -/
def PrefixFree (ms : List String) : Prop :=
  ∀ m ∈ ms, ∀ m' ∈ ms, strBytes m <+: strBytes m' → m = m'

theorem allMethods_prefix_free : PrefixFree allMethods := by
  unfold PrefixFree
  simp only [strBytes_eq]
  decide

theorem PrefixFree.sub {ms ms' : List String} (h : PrefixFree ms) (hs : ∀ m ∈ ms', m ∈ ms) : PrefixFree ms' :=
  fun m hm m' hm' hp => h m (hs m hm) m' (hs m' hm') hp

/-- no bridge method name is a prefix of another one -/
theorem methods_prefix_free : PrefixFree methods :=
  allMethods_prefix_free.sub (fun _ hm => List.mem_cons_of_mem _ hm)

/-! ## the hashed pre-image determines its parts -/

/-- what `voteSignDoc` hashes -/
def preimage (chain method proposer : String) (seq epoch : Nat) (data : Bytes) : Bytes :=
  strBytes chain ++ le64 seq ++ le64 epoch ++ strBytes method ++ strBytes proposer ++ data

theorem voteSignDoc_eq (c : Crypto) (m chain p : String) (seq epoch : Nat) (d : Bytes) :
    voteSignDoc c m chain p seq epoch d = c.sha256 (preimage chain m p seq epoch d) := rfl

/-- general form, for any prefix-free set of method names -/
theorem preimage_injective_of_prefixFree {ms : List String} (hpf : PrefixFree ms)
    {chain m m' p p' : String} {seq seq' epoch epoch' : Nat} {d d' : Bytes}
    (hm : m ∈ ms) (hm' : m' ∈ ms)
    (hp : (strBytes p).length = (strBytes p').length)
    (hs : seq < two64) (hs' : seq' < two64) (he : epoch < two64) (he' : epoch' < two64)
    (h : strBytes chain ++ le64 seq ++ le64 epoch ++ strBytes m ++ strBytes p ++ d
       = strBytes chain ++ le64 seq' ++ le64 epoch' ++ strBytes m' ++ strBytes p' ++ d') :
    seq = seq' ∧ epoch = epoch' ∧ m = m' ∧ p = p' ∧ d = d' := by
  simp only [List.append_assoc] at h
  have h := List.append_cancel_left h
  obtain ⟨e1, h⟩ := le64_append_inj hs hs' h
  obtain ⟨e2, h⟩ := le64_append_inj he he' h
  have e3 : m = m' := by
    rcases List.append_eq_append_iff.mp h with ⟨a, ha, _⟩ | ⟨a, ha, _⟩
    · exact hpf m hm m' hm' ⟨a, ha.symm⟩
    · exact (hpf m' hm' m hm ⟨a, ha.symm⟩).symm
  subst e3
  have h := List.append_cancel_left h
  obtain ⟨e4, e5⟩ := List.append_inj h hp
  exact ⟨e1, e2, rfl, strBytes_injective e4, e5⟩

/-- for the five bridge methods -/
theorem preimage_injective
    {chain m m' p p' : String} {seq seq' epoch epoch' : Nat} {d d' : Bytes}
    (hm : m ∈ methods) (hm' : m' ∈ methods)
    (hp : (strBytes p).length = (strBytes p').length)
    (hs : seq < two64) (hs' : seq' < two64) (he : epoch < two64) (he' : epoch' < two64)
    (h : strBytes chain ++ le64 seq ++ le64 epoch ++ strBytes m ++ strBytes p ++ d
       = strBytes chain ++ le64 seq' ++ le64 epoch' ++ strBytes m' ++ strBytes p' ++ d') :
    seq = seq' ∧ epoch = epoch' ∧ m = m' ∧ p = p' ∧ d = d' :=
  preimage_injective_of_prefixFree methods_prefix_free hm hm' hp hs hs' he he' h

/-- the equal-length hypothesis on the proposer strings is needed: the proposer is followed by the
    payload without a separator or a length prefix.  (In the real system both are bech32 renderings
    of 20-byte addresses under one prefix, hence of one length.) -/
theorem preimage_not_injective_without_proposer_length :
    ∃ (p p' : String) (d d' : Bytes),
      strBytes "c" ++ le64 0 ++ le64 0 ++ strBytes "Bitcoin/NewPubkey" ++ strBytes p ++ d
        = strBytes "c" ++ le64 0 ++ le64 0 ++ strBytes "Bitcoin/NewPubkey" ++ strBytes p' ++ d'
      ∧ p ≠ p' ∧ d ≠ d' := by
  have e : strBytes "ab" = strBytes "a" ++ [98] := by
    simp only [strBytes_eq]
    decide
  exact ⟨"a", "ab", [98], [], by rw [e, List.append_nil, ← List.append_assoc], by simp, by simp⟩

/-! ## the payload encoders are injective on validated inputs -/

/-- NewBlocks: `8 zero bytes ‖ LE64(start) ‖ hashes` determines (start, hashes) -/
theorem newBlocks_data_injective {start start' : Nat} {hashes hashes' : List Bytes}
    (hs : start < two64) (hs' : start' < two64)
    (hh : ∀ h ∈ hashes, h.length = 32) (hh' : ∀ h ∈ hashes', h.length = 32)
    (h : List.replicate 8 (0 : UInt8) ++ le64 start ++ hashes.flatten
       = List.replicate 8 (0 : UInt8) ++ le64 start' ++ hashes'.flatten) :
    start = start' ∧ hashes = hashes' := by
  simp only [List.append_assoc] at h
  obtain ⟨e1, h⟩ := le64_append_inj hs hs' (List.append_cancel_left h)
  exact ⟨e1, flatten_injective_of_length (by decide) hh hh' h⟩

/-- ProcessWithdrawal: `LE64(id)… ‖ digest ‖ LE64(fee)` determines (ids in order, digest, fee);
    the id list has variable length but the tail (digest and fee) has one length on both sides -/
theorem processWithdrawal_data_injective {ids ids' : List Nat} {dg dg' : Bytes} {fee fee' : Nat}
    (hi : ∀ i ∈ ids, i < two64) (hi' : ∀ i ∈ ids', i < two64)
    (hd : dg.length = dg'.length) (hf : fee < two64) (hf' : fee' < two64)
    (h : (ids.map le64).flatten ++ dg ++ le64 fee = (ids'.map le64).flatten ++ dg' ++ le64 fee') :
    ids = ids' ∧ dg = dg' ∧ fee = fee' := by
  obtain ⟨h, e3⟩ := List.append_inj' h ((le64_length fee).trans (le64_length fee').symm)
  obtain ⟨h, e2⟩ := List.append_inj' h hd
  have e1 := flatten_injective_of_length (n := 8) (by decide)
    (List.forall_mem_map.mpr fun i _ => le64_length i) (List.forall_mem_map.mpr fun i _ => le64_length i) h
  exact ⟨map_le64_injective hi hi' e1, e2, le64_injective hf hf' e3⟩

/-- ReplaceWithdrawal: `LE64(pid) ‖ LE64(fee) ‖ digest` determines (pid, fee, digest) -/
theorem replaceWithdrawal_data_injective {pid pid' fee fee' : Nat} {dg dg' : Bytes}
    (hp : pid < two64) (hp' : pid' < two64) (hf : fee < two64) (hf' : fee' < two64)
    (h : le64 pid ++ le64 fee ++ dg = le64 pid' ++ le64 fee' ++ dg') :
    pid = pid' ∧ fee = fee' ∧ dg = dg' := by
  simp only [List.append_assoc] at h
  obtain ⟨e1, h⟩ := le64_append_inj hp hp' h
  obtain ⟨e2, h⟩ := le64_append_inj hf hf' h
  exact ⟨e1, e2, h⟩

/-- NewPubkey: `tag ‖ key` determines the key, for keys that pass `Validate` -/
theorem newPubkey_data_injective {pk pk' : Bitcoin.PubKey}
    (hv : pk.validate = true) (hv' : pk'.validate = true) (h : pk.encode = pk'.encode) : pk = pk' := by
  cases pk with | mk k key =>
  cases pk' with | mk k' key' =>
  have hk := Bitcoin.validate_kind hv
  have hk' := Bitcoin.validate_kind hv'
  simp only at hk hk'
  unfold Bitcoin.PubKey.encode at h
  -- the tag is the first byte of the encoding, the key is the rest
  rcases hk with rfl | rfl <;> rcases hk' with rfl | rfl <;> simp at h <;> simp [h]

/-- validation is needed: every unknown key tag encodes to the empty payload -/
theorem newPubkey_data_not_injective_unvalidated :
    ∃ pk pk' : Bitcoin.PubKey, pk.encode = pk'.encode ∧ pk ≠ pk' :=
  ⟨⟨2, []⟩, ⟨3, [7]⟩, by decide, by decide⟩

/-- NewConsolidation: the payload IS the digest -/
theorem newConsolidation_data_injective {dg dg' : Bytes} (h : dg = dg') : dg = dg' := h

/-! ### the handlers establish the validity hypotheses used above -/

/-- an accepted NewBlocks message has `start < 2^64` and only 32-byte hashes -/
theorem newBlockHashes_ok_validated (rc : Crypto) (chainId : String) (rel : State) (s : Bitcoin.State)
    (vote : VoteMsg) (hv : Bool) (start : Nat) (hashes : List Bytes) (r : State × Bitcoin.State)
    (h : Bitcoin.newBlockHashes rc chainId rel s vote hv start hashes = .ok r) :
    start < two64 ∧ ∀ x ∈ hashes, x.length = 32 := by
  obtain ⟨_, _, _, hlen, _, hst, _⟩ := Bitcoin.newBlockHashes_ok h
  exact ⟨hst ▸ Nat.mod_lt _ (by decide), hlen⟩

/-- an accepted NewPubkey message carries a key that passes `Validate` -/
theorem newPubkey_ok_validated (rc : Crypto) (chainId : String) (rel : State) (s : Bitcoin.State)
    (vote : VoteMsg) (hv : Bool) (pk : Bitcoin.PubKey) (r : State × Bitcoin.State)
    (h : Bitcoin.newPubkey rc chainId rel s vote hv pk = .ok r) : pk.validate = true :=
  (Bitcoin.newPubkey_ok h).2.1

/-! ## the sign doc binds action and payload -/

/-- two different inputs with the same hash -/
def Collision (f : Bytes → Bytes) : Prop := ∃ x y, x ≠ y ∧ f x = f y

theorem not_collision_of_injective {f : Bytes → Bytes} (h : Function.Injective f) : ¬ Collision f :=
  fun ⟨_, _, hne, he⟩ => hne (h he)

/-- equal hashes: equal inputs or a collision -/
theorem eq_or_collision (f : Bytes → Bytes) {x y : Bytes} (h : f x = f y) : x = y ∨ Collision f :=
  if e : x = y then Or.inl e else Or.inr ⟨x, y, e, h⟩

/-! ### the two idealisations of the hash exclude each other -/

/-- **the two ideal-hash hypotheses together are contradictory**; a theorem assuming both says
    nothing.  Hence the `…_or_collision` forms below. -/
theorem ideal_hash_hyps_inconsistent (c : Crypto) :
    ¬ (Function.Injective c.sha256 ∧ ∀ x, (c.sha256 x).length = 32) := by
  intro ⟨hinj, hlen⟩
  obtain ⟨_, _, _, _, hne, e⟩ := exists_collision_of_length_lt (Nat.lt_succ_self 32) c.sha256 fun x _ => hlen x
  exact hne (hinj e)

/-! ### the document -/

section envelope
variable {chain p p' : String} {seq seq' epoch epoch' : Nat}

/-- equal sign docs: same sequence, epoch, action, proposer and payload — or the two hashed
    pre-images are a SHA-256 collision.  No hypothesis on the hash. -/
theorem signDoc_binds_or_collision (c : Crypto) {m m' : String} {d d' : Bytes}
    (hm : m ∈ methods) (hm' : m' ∈ methods)
    (hp : (strBytes p).length = (strBytes p').length)
    (hs : seq < two64) (hs' : seq' < two64) (he : epoch < two64) (he' : epoch' < two64)
    (h : voteSignDoc c m chain p seq epoch d = voteSignDoc c m' chain p' seq' epoch' d') :
    (seq = seq' ∧ epoch = epoch' ∧ m = m' ∧ p = p' ∧ d = d') ∨ Collision c.sha256 :=
  (eq_or_collision c.sha256 h).imp_left (preimage_injective hm hm' hp hs hs' he he')

/-- the same over all six documents of the model (bridge actions and `Relayer/NewVoter`): a voter's
    proof-of-possession can not be replayed as a vote share for a bridge action or vice versa -/
theorem signDoc_binds_all_or_collision (c : Crypto) {m m' : String} {d d' : Bytes}
    (hm : m ∈ allMethods) (hm' : m' ∈ allMethods)
    (hp : (strBytes p).length = (strBytes p').length)
    (hs : seq < two64) (hs' : seq' < two64) (he : epoch < two64) (he' : epoch' < two64)
    (h : voteSignDoc c m chain p seq epoch d = voteSignDoc c m' chain p' seq' epoch' d') :
    (seq = seq' ∧ epoch = epoch' ∧ m = m' ∧ p = p' ∧ d = d') ∨ Collision c.sha256 :=
  (eq_or_collision c.sha256 h).imp_left
    (preimage_injective_of_prefixFree allMethods_prefix_free hm hm' hp hs hs' he he')

/-- the same under an injective hash.  (The length hypothesis is not needed here, and
    must not be added: see `ideal_hash_hyps_inconsistent`.) -/
theorem signDoc_binds (c : Crypto) (hinj : Function.Injective c.sha256) {m m' : String} {d d' : Bytes}
    (hm : m ∈ methods) (hm' : m' ∈ methods)
    (hp : (strBytes p).length = (strBytes p').length)
    (hs : seq < two64) (hs' : seq' < two64) (he : epoch < two64) (he' : epoch' < two64)
    (h : voteSignDoc c m chain p seq epoch d = voteSignDoc c m' chain p' seq' epoch' d') :
    seq = seq' ∧ epoch = epoch' ∧ m = m' ∧ p = p' ∧ d = d' :=
  (signDoc_binds_or_collision c hm hm' hp hs hs' he he' h).resolve_right (not_collision_of_injective hinj)

/-! ### per action -/

theorem mem_NewBlocks : "Bitcoin/NewBlocks" ∈ methods := by simp [methods]
theorem mem_NewPubkey : "Bitcoin/NewPubkey" ∈ methods := by simp [methods]
theorem mem_ProcessWithdrawal : "Bitcoin/ProcessWithdrawal" ∈ methods := by simp [methods]
theorem mem_ReplaceWithdrawal : "Bitcoin/ReplaceWithdrawal" ∈ methods := by simp [methods]
theorem mem_NewConsolidation : "Bitcoin/NewConsolidation" ∈ methods := by simp [methods]

/-- The step shared by the five actions and by every form of the statement.  `P` stands for what an
    action's payload encoder binds (say `start = start' ∧ hashes = hashes'`), `Q` for the way out that
    encoder may itself need (a collision of the digest inside the payload), `hd` for its injectivity in
    that form.  Equal documents for one method: the envelope fields agree and the payloads are equal,
    hence `P` or `Q` — unless the two hashed pre-images differ, and then they collide. -/
theorem doc_binds_of_payload (c : Crypto) {m : String} (hm : m ∈ methods)
    (hp : (strBytes p).length = (strBytes p').length)
    (hs : seq < two64) (hs' : seq' < two64) (he : epoch < two64) (he' : epoch' < two64)
    {d d' : Bytes} {P Q : Prop} (hd : d = d' → P ∨ Q)
    (h : voteSignDoc c m chain p seq epoch d = voteSignDoc c m chain p' seq' epoch' d') :
    (seq = seq' ∧ epoch = epoch' ∧ p = p' ∧ P) ∨
      (preimage chain m p seq epoch d ≠ preimage chain m p' seq' epoch' d' ∧
        c.sha256 (preimage chain m p seq epoch d) = c.sha256 (preimage chain m p' seq' epoch' d')) ∨ Q := by
  by_cases e : preimage chain m p seq epoch d = preimage chain m p' seq' epoch' d'
  · obtain ⟨e1, e2, _, e4, e5⟩ := preimage_injective hm hm hp hs hs' he he' e
    exact (hd e5).imp (fun hP => ⟨e1, e2, e4, hP⟩) Or.inr
  · exact Or.inr (Or.inl ⟨e, h⟩)

/-- the same with the pair of pre-images forgotten -/
theorem doc_binds_or_collision (c : Crypto) {m : String} (hm : m ∈ methods)
    (hp : (strBytes p).length = (strBytes p').length)
    (hs : seq < two64) (hs' : seq' < two64) (he : epoch < two64) (he' : epoch' < two64)
    {d d' : Bytes} {P : Prop} (hd : d = d' → P ∨ Collision c.sha256)
    (h : voteSignDoc c m chain p seq epoch d = voteSignDoc c m chain p' seq' epoch' d') :
    (seq = seq' ∧ epoch = epoch' ∧ p = p' ∧ P) ∨ Collision c.sha256 :=
  (doc_binds_of_payload c hm hp hs hs' he he' hd h).imp_right fun
    | .inl ⟨hne, e⟩ => ⟨_, _, hne, e⟩
    | .inr col => col

/-- NewBlocks: equal documents ⇒ same start height and the same hashes in the same order -/
theorem newBlocks_doc_binds_or_collision (c : Crypto)
    (hp : (strBytes p).length = (strBytes p').length)
    (hs : seq < two64) (hs' : seq' < two64) (he : epoch < two64) (he' : epoch' < two64)
    {start start' : Nat} {hashes hashes' : List Bytes}
    (hst : start < two64) (hst' : start' < two64)
    (hh : ∀ x ∈ hashes, x.length = 32) (hh' : ∀ x ∈ hashes', x.length = 32)
    (h : voteSignDoc c "Bitcoin/NewBlocks" chain p seq epoch (List.replicate 8 0 ++ le64 start ++ hashes.flatten)
       = voteSignDoc c "Bitcoin/NewBlocks" chain p' seq' epoch' (List.replicate 8 0 ++ le64 start' ++ hashes'.flatten)) :
    (seq = seq' ∧ epoch = epoch' ∧ p = p' ∧ start = start' ∧ hashes = hashes') ∨ Collision c.sha256 :=
  doc_binds_or_collision c mem_NewBlocks hp hs hs' he he'
    (fun e => Or.inl (newBlocks_data_injective hst hst' hh hh' e)) h

/-- NewPubkey: equal documents ⇒ the same key -/
theorem newPubkey_doc_binds_or_collision (c : Crypto)
    (hp : (strBytes p).length = (strBytes p').length)
    (hs : seq < two64) (hs' : seq' < two64) (he : epoch < two64) (he' : epoch' < two64)
    {pk pk' : Bitcoin.PubKey} (hv : pk.validate = true) (hv' : pk'.validate = true)
    (h : voteSignDoc c "Bitcoin/NewPubkey" chain p seq epoch pk.encode
       = voteSignDoc c "Bitcoin/NewPubkey" chain p' seq' epoch' pk'.encode) :
    (seq = seq' ∧ epoch = epoch' ∧ p = p' ∧ pk = pk') ∨ Collision c.sha256 :=
  doc_binds_or_collision c mem_NewPubkey hp hs hs' he he' (fun e => Or.inl (newPubkey_data_injective hv hv' e)) h

/-- ProcessWithdrawal: equal documents ⇒ the same withdrawal ids IN THE SAME ORDER, the same fee and
    the same transaction — or a collision.  Needs the digest length (the digest is followed by the
    fee), which SHA-256 has. -/
theorem processWithdrawal_doc_binds_or_collision (c : Crypto) (hlen : ∀ x, (c.sha256 x).length = 32)
    (hp : (strBytes p).length = (strBytes p').length)
    (hs : seq < two64) (hs' : seq' < two64) (he : epoch < two64) (he' : epoch' < two64)
    {ids ids' : List Nat} {tx tx' : Bytes} {fee fee' : Nat}
    (hi : ∀ i ∈ ids, i < two64) (hi' : ∀ i ∈ ids', i < two64) (hf : fee < two64) (hf' : fee' < two64)
    (h : voteSignDoc c "Bitcoin/ProcessWithdrawal" chain p seq epoch ((ids.map le64).flatten ++ c.sha256 tx ++ le64 fee)
       = voteSignDoc c "Bitcoin/ProcessWithdrawal" chain p' seq' epoch' ((ids'.map le64).flatten ++ c.sha256 tx' ++ le64 fee')) :
    (seq = seq' ∧ epoch = epoch' ∧ p = p' ∧ ids = ids' ∧ fee = fee' ∧ tx = tx') ∨ Collision c.sha256 := by
  refine doc_binds_or_collision c mem_ProcessWithdrawal hp hs hs' he he' (fun e => ?_) h
  obtain ⟨a, b, f⟩ := processWithdrawal_data_injective hi hi' ((hlen tx).trans (hlen tx').symm) hf hf' e
  exact (eq_or_collision c.sha256 b).imp_left fun e => ⟨a, f, e⟩

/-- ReplaceWithdrawal: equal documents ⇒ the same process id, fee and transaction -/
theorem replaceWithdrawal_doc_binds_or_collision (c : Crypto)
    (hp : (strBytes p).length = (strBytes p').length)
    (hs : seq < two64) (hs' : seq' < two64) (he : epoch < two64) (he' : epoch' < two64)
    {pid pid' fee fee' : Nat} {tx tx' : Bytes}
    (hpid : pid < two64) (hpid' : pid' < two64) (hf : fee < two64) (hf' : fee' < two64)
    (h : voteSignDoc c "Bitcoin/ReplaceWithdrawal" chain p seq epoch (le64 pid ++ le64 fee ++ c.sha256 tx)
       = voteSignDoc c "Bitcoin/ReplaceWithdrawal" chain p' seq' epoch' (le64 pid' ++ le64 fee' ++ c.sha256 tx')) :
    (seq = seq' ∧ epoch = epoch' ∧ p = p' ∧ pid = pid' ∧ fee = fee' ∧ tx = tx') ∨ Collision c.sha256 := by
  refine doc_binds_or_collision c mem_ReplaceWithdrawal hp hs hs' he he' (fun e => ?_) h
  obtain ⟨a, f, b⟩ := replaceWithdrawal_data_injective hpid hpid' hf hf' e
  exact (eq_or_collision c.sha256 b).imp_left fun e => ⟨a, f, e⟩

/-- NewConsolidation: equal documents ⇒ the same transaction -/
theorem newConsolidation_doc_binds_or_collision (c : Crypto)
    (hp : (strBytes p).length = (strBytes p').length)
    (hs : seq < two64) (hs' : seq' < two64) (he : epoch < two64) (he' : epoch' < two64)
    {tx tx' : Bytes}
    (h : voteSignDoc c "Bitcoin/NewConsolidation" chain p seq epoch (c.sha256 tx)
       = voteSignDoc c "Bitcoin/NewConsolidation" chain p' seq' epoch' (c.sha256 tx')) :
    (seq = seq' ∧ epoch = epoch' ∧ p = p' ∧ tx = tx') ∨ Collision c.sha256 :=
  doc_binds_or_collision c mem_NewConsolidation hp hs hs' he he' (eq_or_collision c.sha256) h

/-! ### the same under an injective hash -/

theorem newBlocks_doc_binds (c : Crypto) (hinj : Function.Injective c.sha256)
    (hp : (strBytes p).length = (strBytes p').length)
    (hs : seq < two64) (hs' : seq' < two64) (he : epoch < two64) (he' : epoch' < two64)
    {start start' : Nat} {hashes hashes' : List Bytes}
    (hst : start < two64) (hst' : start' < two64)
    (hh : ∀ x ∈ hashes, x.length = 32) (hh' : ∀ x ∈ hashes', x.length = 32)
    (h : voteSignDoc c "Bitcoin/NewBlocks" chain p seq epoch (List.replicate 8 0 ++ le64 start ++ hashes.flatten)
       = voteSignDoc c "Bitcoin/NewBlocks" chain p' seq' epoch' (List.replicate 8 0 ++ le64 start' ++ hashes'.flatten)) :
    seq = seq' ∧ epoch = epoch' ∧ p = p' ∧ start = start' ∧ hashes = hashes' :=
  (newBlocks_doc_binds_or_collision c hp hs hs' he he' hst hst' hh hh' h).resolve_right
    (not_collision_of_injective hinj)

theorem newPubkey_doc_binds (c : Crypto) (hinj : Function.Injective c.sha256)
    (hp : (strBytes p).length = (strBytes p').length)
    (hs : seq < two64) (hs' : seq' < two64) (he : epoch < two64) (he' : epoch' < two64)
    {pk pk' : Bitcoin.PubKey} (hv : pk.validate = true) (hv' : pk'.validate = true)
    (h : voteSignDoc c "Bitcoin/NewPubkey" chain p seq epoch pk.encode
       = voteSignDoc c "Bitcoin/NewPubkey" chain p' seq' epoch' pk'.encode) :
    seq = seq' ∧ epoch = epoch' ∧ p = p' ∧ pk = pk' :=
  (newPubkey_doc_binds_or_collision c hp hs hs' he he' hv hv' h).resolve_right
    (not_collision_of_injective hinj)

/-- under BOTH ideal-hash hypotheses.  VACUOUS (`ideal_hash_hyps_inconsistent`): the
    content is `processWithdrawal_doc_binds_or_collision`. -/
theorem processWithdrawal_doc_binds (c : Crypto) (hinj : Function.Injective c.sha256)
    (hlen : ∀ x, (c.sha256 x).length = 32)
    (hp : (strBytes p).length = (strBytes p').length)
    (hs : seq < two64) (hs' : seq' < two64) (he : epoch < two64) (he' : epoch' < two64)
    {ids ids' : List Nat} {tx tx' : Bytes} {fee fee' : Nat}
    (hi : ∀ i ∈ ids, i < two64) (hi' : ∀ i ∈ ids', i < two64) (hf : fee < two64) (hf' : fee' < two64)
    (h : voteSignDoc c "Bitcoin/ProcessWithdrawal" chain p seq epoch ((ids.map le64).flatten ++ c.sha256 tx ++ le64 fee)
       = voteSignDoc c "Bitcoin/ProcessWithdrawal" chain p' seq' epoch' ((ids'.map le64).flatten ++ c.sha256 tx' ++ le64 fee')) :
    seq = seq' ∧ epoch = epoch' ∧ p = p' ∧ ids = ids' ∧ fee = fee' ∧ tx = tx' :=
  (processWithdrawal_doc_binds_or_collision c hlen hp hs hs' he he' hi hi' hf hf' h).resolve_right
    (not_collision_of_injective hinj)

/-- non-vacuous replacement of the previous theorem: an injective hash whose digests for the two
    transactions at hand have one common length (any length) -/
theorem processWithdrawal_doc_binds' (c : Crypto) (hinj : Function.Injective c.sha256)
    (hp : (strBytes p).length = (strBytes p').length)
    (hs : seq < two64) (hs' : seq' < two64) (he : epoch < two64) (he' : epoch' < two64)
    {ids ids' : List Nat} {tx tx' : Bytes} {fee fee' : Nat}
    (hlen : (c.sha256 tx).length = (c.sha256 tx').length)
    (hi : ∀ i ∈ ids, i < two64) (hi' : ∀ i ∈ ids', i < two64) (hf : fee < two64) (hf' : fee' < two64)
    (h : voteSignDoc c "Bitcoin/ProcessWithdrawal" chain p seq epoch ((ids.map le64).flatten ++ c.sha256 tx ++ le64 fee)
       = voteSignDoc c "Bitcoin/ProcessWithdrawal" chain p' seq' epoch' ((ids'.map le64).flatten ++ c.sha256 tx' ++ le64 fee')) :
    seq = seq' ∧ epoch = epoch' ∧ p = p' ∧ ids = ids' ∧ fee = fee' ∧ tx = tx' := by
  obtain ⟨e1, e2, _, e4, e5⟩ := signDoc_binds c hinj mem_ProcessWithdrawal mem_ProcessWithdrawal hp hs hs' he he' h
  obtain ⟨a, b, f⟩ := processWithdrawal_data_injective hi hi' hlen hf hf' e5
  exact ⟨e1, e2, e4, a, f, hinj b⟩

theorem replaceWithdrawal_doc_binds (c : Crypto) (hinj : Function.Injective c.sha256)
    (hp : (strBytes p).length = (strBytes p').length)
    (hs : seq < two64) (hs' : seq' < two64) (he : epoch < two64) (he' : epoch' < two64)
    {pid pid' fee fee' : Nat} {tx tx' : Bytes}
    (hpid : pid < two64) (hpid' : pid' < two64) (hf : fee < two64) (hf' : fee' < two64)
    (h : voteSignDoc c "Bitcoin/ReplaceWithdrawal" chain p seq epoch (le64 pid ++ le64 fee ++ c.sha256 tx)
       = voteSignDoc c "Bitcoin/ReplaceWithdrawal" chain p' seq' epoch' (le64 pid' ++ le64 fee' ++ c.sha256 tx')) :
    seq = seq' ∧ epoch = epoch' ∧ p = p' ∧ pid = pid' ∧ fee = fee' ∧ tx = tx' :=
  (replaceWithdrawal_doc_binds_or_collision c hp hs hs' he he' hpid hpid' hf hf' h).resolve_right
    (not_collision_of_injective hinj)

theorem newConsolidation_doc_binds (c : Crypto) (hinj : Function.Injective c.sha256)
    (hp : (strBytes p).length = (strBytes p').length)
    (hs : seq < two64) (hs' : seq' < two64) (he : epoch < two64) (he' : epoch' < two64)
    {tx tx' : Bytes}
    (h : voteSignDoc c "Bitcoin/NewConsolidation" chain p seq epoch (c.sha256 tx)
       = voteSignDoc c "Bitcoin/NewConsolidation" chain p' seq' epoch' (c.sha256 tx')) :
    seq = seq' ∧ epoch = epoch' ∧ p = p' ∧ tx = tx' :=
  (newConsolidation_doc_binds_or_collision c hp hs hs' he he' h).resolve_right
    (not_collision_of_injective hinj)

end envelope

/-! ### link to C01: what an accepted ProcessWithdrawal was signed over -/

/-- An accepted ProcessWithdrawal carries an aggregate signature that verifies, under some key list, over
    the document of exactly its (ids, tx, fee) at the current proposer, sequence and epoch (by `C01`,
    which also says whose keys).  That this document is the document of no other (ids', tx', fee'),
    sequence, epoch or proposer, short of a SHA-256 collision, is
    `processWithdrawal_doc_binds_or_collision`. -/
theorem processWithdrawal_accepted_signed_over (bc : Bitcoin.Crypto) (rc : Crypto) (chainId : String)
    (rel : State) (s : Bitcoin.State) (vote : VoteMsg) (hv : Bool) (ids : List Nat) (tx : Bytes) (fee : Nat)
    (r : State × Bitcoin.State)
    (h : Bitcoin.processWithdrawal bc rc chainId rel s vote hv ids tx fee = .ok r) :
    ∃ keys, rc.aggVerify keys
      (voteSignDoc rc "Bitcoin/ProcessWithdrawal" chainId rel.proposer rel.seq rel.epoch
        ((ids.map le64).flatten ++ rc.sha256 tx ++ le64 fee)) vote.signature = true := by
  obtain ⟨_, _, _, _, pk, ks, _, _, hver, _⟩ := C01.processWithdrawal_needs_quorum bc rc chainId rel s vote hv ids tx fee r h
  exact ⟨_, hver⟩

/-! ## non-vacuity -/

/-- a proposer string of the real shape: prefix "goat", separator "1", 32 data characters, 6 checksum
    characters = 43 bytes (the checksum here is not computed; only the length matters) -/
def proposerA : String := "goat1qqqqqqqqqqqqqqqqqqqqqqqqqqqqqqqqqqqqqq"
def proposerB : String := "goat1pzry9x8gf2tvdw0s3jn54khce6mua7lqqqqqqq"

example : (strBytes proposerA).length = 43 ∧ (strBytes proposerB).length = 43 ∧ proposerA ≠ proposerB := by
  refine ⟨?_, ?_, by simp [proposerA, proposerB]⟩
  · rw [show proposerA = String.ofList _ from rfl, strBytes_ofList]; decide
  · rw [show proposerB = String.ofList _ from rfl, strBytes_ofList]; decide

/-- an injective "hash" (hypothesis of the `…_doc_binds` theorems) -/
def idCrypto : Crypto :=
  { sha256 := id, hash160 := id, aggVerify := fun _ _ _ => false, blsVerify := fun _ _ _ => false,
    ecdsaVerify := fun _ _ _ => false, addrOf := fun _ => "" }

example : Function.Injective idCrypto.sha256 := fun _ _ h => h

/-- a 32-byte "hash" (hypothesis of `processWithdrawal_doc_binds_or_collision`) -/
def padCrypto : Crypto :=
  { idCrypto with sha256 := fun x => (x ++ List.replicate 32 0).take 32 }

example : ∀ x, (padCrypto.sha256 x).length = 32 := by
  intro x; simp [padCrypto]

/-- the two payloads of ProcessWithdrawal for ids [1,2] and [2,1] (same digest, same fee) differ -/
example : ((([1, 2] : List Nat).map le64).flatten ++ List.replicate 32 (7 : UInt8) ++ le64 5)
        ≠ ((([2, 1] : List Nat).map le64).flatten ++ List.replicate 32 (7 : UInt8) ++ le64 5) := by decide

/-- with the injective toy hash: the documents of two ProcessWithdrawal messages that differ only in
    the ORDER of the ids differ (an instance of `signDoc_binds` with all hypotheses discharged) -/
example :
    voteSignDoc idCrypto "Bitcoin/ProcessWithdrawal" "goat-1" proposerA 3 1
        ((([1, 2] : List Nat).map le64).flatten ++ idCrypto.sha256 [9, 9] ++ le64 5)
    ≠ voteSignDoc idCrypto "Bitcoin/ProcessWithdrawal" "goat-1" proposerA 3 1
        ((([2, 1] : List Nat).map le64).flatten ++ idCrypto.sha256 [9, 9] ++ le64 5) := by
  intro h
  have := (signDoc_binds idCrypto (fun _ _ h => h) mem_ProcessWithdrawal mem_ProcessWithdrawal rfl
    (by decide) (by decide) (by decide) (by decide) h).2.2.2.2
  revert this
  decide

/-- and a document for one action is never a document for another action (same toy hash) -/
example (d d' : Bytes) :
    voteSignDoc idCrypto "Bitcoin/NewConsolidation" "goat-1" proposerA 3 1 d
    ≠ voteSignDoc idCrypto "Bitcoin/ReplaceWithdrawal" "goat-1" proposerA 3 1 d' := by
  intro h
  have := (signDoc_binds idCrypto (fun _ _ h => h) mem_NewConsolidation mem_ReplaceWithdrawal rfl
    (by decide) (by decide) (by decide) (by decide) h).2.2.1
  simp at this

end Goat.C01S
