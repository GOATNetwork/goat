/-
  C13H — the validator-set logic of x/locking (EndBlocker) and its consumer (CometBFT's update rules).

  Property C13 (verbatim): "After every block the validator-set changes reported to the consensus
  engine, accumulated from genesis, equal the module's own record of the active set: at most the
  configured maximum, every member active with exactly its current, positive voting power, and no
  eligible non-member with more power than a member (ties by address). Every reported change is one
  the consensus engine accepts: no removal of a non-member, no zero-power addition, no duplicate, no
  total-power overflow. The begin- and end-of-block logic never fails for any history of
  execution-layer requests, votes and evidence."

  About `Goat.Locking.endBlocker` and `Goat.Comet.apply`: from `RankOk` (the state in which EndBlocker
  runs; it follows from C18's `Derived` at committed states, `rankOk_of_derived`) EndBlocker never fails,
  its update list and post-state have a closed form (`updatesOf`, `Post`), the recorded set is the top of
  the ranking, `RankOk` holds again, and `Comet.apply` accepts the updates except for a total-power
  overflow or an emptied set, which are exactly its refusals.  Over a list of blocks (`good_after_block`,
  `sync_after_every_block`) the rest of a block is any relation `R` with `Between R`; C13B proves
  `Between` for the model's BeginBlock and request handlers.

  `Sync` is equality of *sets* (`List.Perm`), not of lists: EndBlocker re-records a changed member at the
  end of its list, CometBFT updates in place (`sync_as_list_equality_fails`).
-/
import GoatProofs.Lemmas.ValSet
import GoatProofs.C13
namespace Goat.C13H
open Goat.Locking Goat.ValSet

/-! ## the precondition of EndBlocker -/

/-- **The state in which EndBlocker runs**, as the rest of the module maintains it (`lockOne`,
    `unlockCore`, `onWeightChanged` rank exactly the Active/Pending validators with positive power;
    `handleVote` (downgrade) and `handleEvidence` (tombstone) un-rank; only EndBlocker writes `valset`). -/
structure RankOk (s : State) : Prop where
  /-- an address is ranked at most once -/
  rank_nodup : (s.ranking.map (·.2)).Nodup
  /-- a ranking entry carries the current, positive power of an Active or Pending validator -/
  rank_rec : ∀ p a, (p, a) ∈ s.ranking →
    ∃ v, vget s a = some v ∧ v.power = p ∧ 0 < p ∧ (v.status = .active ∨ v.status = .pending)
  /-- every Active or Pending validator with positive power is ranked -/
  rank_complete : ∀ a v, vget s a = some v → (v.status = .active ∨ v.status = .pending) → 0 < v.power →
    (v.power, a) ∈ s.ranking
  /-- the recorded set has one entry per address -/
  valset_nodup : (s.valset.map (·.1)).Nodup
  /-- every recorded member has a validator record -/
  valset_rec : ∀ a p, (a, p) ∈ s.valset → ∃ v, vget s a = some v
  /-- a Pending validator is not in the recorded set -/
  pending_out : ∀ a v, vget s a = some v → v.status = .pending → a ∉ s.valset.map (·.1)
  /-- the configured maximum is not negative -/
  max_nonneg : 0 ≤ s.params.maxValidators

/-! ## the closed form of the result -/

/-- the top of the ranking: the entries EndBlocker walks -/
def top (s : State) : List (Nat × Bytes) := (rankingDesc s).take s.params.maxValidators.toNat

/-- the consensus public key filed under an address (empty when there is no record) -/
def pkOf (s : State) (a : Bytes) : Bytes := ((vget s a).map (·.pubkey)).getD []

/-- the update emitted for a top entry: none when the recorded power is already the current one -/
def emit (s : State) (e : Nat × Bytes) : Option Update :=
  if lookup s.valset e.2 ≠ e.1 then some { pubkey := pkOf s e.2, power := e.1 } else none

/-- the members that leave: recorded entries whose address is not in the top, in key order -/
def leavers (s : State) : List (Bytes × Nat) :=
  (dropKeys ((top s).map (·.2)) s.valset).mergeSort (fun a b => !bytesLt b.1 a.1)

/-- **the update list of EndBlocker in closed form** -/
def updatesOf (s : State) : List Update :=
  (top s).filterMap (emit s) ++ (leavers s).map (fun e => { pubkey := pkOf s e.1, power := 0 })

/-- what joining the set does to a record -/
def activate (v : Validator) : Validator :=
  if v.status = .pending then { v with status := .active, offset := 0, missed := 0 } else v

/-- what leaving the set does to a record -/
def demote (v : Validator) : Validator :=
  if v.status = .active then { v with status := .pending } else v

/-- everything but `validators` and `valset` is the same -/
structure Frame (s t : State) : Prop where
  params : t.params = s.params
  lockingIdx : t.lockingIdx = s.lockingIdx
  ranking : t.ranking = s.ranking
  tokens : t.tokens = s.tokens
  threshold : t.threshold = s.threshold
  slashed : t.slashed = s.slashed
  nonce : t.nonce = s.nonce
  pool : t.pool = s.pool
  qRewards : t.qRewards = s.qRewards
  qUnlocks : t.qUnlocks = s.qUnlocks
  unlockQueue : t.unlockQueue = s.unlockQueue

theorem Frame.refl (s : State) : Frame s s := ⟨rfl, rfl, rfl, rfl, rfl, rfl, rfl, rfl, rfl, rfl, rfl⟩

theorem Frame.trans {s t u : State} (h1 : Frame s t) (h2 : Frame t u) : Frame s u :=
  ⟨h2.params.trans h1.params, h2.lockingIdx.trans h1.lockingIdx, h2.ranking.trans h1.ranking,
   h2.tokens.trans h1.tokens, h2.threshold.trans h1.threshold, h2.slashed.trans h1.slashed,
   h2.nonce.trans h1.nonce, h2.pool.trans h1.pool, h2.qRewards.trans h1.qRewards,
   h2.qUnlocks.trans h1.qUnlocks, h2.unlockQueue.trans h1.unlockQueue⟩

theorem frame_vset (s : State) (a : Bytes) (v : Validator) : Frame s (vset s a v) := by
  unfold vset; exact ⟨rfl, rfl, rfl, rfl, rfl, rfl, rfl, rfl, rfl, rfl, rfl⟩

theorem frame_valset (s : State) (x : List (Bytes × Nat)) : Frame s { s with valset := x } :=
  ⟨rfl, rfl, rfl, rfl, rfl, rfl, rfl, rfl, rfl, rfl, rfl⟩

theorem activate_of_not_pending {v : Validator} (h : v.status ≠ .pending) : activate v = v := by
  unfold activate; rw [if_neg h]

theorem activate_pubkey (v : Validator) : (activate v).pubkey = v.pubkey := by
  unfold activate; split <;> rfl
theorem activate_power (v : Validator) : (activate v).power = v.power := by
  unfold activate; split <;> rfl
theorem demote_pubkey (v : Validator) : (demote v).pubkey = v.pubkey := by
  unfold demote; split <;> rfl
theorem demote_power (v : Validator) : (demote v).power = v.power := by
  unfold demote; split <;> rfl
theorem activate_locking (v : Validator) : (activate v).locking = v.locking := by
  unfold activate; split <;> rfl
theorem demote_locking (v : Validator) : (demote v).locking = v.locking := by
  unfold demote; split <;> rfl

theorem activate_status (v : Validator) :
    (activate v).status = if v.status = .pending then .active else v.status := by
  unfold activate; split <;> rfl
theorem demote_status (v : Validator) :
    (demote v).status = if v.status = .active then .pending else v.status := by
  unfold demote; split <;> rfl

/-- a change of the record that keeps the consensus key keeps `pkOf` -/
theorem pk_map {f : Validator → Validator} (hf : ∀ v, (f v).pubkey = v.pubkey) (o : Option Validator) :
    ((o.map f).map (·.pubkey)).getD [] = (o.map (·.pubkey)).getD [] := by
  cases o with
  | none => rfl
  | some v => exact hf v

theorem emit_some {s : State} {e : Nat × Bytes} {x : Update} (h : emit s e = some x) :
    x = { pubkey := pkOf s e.2, power := e.1 } ∧ lookup s.valset e.2 ≠ e.1 := by
  unfold emit at h
  split at h
  · cases h; exact ⟨rfl, by assumption⟩
  · cases h

theorem emit_of_ne {s : State} {e : Nat × Bytes} (h : lookup s.valset e.2 ≠ e.1) :
    emit s e = some { pubkey := pkOf s e.2, power := e.1 } := by
  unfold emit; rw [if_pos h]

/-! ## the first loop of EndBlocker -/

theorem vget_vset (s : State) (a : Bytes) (v : Validator) (b : Bytes) :
    vget (vset s a v) b = if b = a then some v else vget s b := by
  split
  · subst b; exact vget_vset_same _ _ _
  · exact vget_vset_other _ _ _ _ (Ne.symm ‹_›)

theorem vget_eq_ite {s : State} {a : Bytes} {v : Validator} (hv : vget s a = some v) (b : Bytes) :
    vget s b = if b = a then some v else vget s b := by
  split
  · subst b; exact hv
  · rfl

/-- one iteration of the first loop on an entry `(p, a)` whose record `v` is Active, or Pending and
    outside both `last` and the recorded set: the record is `activate`d, the leftover `a` is struck, and
    unless `last` has `a` with power `p` already the entry is recorded anew and reported -/
theorem rankStep_ok {st : State} {last : List (Bytes × Nat)} {ups : List Update} {p : Nat} {a : Bytes} {v : Validator}
    (hv : vget st a = some v) (hp : v.power = p) (hpos : 0 < p)
    (hst : v.status = .active ∨ (v.status = .pending ∧ a ∉ last.map (·.1) ∧ a ∉ st.valset.map (·.1))) :
    ∃ st', C07.rankStep (st, last, ups) (p, a) =
        .ok (st', last.filter (·.1 != a),
             if lookup last a ≠ p then ups ++ [{ pubkey := v.pubkey, power := p }] else ups) ∧
      (∀ b, vget st' b = if b = a then some (activate v) else vget st b) ∧
      st'.valset = (if lookup last a ≠ p then st.valset.filter (·.1 != a) ++ [(a, p)] else st.valset) ∧
      Frame st st' := by
  subst hp
  unfold C07.rankStep
  rcases hst with hact | ⟨hpend, hlast, hvs⟩
  · have hsame : ∀ b, vget st b = if b = a then some (activate v) else vget st b := by
      intro b
      rw [activate_of_not_pending (by rw [hact]; decide)]
      exact vget_eq_ite hv b
    simp only [hv, hact]
    by_cases hold : lookup last a ≠ v.power
    · rw [if_pos hold, if_pos hold]
      exact ⟨_, if_pos hold, hsame, rfl, frame_valset _ _⟩
    · rw [if_neg hold, if_neg hold]
      exact ⟨_, if_neg hold, hsame, rfl, Frame.refl _⟩
  · have hne : lookup last a ≠ v.power := by rw [lookup_of_not_mem hlast]; omega
    simp only [hv, hpend]
    rw [if_neg (by rw [any_key]; exact hlast), if_pos hne, if_pos hne, filter_key_ne hlast, filter_key_ne hvs]
    refine ⟨_, rfl, ?_, rfl, (frame_vset _ _ _).trans (frame_valset _ _)⟩
    intro b
    rw [show activate v = { v with status := .active, offset := 0, missed := 0 } from if_pos hpend]
    exact (vget_congr _ (vset st a { v with status := .active, offset := 0, missed := 0 }) rfl b).trans (vget_vset _ _ _ b)
/-- loop invariant of the first loop, relative to the initial state `s0` and the entries `done`
    already visited: the state, the leftovers of the old set (the Go map `lastSet`), the updates so far -/
structure Inv1 (s0 : State) (done : List (Nat × Bytes)) (st : State) (last : List (Bytes × Nat)) (ups : List Update) : Prop where
  recs : ∀ b, vget st b = if b ∈ done.map (·.2) then (vget s0 b).map activate else vget s0 b
  last_eq : last = dropKeys (done.map (·.2)) s0.valset
  ups_eq : ups = done.filterMap (emit s0)
  vs_nodup : (st.valset.map (·.1)).Nodup
  vs_mem : ∀ a p, (a, p) ∈ st.valset ↔ ((a, p) ∈ s0.valset ∧ a ∉ done.map (·.2)) ∨ (p, a) ∈ done
  frame : Frame s0 st

theorem inv1_init {s0 : State} (h : RankOk s0) : Inv1 s0 [] s0 s0.valset [] where
  recs := by intro b; simp
  last_eq := (dropKeys_nil _).symm
  ups_eq := rfl
  vs_nodup := h.valset_nodup
  vs_mem := by intro a p; simp
  frame := Frame.refl _

/-- records changed by `f` at the keys `D`, and then at a further key `a` -/
theorem recs_step {f : Validator → Validator} {s0 st st' : State} {D : List Bytes} {a : Bytes} {v : Validator}
    (hrec : ∀ b, vget st b = if b ∈ D then (vget s0 b).map f else vget s0 b) (hfresh : a ∉ D)
    (hv : vget s0 a = some v) (hst' : ∀ b, vget st' b = if b = a then some (f v) else vget st b) :
    ∀ b, vget st' b = if b ∈ D ++ [a] then (vget s0 b).map f else vget s0 b := by
  intro b
  rw [hst' b]
  by_cases hb : b = a
  · subst hb
    rw [if_pos rfl, if_pos (List.mem_append_right _ List.mem_cons_self), hv]
    rfl
  · rw [if_neg hb, hrec b]
    simp only [List.mem_append, List.mem_singleton, hb, or_false]

theorem vs_nodup_step {vs : List (Bytes × Nat)} (hn : (vs.map (·.1)).Nodup) (a : Bytes) (p : Nat) :
    ((vs.filter (·.1 != a) ++ [(a, p)]).map (·.1)).Nodup := by
  rw [List.map_append, List.nodup_append]
  refine ⟨List.Nodup.sublist (List.filter_sublist.map _) hn, by simp, ?_⟩
  intro x hx y hy hxy
  obtain ⟨e, he, rfl⟩ := List.mem_map.mp hx
  have hne : e.1 ≠ a := by simpa using (List.mem_filter.mp he).2
  have : y = a := by simpa using hy
  exact hne (hxy.trans this)

theorem vs_mem_step {s0 : State} {done : List (Nat × Bytes)} {vs : List (Bytes × Nat)} {a : Bytes} {p : Nat}
    (hmem : ∀ b q, (b, q) ∈ vs ↔ ((b, q) ∈ s0.valset ∧ b ∉ done.map (·.2)) ∨ (q, b) ∈ done)
    (hfresh : a ∉ done.map (·.2)) (b : Bytes) (q : Nat) :
    (b, q) ∈ vs.filter (·.1 != a) ++ [(a, p)] ↔
      ((b, q) ∈ s0.valset ∧ b ∉ (done ++ [(p, a)]).map (·.2)) ∨ (q, b) ∈ done ++ [(p, a)] := by
  rw [List.mem_append, List.mem_filter, hmem b q, List.map_append, List.mem_append, List.mem_append]
  by_cases hb : b = a
  · subst hb
    have : ∀ q, (q, b) ∉ done := fun q hq => hfresh (List.mem_map.mpr ⟨_, hq, rfl⟩)
    simp [this]
  · simp [hb]

/-- re-recording an entry that is recorded already changes nothing -/
theorem mem_reinsert {vs : List (Bytes × Nat)} (hn : (vs.map (·.1)).Nodup) {a : Bytes} {p : Nat} (h : (a, p) ∈ vs)
    (b : Bytes) (q : Nat) : (b, q) ∈ vs ↔ (b, q) ∈ vs.filter (·.1 != a) ++ [(a, p)] := by
  rw [List.mem_append, List.mem_filter, List.mem_singleton]
  constructor
  · intro hm
    by_cases hb : b = a
    · subst hb
      exact Or.inr (by rw [assoc_unique _ hn b q p hm h])
    · exact Or.inl ⟨hm, by simpa using hb⟩
  · rintro (⟨hm, _⟩ | heq)
    · exact hm
    · rw [heq]; exact h

/-- **one iteration of the first loop** succeeds on a ranked address not yet visited, and maintains
    the invariant -/
theorem rankStep_spec {s0 : State} (h : RankOk s0) {done : List (Nat × Bytes)} {st : State}
    {last : List (Bytes × Nat)} {ups : List Update} (hinv : Inv1 s0 done st last ups)
    {e : Nat × Bytes} (he : e ∈ s0.ranking) (hfresh : e.2 ∉ done.map (·.2)) :
    ∃ st' last' ups', C07.rankStep (st, last, ups) e = .ok (st', last', ups') ∧ Inv1 s0 (done ++ [e]) st' last' ups' := by
  obtain ⟨p, a⟩ := e
  obtain ⟨v, hv, hpow, hpos, hst⟩ := h.rank_rec p a he
  have hva : vget st a = some v := by rw [hinv.recs a, if_neg hfresh]; exact hv
  have hD : (done ++ [(p, a)]).map (·.2) = done.map (·.2) ++ [a] := List.map_append
  have hlk : lookup last a = lookup s0.valset a := by rw [hinv.last_eq]; exact lookup_dropKeys hfresh
  -- a Pending validator is neither a leftover nor recorded
  have hst' : v.status = .active ∨ (v.status = .pending ∧ a ∉ last.map (·.1) ∧ a ∉ st.valset.map (·.1)) := by
    refine hst.imp_right fun hpend => ?_
    have hout := h.pending_out a v hv hpend
    refine ⟨hpend, ?_, ?_⟩
    · rw [hinv.last_eq]
      exact fun hm => hout (((dropKeys_sublist _ _).map _).subset hm)
    · intro hm
      obtain ⟨q, hq⟩ := exists_of_mem_keys hm
      rcases (hinv.vs_mem a q).mp hq with ⟨h1, _⟩ | h1
      · exact hout (mem_keys_of_mem h1)
      · exact hfresh (List.mem_map.mpr ⟨(q, a), h1, rfl⟩)
  obtain ⟨st', hstep, hrec', hvs', hfr⟩ := rankStep_ok (ups := ups) hva hpow hpos hst'
  refine ⟨_, _, _, hstep, ?_, ?_, ?_, ?_, ?_, hinv.frame.trans hfr⟩
  · rw [hD]
    exact recs_step hinv.recs hfresh hv hrec'
  · rw [hD]
    exact (congrArg _ hinv.last_eq).trans (dropKeys_snoc_filter _ _ _)
  · have hpk : pkOf s0 a = v.pubkey := by unfold pkOf; rw [hv]; rfl
    rw [List.filterMap_append, ← hinv.ups_eq, hlk]
    by_cases hne : lookup s0.valset a ≠ p
    · rw [if_pos hne, List.filterMap_cons_some (b := ⟨v.pubkey, p⟩) (by rw [← hpk]; exact emit_of_ne hne), List.filterMap_nil]
    · rw [if_neg hne, List.filterMap_cons_none (by unfold emit; rw [if_neg hne]), List.filterMap_nil, List.append_nil]
  · rw [hvs']
    split
    · exact vs_nodup_step hinv.vs_nodup a p
    · exact hinv.vs_nodup
  · intro b q
    rw [hvs']
    split
    · exact vs_mem_step hinv.vs_mem hfresh b q
    · rename_i hold
      have hap : (a, p) ∈ s0.valset := mem_of_lookup_pos (hlk ▸ Classical.not_not.mp hold) hpos
      exact (mem_reinsert hinv.vs_nodup ((hinv.vs_mem a p).mpr (Or.inl ⟨hap, hfresh⟩)) b q).trans
        (vs_mem_step hinv.vs_mem hfresh b q)

/-! ## the removal loop -/

/-- loop invariant of the removal loop, relative to the state `s1` and the updates `ups1` after the
    first loop and the leavers `done` already visited -/
structure Inv2 (s1 : State) (ups1 : List Update) (done : List (Bytes × Nat)) (st : State) (ups : List Update) : Prop where
  recs : ∀ b, vget st b = if b ∈ done.map (·.1) then (vget s1 b).map demote else vget s1 b
  ups_eq : ups = ups1 ++ done.map (fun e => ({ pubkey := pkOf s1 e.1, power := 0 } : Update))
  vs_eq : st.valset = dropKeys (done.map (·.1)) s1.valset
  frame : Frame s1 st

/-- one iteration of the removal loop on an address with record `v`: the record is `demote`d, the
    entry leaves the recorded set, the removal is reported -/
theorem removeStep_ok {st : State} {ups : List Update} {e : Bytes × Nat} {v : Validator} (hv : vget st e.1 = some v) :
    ∃ st', C07.removeStep (st, ups) e = .ok (st', ups ++ [{ pubkey := v.pubkey, power := 0 }]) ∧
      (∀ b, vget st' b = if b = e.1 then some (demote v) else vget st b) ∧
      st'.valset = st.valset.filter (·.1 != e.1) ∧ Frame st st' := by
  unfold C07.removeStep demote
  simp only [hv]
  by_cases hs : v.status = .active
  · have hb : (v.status == Status.active) = true := by rw [hs]; rfl
    rw [if_pos hb, if_pos hs]
    exact ⟨_, rfl, fun b => (vget_congr _ (vset st e.1 { v with status := .pending }) rfl b).trans (vget_vset _ _ _ b),
      rfl, (frame_vset _ _ _).trans (frame_valset _ _)⟩
  · have hb : ¬ (v.status == Status.active) = true := fun hb => hs (eq_of_beq hb)
    rw [if_neg hb, if_neg hs]
    exact ⟨_, rfl, fun b => (vget_congr _ st rfl b).trans (vget_eq_ite hv b), rfl, frame_valset _ _⟩
theorem removeStep_spec {s1 : State} {ups1 : List Update} {done : List (Bytes × Nat)} {st : State} {ups : List Update}
    (hinv : Inv2 s1 ups1 done st ups) {e : Bytes × Nat} (hrec : ∃ v, vget s1 e.1 = some v)
    (hfresh : e.1 ∉ done.map (·.1)) :
    ∃ st' ups', C07.removeStep (st, ups) e = .ok (st', ups') ∧ Inv2 s1 ups1 (done ++ [e]) st' ups' := by
  obtain ⟨v, hv⟩ := hrec
  have hva : vget st e.1 = some v := by rw [hinv.recs e.1, if_neg hfresh]; exact hv
  have hD : (done ++ [e]).map (·.1) = done.map (·.1) ++ [e.1] := List.map_append
  obtain ⟨st', hstep, hrec', hvs', hfr⟩ := removeStep_ok (ups := ups) hva
  refine ⟨_, _, hstep, ?_, ?_, ?_, hinv.frame.trans hfr⟩
  · rw [hD]
    exact recs_step hinv.recs hfresh hv hrec'
  · rw [hinv.ups_eq, List.map_append, List.append_assoc]
    simp only [List.map_cons, List.map_nil, pkOf, hv, Option.map_some, Option.getD_some]
  · rw [hvs', hinv.vs_eq, hD]
    exact dropKeys_snoc_filter _ _ _

/-! ## EndBlocker never fails; closed form of its result -/

theorem top_sub_ranking (s : State) : ∀ e ∈ top s, e ∈ s.ranking := by
  intro e he
  exact (rankingDesc_perm s).mem_iff.mp (List.mem_of_mem_take he)

theorem top_rec {s : State} (h : RankOk s) {p : Nat} {a : Bytes} (hx : (p, a) ∈ top s) :
    ∃ v, vget s a = some v ∧ v.power = p ∧ 0 < p ∧ (v.status = .active ∨ v.status = .pending) :=
  h.rank_rec p a (top_sub_ranking s _ hx)

theorem top_addrs_nodup {s : State} (h : RankOk s) : ((top s).map (·.2)).Nodup := by
  have h1 : ((rankingDesc s).map (·.2)).Nodup := ((rankingDesc_perm s).map (·.2)).symm.nodup h.rank_nodup
  exact List.Nodup.sublist ((List.take_sublist _ _).map _) h1

theorem top_nodup {s : State} (h : RankOk s) : (top s).Nodup := nodup_of_map _ (top_addrs_nodup h)

theorem mem_leavers {s : State} {e : Bytes × Nat} : e ∈ leavers s ↔ e ∈ s.valset ∧ e.1 ∉ (top s).map (·.2) := by
  unfold leavers
  exact (List.mergeSort_perm _ _).mem_iff.trans mem_dropKeys

theorem leavers_addrs_nodup {s : State} (h : RankOk s) : ((leavers s).map (·.1)).Nodup := by
  unfold leavers
  have h1 : ((dropKeys ((top s).map (·.2)) s.valset).map (·.1)).Nodup :=
    List.Nodup.sublist ((dropKeys_sublist _ _).map _) h.valset_nodup
  exact ((List.mergeSort_perm _ _).map (fun x : Bytes × Nat => x.1)).symm.nodup h1

theorem leaver_not_top {s : State} {b : Bytes} (hb : b ∈ (leavers s).map (·.1)) : b ∉ (top s).map (·.2) := by
  obtain ⟨q, hq⟩ := exists_of_mem_keys hb
  exact (mem_leavers.mp hq).2

theorem top_has_record {s : State} (h : RankOk s) {e : Nat × Bytes} (he : e ∈ top s) : ∃ v, vget s e.2 = some v :=
  (top_rec h he).imp fun _ hv => hv.1

theorem top_pos {s : State} (h : RankOk s) {e : Nat × Bytes} (he : e ∈ top s) : 0 < e.1 :=
  (top_rec h he).elim fun _ hv => hv.2.2.1

theorem leaver_has_record {s : State} (h : RankOk s) {e : Bytes × Nat} (he : e ∈ leavers s) : ∃ v, vget s e.1 = some v :=
  h.valset_rec e.1 e.2 (mem_leavers.mp he).1

/-- the state after EndBlocker, relative to the state before -/
structure Post (s s' : State) : Prop where
  /-- (3b) joiners are activated (counters reset), leavers that were Active become Pending, every
      other record is unchanged -/
  recs : ∀ b, vget s' b =
    if b ∈ (top s).map (·.2) then (vget s b).map activate
    else if b ∈ (leavers s).map (·.1) then (vget s b).map demote else vget s b
  vs_nodup : (s'.valset.map (·.1)).Nodup
  /-- (3a) the recorded set is the top of the ranking -/
  vs_mem : ∀ a p, (a, p) ∈ s'.valset ↔ (p, a) ∈ top s
  frame : Frame s s'

/-- **EndBlocker in closed form**: from `RankOk` it succeeds, returns `updatesOf s`, and the new
    state satisfies `Post` -/
theorem endBlocker_closed_form {s : State} (h : RankOk s) : ∃ s', endBlocker s = .ok (s', updatesOf s) ∧ Post s s' := by
  obtain ⟨⟨s1, lo, ups1⟩, hphase, (hinv1 : Inv1 s (top s) s1 lo ups1)⟩ :=
    foldlM_steps (step := C07.rankStep) (fun d acc => Inv1 s d acc.1 acc.2.1 acc.2.2) (top s)
      (fun done e rest acc hl hinv => by
        obtain ⟨_, _, _, h1, h2⟩ := rankStep_spec h hinv
          (top_sub_ranking s e (hl ▸ List.mem_append_right _ List.mem_cons_self))
          (not_mem_prefix_of_nodup (fun x : Nat × Bytes => x.2) (hl ▸ top_addrs_nodup h))
        exact ⟨_, h1, h2⟩)
      (acc := (s, s.valset, [])) (inv1_init h)
  have hrec1 : ∀ e ∈ leavers s, ∃ v, vget s1 e.1 = some v := by
    intro e he
    rw [hinv1.recs e.1, if_neg (mem_leavers.mp he).2]
    exact leaver_has_record h he
  obtain ⟨⟨s2, ups2⟩, hfold2, (hinv2 : Inv2 s1 ups1 (leavers s) s2 ups2)⟩ :=
    foldlM_steps (step := C07.removeStep) (fun d acc => Inv2 s1 ups1 d acc.1 acc.2) (leavers s)
      (fun done e rest acc hl hinv => by
        obtain ⟨_, _, h1, h2⟩ := removeStep_spec hinv (hrec1 e (hl ▸ List.mem_append_right _ List.mem_cons_self))
          (not_mem_prefix_of_nodup (fun x : Bytes × Nat => x.1) (hl ▸ leavers_addrs_nodup h))
        exact ⟨_, h1, h2⟩)
      (acc := (s1, ups1)) ⟨by intro b; simp, by simp, (dropKeys_nil _).symm, Frame.refl _⟩
  have hlo : lo = dropKeys ((top s).map (·.2)) s.valset := hinv1.last_eq
  subst hlo
  have hups : ups2 = updatesOf s := by
    rw [hinv2.ups_eq, hinv1.ups_eq]
    unfold updatesOf
    congr 1
    apply List.map_congr_left
    intro e he
    rw [pkOf, pkOf, hinv1.recs e.1, if_neg (mem_leavers.mp he).2]
  subst hups
  refine ⟨s2, ?_, ?_⟩
  · rw [C07.endBlocker_eq]
    unfold C07.endBlockerWith
    rw [show C07.rankPhase s = .ok (s1, _, ups1) from hphase]
    exact hfold2
  · refine ⟨?_, ?_, ?_, hinv1.frame.trans hinv2.frame⟩
    · intro b
      rw [hinv2.recs b]
      by_cases hb : b ∈ (top s).map (·.2)
      · have hnl : b ∉ (leavers s).map (·.1) := fun hl => leaver_not_top hl hb
        rw [if_neg hnl, if_pos hb, hinv1.recs b, if_pos hb]
      · rw [if_neg hb, hinv1.recs b, if_neg hb]
    · rw [hinv2.vs_eq]
      exact List.Nodup.sublist ((dropKeys_sublist _ _).map _) hinv1.vs_nodup
    · intro a p
      rw [hinv2.vs_eq, mem_dropKeys, hinv1.vs_mem a p]
      constructor
      · rintro ⟨⟨h1, h2⟩ | h1, h3⟩
        · exact absurd (mem_keys_of_mem (mem_leavers.mpr ⟨h1, h2⟩)) h3
        · exact h1
      · intro h1
        have hb : a ∈ (top s).map (·.2) := List.mem_map.mpr ⟨(p, a), h1, rfl⟩
        exact ⟨Or.inr h1, fun hl => leaver_not_top hl hb⟩

/-- **(2) EndBlocker never fails** from a state satisfying `RankOk`: the errors "not-found",
    "pending-in-set" and "status-in-ranking" are unreachable, and there is no panic -/
theorem endBlocker_never_fails {s : State} (h : RankOk s) : ∃ s' ups, endBlocker s = .ok (s', ups) := by
  obtain ⟨s', hs', _⟩ := endBlocker_closed_form h
  exact ⟨s', _, hs'⟩

theorem endBlocker_result {s s' : State} {ups : List Update} (h : RankOk s) (he : endBlocker s = .ok (s', ups)) :
    ups = updatesOf s ∧ Post s s' := by
  obtain ⟨s2, hs2, hpost⟩ := endBlocker_closed_form h
  rw [hs2] at he
  cases he
  exact ⟨rfl, hpost⟩

/-! ## the state after EndBlocker -/

section PostState
variable {s s' : State} {ups : List Update}

theorem mem_new_addrs (hp : Post s s') (b : Bytes) : b ∈ s'.valset.map (·.1) ↔ b ∈ (top s).map (·.2) := by
  constructor
  · intro hb
    obtain ⟨q, hq⟩ := exists_of_mem_keys hb
    exact List.mem_map.mpr ⟨(q, b), (hp.vs_mem b q).mp hq, rfl⟩
  · intro hb
    obtain ⟨e, he, rfl⟩ := List.mem_map.mp hb
    exact mem_keys_of_mem ((hp.vs_mem e.2 e.1).mpr he)

theorem mem_leaver_addrs (b : Bytes) :
    b ∈ (leavers s).map (·.1) ↔ b ∈ s.valset.map (·.1) ∧ b ∉ (top s).map (·.2) := by
  constructor
  · intro hb
    obtain ⟨q, hq⟩ := exists_of_mem_keys hb
    obtain ⟨h1, h2⟩ := mem_leavers.mp hq
    exact ⟨mem_keys_of_mem h1, h2⟩
  · rintro ⟨h1, h2⟩
    obtain ⟨q, hq⟩ := exists_of_mem_keys h1
    exact mem_keys_of_mem (mem_leavers.mpr ⟨hq, h2⟩)

/-- **(3a) the recorded set after EndBlocker is exactly the top-`maxValidators` of the ranking**
    (descending power, ties as in `rankingDesc`), each entry as `(address, power)` -/
theorem valset_is_top (h : RankOk s) (he : endBlocker s = .ok (s', ups)) :
    s'.valset.Perm ((top s).map (fun e => (e.2, e.1))) := by
  obtain ⟨_, hp⟩ := endBlocker_result h he
  have hn2 : ((top s).map (fun e : Nat × Bytes => (e.2, e.1))).Nodup := by
    apply nodup_of_map (fun x : Bytes × Nat => x.1)
    rw [List.map_map]
    exact top_addrs_nodup h
  rw [List.perm_ext_iff_of_nodup (nodup_of_map _ hp.vs_nodup) hn2]
  rintro ⟨a, p⟩
  rw [hp.vs_mem a p, List.mem_map]
  exact ⟨fun hm => ⟨(p, a), hm, rfl⟩, fun ⟨_, hm, heq⟩ => by cases heq; exact hm⟩

/-- (3a) at most the configured maximum -/
theorem valset_size_le_max (h : RankOk s) (he : endBlocker s = .ok (s', ups)) :
    (s'.valset.length : Int) ≤ s'.params.maxValidators := by
  obtain ⟨_, hp⟩ := endBlocker_result h he
  have h1 := (valset_is_top h he).length_eq
  rw [List.length_map] at h1
  have h2 : (top s).length ≤ s.params.maxValidators.toNat := List.length_take_le _ _
  have h3 := h.max_nonneg
  rw [hp.frame.params]
  omega

/-- (3a) every member is Active in the new state, recorded with exactly its current, positive power -/
theorem valset_members_active (h : RankOk s) (he : endBlocker s = .ok (s', ups)) {a : Bytes} {p : Nat}
    (hm : (a, p) ∈ s'.valset) : ∃ v, vget s' a = some v ∧ v.status = .active ∧ v.power = p ∧ 0 < p := by
  obtain ⟨_, hp⟩ := endBlocker_result h he
  have ht := (hp.vs_mem a p).mp hm
  obtain ⟨v, hv, hpow, hpos, hst⟩ := top_rec h ht
  refine ⟨activate v, ?_, ?_, by rw [activate_power]; exact hpow, hpos⟩
  · rw [hp.recs a, if_pos (List.mem_map.mpr ⟨(p, a), ht, rfl⟩), hv]; rfl
  · rw [activate_status]
    rcases hst with hst | hst
    · rw [if_neg (by rw [hst]; decide), hst]
    · rw [if_pos hst]

/-- (3a) and conversely every top entry is a member -/
theorem top_is_member (h : RankOk s) (he : endBlocker s = .ok (s', ups)) {a : Bytes} {p : Nat}
    (hm : (p, a) ∈ top s) : (a, p) ∈ s'.valset :=
  ((endBlocker_result h he).2.vs_mem a p).mpr hm

/-- the top of a sorted list dominates the rest -/
theorem top_dominates (s : State) {x y : Nat × Bytes} (hx : x ∈ top s) (hy : y ∈ s.ranking) (hny : y ∉ top s) :
    rle x y = true := by
  have hs := rankingDesc_sorted s
  rw [← List.take_append_drop s.params.maxValidators.toNat (rankingDesc s), List.pairwise_append] at hs
  have hy' : y ∈ rankingDesc s := (rankingDesc_perm s).mem_iff.mpr hy
  rw [← List.take_append_drop s.params.maxValidators.toNat (rankingDesc s), List.mem_append] at hy'
  rcases hy' with hy' | hy'
  · exact absurd hy' hny
  · exact hs.2.2 x hx y hy'

/-- the Go loop's guard "invalid iterator: validator power is bigger than before" (not in the model)
    can never fire: the walked entries come in non-increasing power -/
theorem top_powers_descending (s : State) : (top s).Pairwise (fun a b => b.1 ≤ a.1) := by
  have h1 : (top s).Pairwise (fun a b => rle a b = true) :=
    (rankingDesc_sorted s).sublist (List.take_sublist _ _)
  refine h1.imp ?_
  intro a b hab
  rw [rle_iff] at hab
  rcases hab with h | ⟨h, _⟩ <;> omega

/-- **(3a) no ranked (eligible) non-member has more power than a member**, in the order used by
    `rankingDesc`: a non-member has less power, or the same power and an address that does not come
    after the member's -/
theorem valset_dominates (h : RankOk s) (he : endBlocker s = .ok (s', ups)) {a b : Bytes} {p q : Nat}
    (hm : (a, p) ∈ s'.valset) (hr : (q, b) ∈ s'.ranking) (hnm : b ∉ s'.valset.map (·.1)) :
    q < p ∨ (q = p ∧ bytesLt a b = false) := by
  obtain ⟨_, hp⟩ := endBlocker_result h he
  rw [hp.frame.ranking] at hr
  have hnt : (q, b) ∉ top s := fun ht => hnm (mem_keys_of_mem ((hp.vs_mem b q).mpr ht))
  have := top_dominates s ((hp.vs_mem a p).mp hm) hr hnt
  rw [rle_iff] at this
  rcases this with h1 | ⟨h1, h2⟩
  · exact Or.inl h1
  · exact Or.inr ⟨h1.symm, h2⟩

/-- (3a) the same with the tie-break made strict: among equal powers the members are the greater
    addresses (EndBlocker iterates the ranking in reverse key order) -/
theorem valset_dominates_strict (h : RankOk s) (he : endBlocker s = .ok (s', ups)) {a b : Bytes} {p q : Nat}
    (hm : (a, p) ∈ s'.valset) (hr : (q, b) ∈ s'.ranking) (hnm : b ∉ s'.valset.map (·.1)) :
    q < p ∨ (q = p ∧ bytesLt b a = true) := by
  rcases valset_dominates h he hm hr hnm with h1 | ⟨h1, h2⟩
  · exact Or.inl h1
  · refine Or.inr ⟨h1, ?_⟩
    have hab : b ≠ a := fun heq => hnm (heq ▸ mem_keys_of_mem hm)
    rcases C18.bytesLt_tri b a with h3 | h3 | h3
    · exact h3
    · exact absurd h3 hab
    · rw [h3] at h2; cases h2

/-- **(3b) the validator records after EndBlocker**: a member of the new set has its record
    `activate`d (a Pending joiner becomes Active with `offset`, `missed` reset; an Active one is
    untouched); a member of the old set that is not in the new one has its record `demote`d (Active
    becomes Pending, anything else — e.g. Downgrade, Tombstoned, Inactive — is untouched); every other
    record is unchanged -/
theorem records_after (h : RankOk s) (he : endBlocker s = .ok (s', ups)) (b : Bytes) :
    (b ∈ s'.valset.map (·.1) → vget s' b = (vget s b).map activate) ∧
    (b ∉ s'.valset.map (·.1) → b ∈ s.valset.map (·.1) → vget s' b = (vget s b).map demote) ∧
    (b ∉ s'.valset.map (·.1) → b ∉ s.valset.map (·.1) → vget s' b = vget s b) := by
  obtain ⟨_, hp⟩ := endBlocker_result h he
  rw [mem_new_addrs hp b]
  refine ⟨?_, ?_, ?_⟩
  · intro hb; rw [hp.recs b, if_pos hb]
  · intro hb hold
    rw [hp.recs b, if_neg hb, if_pos ((mem_leaver_addrs b).mpr ⟨hold, hb⟩)]
  · intro hb hold
    rw [hp.recs b, if_neg hb, if_neg (fun hl => hold ((mem_leaver_addrs b).mp hl).1)]

/-- (3b) nothing but the validator records and the recorded set changes -/
theorem frame_after (h : RankOk s) (he : endBlocker s = .ok (s', ups)) : Frame s s' :=
  (endBlocker_result h he).2.frame

theorem rec_forward (hp : Post s s') {b : Bytes} {v : Validator} (hv : vget s b = some v) :
    ∃ v', vget s' b = some v' ∧ (v' = activate v ∨ v' = demote v ∨ v' = v) := by
  rw [hp.recs b, hv]
  split
  · exact ⟨_, rfl, Or.inl rfl⟩
  · split
    · exact ⟨_, rfl, Or.inr (Or.inl rfl)⟩
    · exact ⟨_, rfl, Or.inr (Or.inr rfl)⟩

theorem rec_backward (hp : Post s s') {b : Bytes} {v' : Validator} (hv' : vget s' b = some v') :
    ∃ v, vget s b = some v ∧ (v' = activate v ∨ v' = demote v ∨ v' = v) := by
  cases hv : vget s b with
  | none =>
    rw [hp.recs b, hv] at hv'
    split at hv'
    · cases hv'
    · split at hv' <;> cases hv'
  | some v =>
    obtain ⟨v2, h1, h2⟩ := rec_forward hp hv
    rw [hv'] at h1
    cases h1
    exact ⟨v, rfl, h2⟩

theorem activate_eligible_iff (v : Validator) :
    ((activate v).status = .active ∨ (activate v).status = .pending) ↔ (v.status = .active ∨ v.status = .pending) := by
  rw [activate_status]
  generalize v.status = st
  cases st <;> simp

theorem demote_eligible_iff (v : Validator) :
    ((demote v).status = .active ∨ (demote v).status = .pending) ↔ (v.status = .active ∨ v.status = .pending) := by
  rw [demote_status]
  generalize v.status = st
  cases st <;> simp

/-- activation / demotion keep power, public key, eligibility and the locked coins -/
theorem rec_same {v v' : Validator} (h : v' = activate v ∨ v' = demote v ∨ v' = v) :
    v'.power = v.power ∧ v'.pubkey = v.pubkey ∧
    ((v'.status = .active ∨ v'.status = .pending) ↔ (v.status = .active ∨ v.status = .pending)) ∧
    v'.locking = v.locking := by
  rcases h with rfl | rfl | rfl
  · exact ⟨activate_power v, activate_pubkey v, activate_eligible_iff v, activate_locking v⟩
  · exact ⟨demote_power v, demote_pubkey v, demote_eligible_iff v, demote_locking v⟩
  · exact ⟨rfl, rfl, Iff.rfl, rfl⟩

/-- **(3c) `RankOk` is preserved by EndBlocker** (all seven conjuncts) -/
theorem rankOk_preserved (h : RankOk s) (he : endBlocker s = .ok (s', ups)) : RankOk s' := by
  obtain ⟨_, hp⟩ := endBlocker_result h he
  refine ⟨?_, ?_, ?_, hp.vs_nodup, ?_, ?_, ?_⟩
  · rw [hp.frame.ranking]; exact h.rank_nodup
  · intro p a hm
    rw [hp.frame.ranking] at hm
    obtain ⟨v, hv, hpow, hpos, hst⟩ := h.rank_rec p a hm
    obtain ⟨v', hv', hrel⟩ := rec_forward hp hv
    obtain ⟨h1, _, h3, _⟩ := rec_same hrel
    exact ⟨v', hv', h1.trans hpow, hpos, h3.mpr hst⟩
  · intro a v' hv' hst hpos
    obtain ⟨v, hv, hrel⟩ := rec_backward hp hv'
    obtain ⟨h1, _, h3, _⟩ := rec_same hrel
    rw [hp.frame.ranking, h1]
    exact h.rank_complete a v hv (h3.mp hst) (h1 ▸ hpos)
  · intro a p hm
    obtain ⟨v, hv, _⟩ := valset_members_active h he hm
    exact ⟨v, hv⟩
  · intro a v hv hst hm
    obtain ⟨q, hq⟩ := exists_of_mem_keys hm
    obtain ⟨v2, hv2, hact, _⟩ := valset_members_active h he hq
    rw [hv] at hv2
    cases hv2
    rw [hst] at hact
    cases hact
  · rw [hp.frame.params]; exact h.max_nonneg

/-- (3a) in terms of validator records of the new state: any Active-or-Pending validator with positive
    power outside the new set is dominated by every member -/
theorem valset_dominates_eligible (h : RankOk s) (he : endBlocker s = .ok (s', ups)) {a b : Bytes} {p : Nat}
    {vb : Validator} (hm : (a, p) ∈ s'.valset) (hvb : vget s' b = some vb)
    (hst : vb.status = .active ∨ vb.status = .pending) (hpos : 0 < vb.power) (hnm : b ∉ s'.valset.map (·.1)) :
    vb.power < p ∨ (vb.power = p ∧ bytesLt b a = true) :=
  valset_dominates_strict h he hm ((rankOk_preserved h he).rank_complete b vb hvb hst hpos) hnm

/-- consequence of (3a)+(3b): outside the new set nobody is Active -/
theorem non_member_not_active (h : RankOk s) (he : endBlocker s = .ok (s', ups)) {b : Bytes} {v : Validator}
    (hv : vget s' b = some v) (hnm : b ∉ s'.valset.map (·.1)) (hold : b ∈ s.valset.map (·.1)) :
    v.status ≠ .active := by
  have := (records_after h he b).2.1 hnm hold
  rw [hv] at this
  cases hv0 : vget s b with
  | none => rw [hv0] at this; cases this
  | some v0 =>
    rw [hv0] at this
    cases this
    rw [demote_status]
    split
    · decide
    · assumption

end PostState

/-! ## the updates are acceptable to CometBFT -/

/-- distinct validators have distinct consensus keys (the address is a hash of the key) -/
def PkInj (s : State) : Prop :=
  ∀ a b va vb, vget s a = some va → vget s b = some vb → va.pubkey = vb.pubkey → a = b

/-- the module's record of the active set, as CometBFT sees it: (public key, power) -/
def cometOf (s : State) : Comet.VSet := s.valset.map (fun e => (pkOf s e.1, e.2))

/-- **the CometBFT set equals the module's record** (as sets: CometBFT keeps its own order) -/
def Sync (s : State) (cs : Comet.VSet) : Prop := cs.Perm (cometOf s)

/-- how the update list is handed to CometBFT: `int64(power)` -/
def toComet (ups : List Update) : List (Bytes × Int) := ups.map (fun u => (u.pubkey, Comet.toInt64 u.power))

theorem toComet_eq (ups : List Update) : toComet ups = C07.toComet ups := rfl

theorem toInt64_le {p : Nat} (h : p ≤ Comet.maxTotal) : Comet.toInt64 p = p :=
  C13.toInt64_small p (by unfold Comet.maxTotal at h; unfold two63; omega)

theorem toInt64_zero : Comet.toInt64 0 = 0 := by decide

theorem pk_inj {s : State} (hi : PkInj s) {a b : Bytes} (ha : ∃ v, vget s a = some v) (hb : ∃ v, vget s b = some v)
    (h : pkOf s a = pkOf s b) : a = b := by
  obtain ⟨va, hva⟩ := ha
  obtain ⟨vb, hvb⟩ := hb
  apply hi a b va vb hva hvb
  simpa [pkOf, hva, hvb] using h

theorem nodup_map_pk {α} {s : State} (hi : PkInj s) (key : α → Bytes) (l : List α) (hn : (l.map key).Nodup)
    (hrec : ∀ x ∈ l, ∃ v, vget s (key x) = some v) : (l.map (fun x => pkOf s (key x))).Nodup := by
  rw [List.Nodup, List.pairwise_map] at hn ⊢
  exact hn.imp_of_mem (fun hx hy hne heq => hne (pk_inj hi (hrec _ hx) (hrec _ hy) heq))

theorem snd_key_unique {l : List (Nat × Bytes)} (hn : (l.map (·.2)).Nodup) {p q : Nat} {a : Bytes}
    (h1 : (p, a) ∈ l) (h2 : (q, a) ∈ l) : p = q := by
  have hn' : ((l.map (fun e : Nat × Bytes => (e.2, e.1))).map (·.1)).Nodup := by rw [List.map_map]; exact hn
  exact assoc_unique _ hn' a p q (List.mem_map.mpr ⟨(p, a), h1, rfl⟩) (List.mem_map.mpr ⟨(q, a), h2, rfl⟩)

theorem mem_cometOf {s : State} {k : Bytes} {p : Nat} : (k, p) ∈ cometOf s ↔ ∃ a, (a, p) ∈ s.valset ∧ pkOf s a = k := by
  unfold cometOf
  rw [List.mem_map]
  constructor
  · rintro ⟨⟨a, q⟩, he, heq⟩
    cases heq
    exact ⟨a, he, rfl⟩
  · rintro ⟨a, ha, rfl⟩
    exact ⟨(a, p), ha, rfl⟩

theorem cometOf_keys_nodup {s : State} (h : RankOk s) (hi : PkInj s) : ((cometOf s).map (·.1)).Nodup := by
  unfold cometOf
  rw [List.map_map]
  exact nodup_map_pk hi (fun e : Bytes × Nat => e.1) s.valset h.valset_nodup (fun x hx => h.valset_rec x.1 x.2 hx)

section After
variable {s s' : State}

theorem pkOf_after (hp : Post s s') (b : Bytes) : pkOf s' b = pkOf s b := by
  rw [pkOf, hp.recs b]
  split
  · exact pk_map activate_pubkey _
  · split
    · exact pk_map demote_pubkey _
    · rfl

/-- distinctness of the consensus keys is preserved by EndBlocker -/
theorem pkInj_after (hp : Post s s') (hi : PkInj s) : PkInj s' := by
  intro a b va vb hva hvb heq
  obtain ⟨va0, ha0, hra⟩ := rec_backward hp hva
  obtain ⟨vb0, hb0, hrb⟩ := rec_backward hp hvb
  apply hi a b va0 vb0 ha0 hb0
  rw [← (rec_same hra).2.1, ← (rec_same hrb).2.1]
  exact heq

end After

/-! ### the shape of the update list -/

theorem mem_updatesOf {s : State} {x : Update} :
    x ∈ updatesOf s ↔ (∃ e ∈ top s, emit s e = some x) ∨ (∃ e ∈ leavers s, { pubkey := pkOf s e.1, power := 0 } = x) := by
  unfold updatesOf
  rw [List.mem_append, List.mem_filterMap, List.mem_map]

theorem filterMap_emit_sublist (s : State) : ∀ l : List (Nat × Bytes),
    ((l.filterMap (emit s)).map (·.pubkey)).Sublist (l.map (fun e => pkOf s e.2))
  | [] => List.Sublist.slnil
  | e :: l => by
    rw [List.filterMap_cons]
    cases hem : emit s e with
    | none => exact (filterMap_emit_sublist s l).cons _
    | some x =>
      simp only [List.map_cons]
      rw [(emit_some hem).1]
      exact (filterMap_emit_sublist s l).cons_cons _

/-- **no duplicate**: the public keys of the update list are pairwise distinct -/
theorem updates_pubkeys_nodup {s : State} (h : RankOk s) (hi : PkInj s) : ((updatesOf s).map (·.pubkey)).Nodup := by
  unfold updatesOf
  rw [List.map_append, List.nodup_append]
  refine ⟨?_, ?_, ?_⟩
  · exact List.Nodup.sublist (filterMap_emit_sublist s (top s))
      (nodup_map_pk hi (fun e : Nat × Bytes => e.2) (top s) (top_addrs_nodup h) (fun _ => top_has_record h))
  · rw [List.map_map]
    exact nodup_map_pk hi (fun e : Bytes × Nat => e.1) (leavers s) (leavers_addrs_nodup h) (fun _ => leaver_has_record h)
  · intro k hk k' hk' heq
    subst heq
    obtain ⟨x, hx, rfl⟩ := List.mem_map.mp hk
    obtain ⟨e, he, hem⟩ := List.mem_filterMap.mp hx
    rw [List.map_map] at hk'
    obtain ⟨l, hl, hlk⟩ := List.mem_map.mp hk'
    simp only [Function.comp] at hlk
    rw [(emit_some hem).1] at hlk
    have := pk_inj hi (leaver_has_record h hl) (top_has_record h he) hlk
    exact (mem_leavers.mp hl).2 (this ▸ List.mem_map.mpr ⟨e, he, rfl⟩)

/-- **no removal of a non-member**: every zero-power update names the key of a recorded member -/
theorem no_removal_of_non_member {s : State} (h : RankOk s) {x : Update} (hx : x ∈ updatesOf s) (h0 : x.power = 0) :
    ∃ a p, (a, p) ∈ s.valset ∧ pkOf s a = x.pubkey := by
  rcases mem_updatesOf.mp hx with ⟨e, he, hem⟩ | ⟨e, he, rfl⟩
  · rw [(emit_some hem).1] at h0
    exact absurd h0 (Nat.ne_of_gt (top_pos h he))
  · exact ⟨e.1, e.2, (mem_leavers.mp he).1, rfl⟩

/-- **no zero-power addition**: an update for a key that is not a recorded member has positive power -/
theorem no_zero_power_addition {s : State} (h : RankOk s) {x : Update} (hx : x ∈ updatesOf s)
    (hnew : ∀ a p, (a, p) ∈ s.valset → pkOf s a ≠ x.pubkey) : 0 < x.power := by
  cases hp : x.power with
  | zero =>
    obtain ⟨a, p, hm, hk⟩ := no_removal_of_non_member h hx hp
    exact absurd hk (hnew a p hm)
  | succ n => omega

theorem toComet_keys_nodup {s : State} (h : RankOk s) (hi : PkInj s) : ((toComet (updatesOf s)).map (·.1)).Nodup := by
  unfold toComet
  rw [List.map_map]
  exact updates_pubkeys_nodup h hi

/-- **no duplicate**, in the form CometBFT checks it -/
theorem no_duplicate_pubkey {s : State} (h : RankOk s) (hi : PkInj s) :
    Comet.hasDup ((toComet (updatesOf s)).map (·.1)) = false :=
  (C07.hasDup_false_iff_nodup _).mpr (toComet_keys_nodup h hi)

/-! ### the two excluded cases, seen from the state before EndBlocker -/

/-- the total power of the new set is the total power of the top of the ranking -/
theorem total_after {s s' : State} {ups : List Update} (h : RankOk s) (he : endBlocker s = .ok (s', ups)) :
    Comet.total (cometOf s') = ((top s).map (·.1)).sum := by
  unfold Comet.total cometOf
  rw [List.map_map]
  have := ((valset_is_top h he).map (fun e : Bytes × Nat => e.2)).sum_nat
  rw [List.map_map] at this
  exact this

/-- the new set is empty exactly when the top of the ranking is: no validator with positive power, or
    `maxValidators = 0` -/
theorem empty_after_iff {s s' : State} {ups : List Update} (h : RankOk s) (he : endBlocker s = .ok (s', ups)) :
    s'.valset = [] ↔ top s = [] := by
  rw [← List.length_eq_zero_iff, ← List.length_eq_zero_iff, (valset_is_top h he).length_eq, List.length_map]

/-- with an empty top every member leaves: there are updates exactly when there were members -/
theorem updatesOf_eq_nil_iff {s : State} (htop : top s = []) : updatesOf s = [] ↔ s.valset = [] := by
  have hlen : (leavers s).length = s.valset.length := by
    unfold leavers
    rw [(List.mergeSort_perm _ _).length_eq, htop, List.map_nil, dropKeys_nil]
  unfold updatesOf
  rw [htop, List.filterMap_nil, List.nil_append, List.map_eq_nil_iff, ← List.length_eq_zero_iff, hlen,
    List.length_eq_zero_iff]

/-- the list handed to CometBFT, entry by entry, when no power of the top exceeds `maxTotal` (so that
    `int64(power)` is the power) -/
theorem mem_toComet_updatesOf {s : State} (hsmall : ∀ e ∈ top s, e.1 ≤ Comet.maxTotal) {k : Bytes} {u : Int} :
    (k, u) ∈ toComet (updatesOf s) ↔
      (∃ p a, (p, a) ∈ top s ∧ lookup s.valset a ≠ p ∧ k = pkOf s a ∧ u = (p : Int)) ∨
      (∃ e ∈ leavers s, k = pkOf s e.1 ∧ u = 0) := by
  unfold toComet
  rw [List.mem_map]
  constructor
  · rintro ⟨x, hx, heq⟩
    obtain ⟨hk, hu⟩ := Prod.mk.inj heq
    rcases mem_updatesOf.mp hx with ⟨e, he, hem⟩ | ⟨e, he, rfl⟩
    · obtain ⟨rfl, hne⟩ := emit_some hem
      exact Or.inl ⟨e.1, e.2, he, hne, hk.symm, by rw [← hu]; exact toInt64_le (hsmall e he)⟩
    · exact Or.inr ⟨e, he, hk.symm, by rw [← hu]; exact toInt64_zero⟩
  · rintro (⟨p, a, hx, hne, rfl, rfl⟩ | ⟨e, he, rfl, rfl⟩)
    · exact ⟨_, mem_updatesOf.mpr (Or.inl ⟨(p, a), hx, emit_of_ne hne⟩), by rw [toInt64_le (hsmall _ hx)]⟩
    · exact ⟨_, mem_updatesOf.mpr (Or.inr ⟨e, he, rfl⟩), by rw [toInt64_zero]⟩

theorem mem_of_sync {s : State} {cs : Comet.VSet} (hsync : Sync s cs) {k : Bytes} {p : Nat} :
    (k, p) ∈ cs ↔ ∃ a, (a, p) ∈ s.valset ∧ pkOf s a = k :=
  hsync.mem_iff.trans mem_cometOf

/-- CometBFT is told about a recorded member exactly when it is not an unchanged entry of the top -/
theorem member_updated_iff {s : State} (h : RankOk s) (hi : PkInj s) (hsmall : ∀ e ∈ top s, e.1 ≤ Comet.maxTotal)
    {a : Bytes} {p : Nat} (hold : (a, p) ∈ s.valset) :
    pkOf s a ∈ (toComet (updatesOf s)).map (·.1) ↔ (p, a) ∉ top s := by
  have hlk : lookup s.valset a = p := lookup_of_mem h.valset_nodup hold
  constructor
  · intro hkm hx
    obtain ⟨u, hu⟩ := exists_of_mem_keys hkm
    rcases (mem_toComet_updatesOf hsmall).mp hu with ⟨p', a', hx', hne', hk', _⟩ | ⟨e, he', hk', _⟩
    · cases pk_inj hi (top_has_record h hx) (top_has_record h hx') hk'
      exact hne' (hlk.trans (snd_key_unique (top_addrs_nodup h) hx hx'))
    · have haa : a = e.1 := pk_inj hi (top_has_record h hx) (leaver_has_record h he') hk'
      exact (mem_leavers.mp he').2 (haa ▸ List.mem_map.mpr ⟨(p, a), hx, rfl⟩)
  · intro hnx
    by_cases hat : a ∈ (top s).map (·.2)
    · obtain ⟨⟨q, a'⟩, hx, rfl⟩ := List.mem_map.mp hat
      have hne : lookup s.valset a' ≠ q := fun hq => hnx ((hlk.symm.trans hq) ▸ hx)
      exact mem_keys_of_mem ((mem_toComet_updatesOf hsmall).mpr (Or.inl ⟨q, a', hx, hne, rfl, rfl⟩))
    · exact mem_keys_of_mem
        ((mem_toComet_updatesOf hsmall).mpr (Or.inr ⟨(a, p), mem_leavers.mpr ⟨hold, hat⟩, rfl, rfl⟩))

/-- the new recorded set, as CometBFT sees it, is the old set overridden by the update list -/
theorem mem_cometOf_after {s s' : State} {cs : Comet.VSet} (h : RankOk s) (hi : PkInj s) (hsync : Sync s cs)
    (hp : Post s s') (hsmall : ∀ e ∈ top s, e.1 ≤ Comet.maxTotal) (k : Bytes) (p : Nat) :
    (k, p) ∈ cometOf s' ↔
      (∃ u, (k, u) ∈ toComet (updatesOf s) ∧ u ≠ 0 ∧ p = u.toNat) ∨
        ((k, p) ∈ cs ∧ k ∉ (toComet (updatesOf s)).map (·.1)) := by
  rw [mem_cometOf]
  constructor
  · rintro ⟨a, hm, hk⟩
    rw [pkOf_after hp] at hk
    subst hk
    have hx : (p, a) ∈ top s := (hp.vs_mem a p).mp hm
    by_cases hne : lookup s.valset a ≠ p
    · exact Or.inl ⟨(p : Int), (mem_toComet_updatesOf hsmall).mpr (Or.inl ⟨p, a, hx, hne, rfl, rfl⟩),
        fun h0 => Nat.ne_of_gt (top_pos h hx) (Int.ofNat_eq_zero.mp h0), (Int.toNat_natCast p).symm⟩
    · have hold : (a, p) ∈ s.valset := mem_of_lookup_pos (Classical.not_not.mp hne) (top_pos h hx)
      exact Or.inr ⟨(mem_of_sync hsync).mpr ⟨a, hold, rfl⟩, fun hkm => (member_updated_iff h hi hsmall hold).mp hkm hx⟩
  · rintro (⟨u, hu, h0, hpu⟩ | ⟨hcsm, hnk⟩)
    · rcases (mem_toComet_updatesOf hsmall).mp hu with ⟨p', a', hx', _, hk', rfl⟩ | ⟨e, _, _, rfl⟩
      · cases hpu.trans (Int.toNat_natCast p')
        exact ⟨a', (hp.vs_mem a' p).mpr hx', by rw [pkOf_after hp]; exact hk'.symm⟩
      · exact absurd rfl h0
    · obtain ⟨a, hold, rfl⟩ := (mem_of_sync hsync).mp hcsm
      have hx : (p, a) ∈ top s :=
        Classical.not_not.mp (fun hnx => hnk ((member_updated_iff h hi hsmall hold).mpr hnx))
      exact ⟨a, (hp.vs_mem a p).mpr hx, pkOf_after hp a⟩

/-- **What CometBFT does with the update list of EndBlocker.**  From `RankOk`, distinct consensus keys
    and `Sync` before the block, and with no power of the top above `maxTotal`, the list is well formed
    in the sense of `comet_apply_eq` and overrides the old set to the new recorded one: it is refused
    only when it empties the set (known finding F10) or the new total exceeds `maxTotal` (F6b). -/
theorem apply_updates {s s' : State} {ups : List Update} {cs : Comet.VSet}
    (h : RankOk s) (hi : PkInj s) (hsync : Sync s cs) (he : endBlocker s = .ok (s', ups))
    (hsmall : ∀ e ∈ top s, e.1 ≤ Comet.maxTotal) :
    ∃ cs', Sync s' cs' ∧ Comet.apply cs (toComet ups) =
      if ups ≠ [] ∧ s'.valset = [] then .error "empty-set"
      else if ups ≠ [] ∧ Comet.total (cometOf s') > Comet.maxTotal then .error "total-overflow"
      else .ok cs' := by
  obtain ⟨hups, hp⟩ := endBlocker_result h he
  subst hups
  have hcs : (cs.map (·.1)).Nodup := (hsync.map (·.1)).symm.nodup (cometOf_keys_nodup h hi)
  have hrange : ∀ u ∈ toComet (updatesOf s), 0 ≤ u.2 ∧ u.2 ≤ (Comet.maxTotal : Int) := by
    rintro ⟨k, u⟩ hu
    rcases (mem_toComet_updatesOf hsmall).mp hu with ⟨p, a, hx, _, _, rfl⟩ | ⟨e, _, _, rfl⟩
    · exact ⟨Int.natCast_nonneg p, Int.ofNat_le.mpr (hsmall _ hx)⟩
    · exact ⟨Int.le_refl 0, Int.natCast_nonneg _⟩
  have hdel : ∀ u ∈ toComet (updatesOf s), u.2 = 0 → u.1 ∈ cs.map (·.1) := by
    rintro ⟨k, u⟩ hu h0
    simp only at h0 ⊢
    rcases (mem_toComet_updatesOf hsmall).mp hu with ⟨p, a, hx, _, _, rfl⟩ | ⟨e, he', rfl, _⟩
    · exact absurd (Int.ofNat_eq_zero.mp h0) (Nat.ne_of_gt (top_pos h hx))
    · exact mem_keys_of_mem ((mem_of_sync hsync).mpr ⟨e.1, (mem_leavers.mp he').1, rfl⟩)
  obtain ⟨cs', hperm, happ⟩ := comet_apply_eq cs _ (cometOf s') hcs (toComet_keys_nodup h hi) hrange hdel
    (cometOf_keys_nodup (rankOk_preserved h he) (pkInj_after hp hi)) (mem_cometOf_after h hi hsync hp hsmall)
  refine ⟨cs', hperm, happ.trans ?_⟩
  have e1 : toComet (updatesOf s) = [] ↔ updatesOf s = [] := List.map_eq_nil_iff
  have e2 : cometOf s' = [] ↔ s'.valset = [] := List.map_eq_nil_iff
  simp only [ne_eq, e1, e2]

/-- **(4) Every update list of EndBlocker is accepted by CometBFT, and keeps the two records equal,
    unless the new set overflows CometBFT's total-power bound (known finding F6b; this covers a power
    ≥ 2^63 as well, since each power is at most the total) or the new set is empty (known finding F10).**
    These are the only two ways to be refused: besides `RankOk`, distinct consensus keys and `Sync`
    before the block there is no other hypothesis. -/
theorem accepted_unless_overflow_or_empty {s s' : State} {ups : List Update} {cs : Comet.VSet}
    (h : RankOk s) (hi : PkInj s) (hsync : Sync s cs) (he : endBlocker s = .ok (s', ups))
    (hno_overflow : Comet.total (cometOf s') ≤ Comet.maxTotal)
    (hnot_empty : s'.valset ≠ []) :
    ∃ cs', Comet.apply cs (ups.map (fun u => (u.pubkey, Comet.toInt64 u.power))) = .ok cs' ∧ Sync s' cs' := by
  have hsmall : ∀ e ∈ top s, e.1 ≤ Comet.maxTotal := by
    intro e hx
    have := le_sum_of_mem (List.mem_map_of_mem (f := (·.1)) hx)
    rw [← total_after h he] at this
    omega
  obtain ⟨cs', hs, happ⟩ := apply_updates h hi hsync he hsmall
  refine ⟨cs', happ.trans ?_, hs⟩
  rw [if_neg (fun c => hnot_empty c.2), if_neg (fun c => Nat.not_lt.mpr hno_overflow c.2)]

/-- **sharpness of the second exclusion (F10)**: when the new set is empty and the old one is not,
    CometBFT refuses the update list with "empty-set" -/
theorem rejected_if_empty {s s' : State} {ups : List Update} {cs : Comet.VSet}
    (h : RankOk s) (hi : PkInj s) (hsync : Sync s cs) (he : endBlocker s = .ok (s', ups))
    (hempty : s'.valset = []) (hold : s.valset ≠ []) :
    Comet.apply cs (ups.map (fun u => (u.pubkey, Comet.toInt64 u.power))) = .error "empty-set" := by
  have htop : top s = [] := (empty_after_iff h he).mp hempty
  obtain ⟨cs', _, happ⟩ := apply_updates h hi hsync he (by rw [htop]; intro e hx; cases hx)
  refine happ.trans (if_pos ⟨?_, hempty⟩)
  rw [(endBlocker_result h he).1]
  exact fun h0 => hold ((updatesOf_eq_nil_iff htop).mp h0)

/-- **the two exclusions are exactly the ways to be refused**: given that CometBFT's own set respects
    its total-power bound, the update list is accepted with the records equal afterwards *if and only
    if* the new set does not overflow and is not an emptied non-empty set -/
theorem accepted_iff {s s' : State} {ups : List Update} {cs : Comet.VSet}
    (h : RankOk s) (hi : PkInj s) (hsync : Sync s cs) (hcs : Comet.total cs ≤ Comet.maxTotal)
    (he : endBlocker s = .ok (s', ups)) :
    (∃ cs', Comet.apply cs (ups.map (fun u => (u.pubkey, Comet.toInt64 u.power))) = .ok cs' ∧ Sync s' cs') ↔
      (Comet.total (cometOf s') ≤ Comet.maxTotal ∧ (s'.valset = [] → s.valset = [])) := by
  constructor
  · rintro ⟨cs', happ, hsync'⟩
    constructor
    · rw [← total_perm hsync']
      by_cases hnil : ups.map (fun u => (u.pubkey, Comet.toInt64 u.power)) = []
      · rw [hnil] at happ
        cases happ
        exact hcs
      · exact (C13.comet_accept_basic cs _ cs' happ hnil).2.2.2
    · intro hempty
      apply Classical.byContradiction
      intro hold
      rw [rejected_if_empty h hi hsync he hempty hold] at happ
      cases happ
  · rintro ⟨htot, hemp⟩
    by_cases hne : s'.valset = []
    · have htop : top s = [] := (empty_after_iff h he).mp hne
      obtain ⟨cs', hs, happ⟩ := apply_updates h hi hsync he (by rw [htop]; intro e hx; cases hx)
      have hu : ups = [] := by
        rw [(endBlocker_result h he).1]
        exact (updatesOf_eq_nil_iff htop).mpr (hemp hne)
      refine ⟨cs', happ.trans ?_, hs⟩
      rw [if_neg (fun c => c.1 hu), if_neg (fun c => c.1 hu)]
    · exact accepted_unless_overflow_or_empty h hi hsync he htot hne

def errOf {α} : Except String α → Option String
  | .error e => some e
  | .ok _ => none

/-- the first exclusion is not vacuous either (F6b): a power of 2^63 reaches CometBFT as a negative
    number, a total above `maxTotal` is refused as such -/
example : errOf (Comet.apply [([1], 5)] [([2], Comet.toInt64 two63)]) = some "negative" := by decide +kernel
example : errOf (Comet.apply [([1], Comet.maxTotal)] [([2], Comet.toInt64 1)]) = some "total-overflow" := by decide +kernel

/-! ## accumulated from genesis -/

/-- the three facts carried from block to block -/
structure Good (s : State) (cs : Comet.VSet) : Prop where
  rankOk : RankOk s
  pkInj : PkInj s
  sync : Sync s cs

/-- What the rest of the block (BeginBlock, the execution-layer requests — any relation `R` between
    the state after one EndBlocker and the state before the next) must guarantee: it re-establishes
    `RankOk`, keeps consensus keys distinct, does not write the recorded set (only EndBlocker does) and
    does not change the consensus key of a recorded member. -/
structure Between (R : State → State → Prop) : Prop where
  rankOk : ∀ s t, R s t → RankOk s → RankOk t
  pkInj : ∀ s t, R s t → RankOk s → PkInj s → PkInj t
  valset : ∀ s t, R s t → t.valset = s.valset
  pk : ∀ s t, R s t → ∀ a ∈ s.valset.map (·.1), pkOf t a = pkOf s a

theorem good_between {R : State → State → Prop} (hR : Between R) {s t : State} {cs : Comet.VSet}
    (hst : R s t) (hg : Good s cs) : Good t cs := by
  refine ⟨hR.rankOk s t hst hg.rankOk, hR.pkInj s t hst hg.rankOk hg.pkInj, ?_⟩
  have : cometOf t = cometOf s := by
    unfold cometOf
    rw [hR.valset s t hst]
    apply List.map_congr_left
    intro e he
    rw [hR.pk s t hst e.1 (List.mem_map.mpr ⟨e, he, rfl⟩)]
  unfold Sync
  rw [this]
  exact hg.sync

/-- one block's end: EndBlocker, then CometBFT applies the reported changes -/
def blockEnd (t : State) (cs : Comet.VSet) : Option (State × Comet.VSet) :=
  match endBlocker t with
  | .ok (s', ups) =>
    match Comet.apply cs (ups.map (fun u => (u.pubkey, Comet.toInt64 u.power))) with
    | .ok cs' => some (s', cs')
    | .error _ => none
  | _ => none

/-- the block does not run into one of the two excluded cases (F6b overflow, F10 empty set) -/
def SafeBlock (t : State) : Prop :=
  ∀ s' ups, endBlocker t = .ok (s', ups) → Comet.total (cometOf s') ≤ Comet.maxTotal ∧ s'.valset ≠ []

/-- **one block**: from `Good` before the block, through any `R`-step, EndBlocker succeeds, CometBFT
    accepts, and `Good` holds again -/
theorem good_after_block {R : State → State → Prop} (hR : Between R) {s t : State} {cs : Comet.VSet}
    (hg : Good s cs) (hst : R s t) (hsafe : SafeBlock t) :
    ∃ s' cs', blockEnd t cs = some (s', cs') ∧ Good s' cs' := by
  have hgt := good_between hR hst hg
  obtain ⟨s', ups, he⟩ := endBlocker_never_fails hgt.rankOk
  obtain ⟨hov, hne⟩ := hsafe s' ups he
  obtain ⟨cs', happ, hsync'⟩ := accepted_unless_overflow_or_empty hgt.rankOk hgt.pkInj hgt.sync he hov hne
  refine ⟨s', cs', ?_, rankOk_preserved hgt.rankOk he, pkInj_after (endBlocker_result hgt.rankOk he).2 hgt.pkInj, hsync'⟩
  unfold blockEnd
  rw [he]
  simp only [happ]

/-- a history: the states `t₁, t₂, …` in which the successive EndBlockers run -/
def run : State → Comet.VSet → List State → Option (State × Comet.VSet)
  | s, cs, [] => some (s, cs)
  | _, cs, t :: ts =>
    match blockEnd t cs with
    | some (s', cs') => run s' cs' ts
    | none => none

/-- the history is one of the chain: each `tᵢ₊₁` is `R`-reachable from the state EndBlocker left, and
    no block is one of the excluded cases -/
def Linked (R : State → State → Prop) : State → Comet.VSet → List State → Prop
  | _, _, [] => True
  | s, cs, t :: ts => R s t ∧ SafeBlock t ∧ ∀ s' cs', blockEnd t cs = some (s', cs') → Linked R s' cs' ts

/-- **(5) accumulated from genesis**: along any history of blocks, CometBFT's set — the genesis set
    with every reported change applied — equals the module's record after the last block; no
    EndBlocker fails and no update list is refused -/
theorem sync_after_blocks {R : State → State → Prop} (hR : Between R) :
    ∀ (ts : List State) (s : State) (cs : Comet.VSet), Good s cs → Linked R s cs ts →
      ∃ s' cs', run s cs ts = some (s', cs') ∧ Good s' cs'
  | [], s, cs, hg, _ => ⟨s, cs, rfl, hg⟩
  | t :: ts, s, cs, hg, hl => by
    obtain ⟨hst, hsafe, hrest⟩ := hl
    obtain ⟨s1, cs1, hb, hg1⟩ := good_after_block hR hg hst hsafe
    obtain ⟨s2, cs2, hrun, hg2⟩ := sync_after_blocks hR ts s1 cs1 hg1 (hrest s1 cs1 hb)
    refine ⟨s2, cs2, ?_, hg2⟩
    rw [run, hb]
    exact hrun

theorem Linked.take {R : State → State → Prop} : ∀ (ts : List State) (s : State) (cs : Comet.VSet) (n : Nat),
    Linked R s cs ts → Linked R s cs (ts.take n)
  | [], _, _, n, _ => by simp [Linked]
  | t :: ts, s, cs, 0, _ => by simp [Linked]
  | t :: ts, s, cs, n + 1, hl => by
    rw [List.take_succ_cons]
    exact ⟨hl.1, hl.2.1, fun s' cs' hb => Linked.take ts s' cs' n (hl.2.2 s' cs' hb)⟩

/-- **(5) … after every block**: the statement holds after each prefix of the history -/
theorem sync_after_every_block {R : State → State → Prop} (hR : Between R) (ts : List State) (s : State)
    (cs : Comet.VSet) (hg : Good s cs) (hl : Linked R s cs ts) (n : Nat) :
    ∃ s' cs', run s cs (ts.take n) = some (s', cs') ∧ RankOk s' ∧ Sync s' cs' := by
  obtain ⟨s', cs', hrun, hg'⟩ := sync_after_blocks hR (ts.take n) s cs hg (Linked.take ts s cs n hl)
  exact ⟨s', cs', hrun, hg'.rankOk, hg'.sync⟩

/-- at genesis CometBFT is handed the recorded set itself (C18: the validator updates of InitChain
    are the recorded validator set), so `Sync` holds -/
theorem sync_genesis (s : State) : Sync s (cometOf s) := List.Perm.refl _

/-! ## `RankOk` at committed states: it follows from C18's `Derived` -/

/-- the relation C18 proves for imported (and maintains for committed) states implies the
    precondition of EndBlocker, when validator addresses are distinct -/
theorem rankOk_of_derived {s : State} (hd : C18.Derived s) (hn : (s.validators.map (·.1)).Nodup)
    (hm : 0 ≤ s.params.maxValidators) : RankOk s where
  rank_nodup := by
    rw [List.Nodup, List.pairwise_map]
    refine hd.rank_nodup.imp_of_mem ?_
    intro x y hx hy hne heq
    obtain ⟨p, a⟩ := x
    obtain ⟨q, b⟩ := y
    simp only at heq
    subst heq
    obtain ⟨v, hv, _, hp, _⟩ := (hd.rank_mem p a).mp hx
    obtain ⟨w, hw, _, hq, _⟩ := (hd.rank_mem q a).mp hy
    have := assoc_unique _ hn a v w hv hw
    subst this
    exact hne (by rw [← hp, ← hq])
  rank_rec := by
    intro p a hmem
    obtain ⟨v, hv, hst, hp, hpos⟩ := (hd.rank_mem p a).mp hmem
    exact ⟨v, vget_of_mem hn hv, hp, hpos, hst⟩
  rank_complete := by
    intro a v hv hst hpos
    exact (hd.rank_mem v.power a).mpr ⟨v, mem_of_vget hv, hst, rfl, hpos⟩
  valset_nodup := hd.valset_nodup
  valset_rec := by
    intro a p hmem
    obtain ⟨v, hv, _⟩ := (hd.valset_mem a p).mp hmem
    exact ⟨v, vget_of_mem hn hv⟩
  pending_out := by
    intro a v hv hst hmem
    obtain ⟨p, hp⟩ := exists_of_mem_keys hmem
    obtain ⟨w, hw, hact, _⟩ := (hd.valset_mem a p).mp hp
    have := assoc_unique _ hn a v w (mem_of_vget hv) hw
    subst this
    rw [hst] at hact
    cases hact
  max_nonneg := hm

/-! ## non-vacuity: a concrete state (four validators, a tie in power, `maxValidators = 2`) -/

section Examples

def mkV (pk : Bytes) (pw : Nat) (st : Status) : Validator :=
  { pubkey := pk, power := pw, locking := [], reward := 0, gasReward := 0, status := st, offset := 3, missed := 1,
    jailedUntil := 0 }

/-- `[1]` Active, power raised from 6 to 7; `[2]` Pending with power 5; `[3]` Active with power 5
    (recorded); `[4]` Active with power 3 (recorded).  The ranking is stored unsorted. -/
def exS : State :=
  { (default : State) with
    params := { (default : Params) with maxValidators := 2 },
    validators := [([1], mkV [11] 7 .active), ([2], mkV [12] 5 .pending), ([3], mkV [13] 5 .active),
                   ([4], mkV [14] 3 .active)],
    ranking := [(3, [4]), (5, [2]), (7, [1]), (5, [3])],
    valset := [([1], 6), ([3], 5), ([4], 3)] }

theorem exS_rankOk : RankOk exS where
  rank_nodup := by decide
  rank_rec := fun p a hm =>
    have ⟨v, _, hv⟩ := (by decide : ∀ e ∈ exS.ranking, ∃ v ∈ exS.validators.map (·.2), vget exS e.2 = some v ∧
      v.power = e.1 ∧ 0 < e.1 ∧ (v.status = .active ∨ v.status = .pending)) (p, a) hm
    ⟨v, hv⟩
  rank_complete := fun a v hv => (by decide : ∀ e ∈ exS.validators,
    (e.2.status = .active ∨ e.2.status = .pending) → 0 < e.2.power → (e.2.power, e.1) ∈ exS.ranking) (a, v) (mem_of_vget hv)
  valset_nodup := by decide
  valset_rec := fun a p hm =>
    have ⟨v, _, hv⟩ := (by decide : ∀ e ∈ exS.valset, ∃ v ∈ exS.validators.map (·.2), vget exS e.1 = some v) (a, p) hm
    ⟨v, hv⟩
  pending_out := fun a v hv => (by decide : ∀ e ∈ exS.validators,
    e.2.status = .pending → e.1 ∉ exS.valset.map (·.1)) (a, v) (mem_of_vget hv)
  max_nonneg := by decide

theorem exS_pkInj : PkInj exS := fun a b va vb ha hb heq =>
  (by decide : ∀ x ∈ exS.validators, ∀ y ∈ exS.validators, x.2.pubkey = y.2.pubkey → x.1 = y.1)
    (a, va) (mem_of_vget ha) (b, vb) (mem_of_vget hb) heq
/-- the sort: power 7 first, then the tie at power 5 — address `[3]` before `[2]` — then power 3 -/
theorem exS_rankingDesc : rankingDesc exS = [(7, [1]), (5, [3]), (5, [2]), (3, [4])] := by
  simp [rankingDesc, exS, List.mergeSort, bytesLt]

theorem exS_top : top exS = [(7, [1]), (5, [3])] := by
  unfold top
  rw [exS_rankingDesc]
  rfl

theorem exS_leavers : leavers exS = [([4], 3)] := by
  unfold leavers
  rw [exS_top]
  have : dropKeys (([(7, [1]), (5, [3])] : List (Nat × Bytes)).map (·.2)) exS.valset = [([4], 3)] := by decide
  rw [this]
  simp

/-- the update list: the power change of `[1]` (key `[11]`), the removal of `[4]` (key `[14]`);
    nothing for `[3]`, whose recorded power is current; nothing for `[2]`, which loses the tie -/
theorem exS_updates : updatesOf exS = [⟨[11], 7⟩, ⟨[14], 0⟩] := by
  unfold updatesOf
  rw [exS_top, exS_leavers]
  decide

/-- (2) EndBlocker succeeds on `exS` with exactly these updates -/
example : ∃ s', endBlocker exS = .ok (s', [⟨[11], 7⟩, ⟨[14], 0⟩]) := by
  obtain ⟨s', he, _⟩ := endBlocker_closed_form exS_rankOk
  rw [exS_updates] at he
  exact ⟨s', he⟩

/-- (3a), (3b) on `exS`: the new set is `{[1] ↦ 7, [3] ↦ 5}` (size 2 = max); the tie at power 5 goes to
    `[3]`, the eligible `[2]` stays out and stays Pending; `[4]` left and became Pending -/
example : ∀ s' ups, endBlocker exS = .ok (s', ups) →
    s'.valset.Perm [([1], 7), ([3], 5)] ∧ (s'.valset.length : Int) ≤ s'.params.maxValidators ∧
    [2] ∉ s'.valset.map (·.1) ∧
    vget s' [1] = some (mkV [11] 7 .active) ∧ vget s' [2] = some (mkV [12] 5 .pending) ∧
    vget s' [3] = some (mkV [13] 5 .active) ∧ vget s' [4] = some (mkV [14] 3 .pending) ∧
    RankOk s' := by
  intro s' ups he
  have hperm := valset_is_top exS_rankOk he
  rw [exS_top] at hperm
  have hp := (endBlocker_result exS_rankOk he).2
  have hmem : ∀ b, b ∈ s'.valset.map (·.1) ↔ b ∈ ([[1], [3]] : List Bytes) := by
    intro b
    rw [(hperm.map (·.1)).mem_iff]
    rfl
  refine ⟨hperm, valset_size_le_max exS_rankOk he, by rw [hmem]; decide, ?_, ?_, ?_, ?_, rankOk_preserved exS_rankOk he⟩
  · rw [(records_after exS_rankOk he [1]).1 (by rw [hmem]; decide)]; decide
  · rw [(records_after exS_rankOk he [2]).2.2 (by rw [hmem]; decide) (by decide)]; decide
  · rw [(records_after exS_rankOk he [3]).1 (by rw [hmem]; decide)]; decide
  · rw [(records_after exS_rankOk he [4]).2.1 (by rw [hmem]; decide) (by decide)]; decide

theorem exS_safe : SafeBlock exS := by
  intro s' ups he
  constructor
  · rw [total_after exS_rankOk he, exS_top]; decide
  · intro h0
    have := (empty_after_iff exS_rankOk he).mp h0
    rw [exS_top] at this
    cases this

/-- (4) on `exS`: CometBFT, holding the recorded set, accepts the updates and ends up with the new
    recorded set -/
example : ∀ s' ups, endBlocker exS = .ok (s', ups) →
    ∃ cs', Comet.apply (cometOf exS) (ups.map (fun u => (u.pubkey, Comet.toInt64 u.power))) = .ok cs' ∧ Sync s' cs' := by
  intro s' ups he
  obtain ⟨h1, h2⟩ := exS_safe s' ups he
  exact accepted_unless_overflow_or_empty exS_rankOk exS_pkInj (sync_genesis exS) he h1 h2

/-- the same by evaluation: `{[11] ↦ 6, [13] ↦ 5, [14] ↦ 3}` becomes `{[11] ↦ 7, [13] ↦ 5}` -/
example : (Comet.apply (cometOf exS) ((updatesOf exS).map (fun u => (u.pubkey, Comet.toInt64 u.power)))).toOption
    = some [([11], 7), ([13], 5)] := by
  rw [exS_updates]
  decide +kernel

/-- (5) on `exS`: the hypotheses of the chain theorem are satisfiable (`R` = nothing happens between
    two EndBlockers), here for a history of one block -/
example : ∃ s' cs', run exS (cometOf exS) [exS] = some (s', cs') ∧ Good s' cs' := by
  have hR : Between (fun s t => t = s) :=
    ⟨fun s t h1 h2 => h1 ▸ h2, fun s t h1 _ h3 => h1 ▸ h3, fun s t h1 => h1 ▸ rfl, fun s t h1 a _ => h1 ▸ rfl⟩
  exact sync_after_blocks hR [exS] exS (cometOf exS) ⟨exS_rankOk, exS_pkInj, sync_genesis exS⟩
    ⟨rfl, exS_safe, fun _ _ _ => trivial⟩

/-- the state after the first loop: `[1]` re-recorded at the end with power 7, `[4]` still recorded -/
def exS1 : State := { exS with valset := [([3], 5), ([4], 3), ([1], 7)] }

/-- the state after EndBlocker -/
def exS2 : State :=
  { exS with
    validators := [([1], mkV [11] 7 .active), ([2], mkV [12] 5 .pending), ([3], mkV [13] 5 .active),
                   ([4], mkV [14] 3 .pending)],
    valset := [([3], 5), ([1], 7)] }

theorem exS_phase : C07.rankPhase exS = .ok (exS1, [([4], 3)], [⟨[11], 7⟩]) := by
  unfold C07.rankPhase
  rw [exS_rankingDesc]
  rfl

/-- EndBlocker on `exS`, by evaluation -/
theorem exS_endBlocker : endBlocker exS = .ok (exS2, [⟨[11], 7⟩, ⟨[14], 0⟩]) := by
  rw [C07.endBlocker_eq]
  unfold C07.endBlockerWith
  rw [exS_phase]
  simp only [List.mergeSort_singleton]
  rfl

theorem ok_of_toOption {α} {r : Except String α} {x : α} (h : r.toOption = some x) : r = .ok x := by
  cases r with
  | error e => cases h
  | ok y => cases h; rfl

/-- **Why `Sync` is equality of sets (`Perm`) and not of lists.**  With `Sync` read as literal list
    equality the statement of (4) is FALSE of the model: starting from `cs = cometOf exS` (literally),
    EndBlocker re-records the changed member `[1]` at the *end* of its list while CometBFT updates it
    *in place*; the two lists are permutations of one another and differ.  (CometBFT re-sorts its set
    after every update, so only the set matters; cf. C07 `comet_apply_order_insensitive`.) -/
theorem sync_as_list_equality_fails :
    ∃ s' ups cs', endBlocker exS = .ok (s', ups) ∧
      Comet.apply (cometOf exS) (ups.map (fun u => (u.pubkey, Comet.toInt64 u.power))) = .ok cs' ∧
      cs' ≠ cometOf s' ∧ cs'.Perm (cometOf s') := by
  refine ⟨exS2, _, [([11], 7), ([13], 5)], exS_endBlocker, ok_of_toOption (by decide +kernel), by decide, ?_⟩
  have : cometOf exS2 = [([13], 5), ([11], 7)] := by decide
  rw [this]
  exact List.Perm.swap _ _ _

end Examples

end Goat.C13H
