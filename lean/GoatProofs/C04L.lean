/-
  C04L — a credited transaction can never be mistaken for an inner Merkle node.

  The Merkle check (C04) hashes 64-byte strings at inner nodes and the raw no-witness transaction at the leaf.
  The classic ambiguity (a 64-byte "transaction" that is really the concatenation of two child hashes) is
  excluded by the size bounds of the message validation: every deposit of an accepted batch carries between
  94 and 32768 bytes, so its leaf pre-image is not a 64-byte string.  Together with C04.RunCollision (which
  names the colliding pair among the hashed strings) this separates leaf pre-images from node pre-images.
-/
import GoatModel.Bitcoin
import GoatProofs.Lemmas.BitcoinOps
namespace Goat.C04L
open Goat.Bitcoin

theorem go_sizes (c : Crypto) (rel : Relayer.State) (headers : List (Nat × Bytes)) :
    ∀ (ds : List Deposit) (s : State) (acc : List DepositReceipt) (s' : State) (rs : List DepositReceipt),
      newDeposits.go c headers rel ds s acc = .ok (s', rs) →
      ∀ d ∈ ds, 94 ≤ d.noWitnessTx.length ∧ d.noWitnessTx.length ≤ 32768 ∧ d.evm.length = 20 := by
  intro ds
  induction ds with
  | nil => intro s acc s' rs _ d hd; cases hd
  | cons d0 ds ih =>
    intro s acc s' rs h d hd
    obtain ⟨hv, _, _, h⟩ := Bitcoin.newDeposits_go_cons h
    rcases List.mem_cons.mp hd with rfl | hd
    · simp only [Deposit.validate, Bool.and_eq_true, beq_iff_eq, decide_eq_true_eq] at hv
      exact ⟨hv.1.1.2, hv.1.2, hv.1.1.1⟩
    · exact ih _ _ s' rs h d hd

/-- **No credited transaction has the size of an inner node's pre-image.** -/
theorem credited_tx_not_node_sized (c : Crypto) (rel rel' : Relayer.State) (s s' : State) (m : NewDepositsMsg)
    (h : newDeposits c rel s m = .ok (rel', s')) :
    ∀ d ∈ m.deposits, d.noWitnessTx.length ≠ 64 ∧ 94 ≤ d.noWitnessTx.length ∧ d.noWitnessTx.length ≤ 32768 := by
  obtain ⟨_, _, _, _, _, _, _, _, _, _, hgo, _⟩ := newDeposits_ok h
  intro d hd
  have := go_sizes c _ _ _ _ _ _ _ hgo d hd
  omega

end Goat.C04L
#print axioms Goat.C04L.credited_tx_not_node_sized
