/-
  The 18-decimal fixed-point arithmetic of x/locking (`math.LegacyDec`): `decQuoTruncate`, `mulTruncInt` and
  `slashAmount` as floor divisions, and that the truncated shares of a pool add up to at most the pool.
-/
import GoatModel.Locking
namespace Goat.Locking

theorem e18_pos : 0 < e18 := by unfold e18; omega

theorem decQuoTruncate_eq (p t : Nat) : decQuoTruncate p t = p * e18 / t := by
  unfold decQuoTruncate
  rw [Nat.mul_comm t e18, ← Nat.div_div_eq_div_mul, Nat.mul_div_cancel _ e18_pos]

theorem mulTruncInt_eq (x frac : Nat) : mulTruncInt x frac = x * frac / e18 := by
  unfold mulTruncInt
  have : x * e18 * frac = x * frac * e18 := by
    rw [Nat.mul_assoc, Nat.mul_comm e18 frac, ← Nat.mul_assoc]
  rw [this, Nat.mul_div_cancel _ e18_pos]

theorem add_div_le (a b c : Nat) : a / c + b / c ≤ (a + b) / c := by
  by_cases hc : c = 0
  · subst hc; simp
  · have hc : 0 < c := Nat.pos_of_ne_zero hc
    rw [Nat.le_div_iff_mul_le hc, Nat.add_mul]
    exact Nat.add_le_add (Nat.div_mul_le_self a c) (Nat.div_mul_le_self b c)

theorem sum_div_le (l : List Nat) (c : Nat) : (l.map (· / c)).sum ≤ l.sum / c := by
  induction l with
  | nil => simp
  | cons a as ih =>
    simp only [List.map_cons, List.sum_cons]
    calc a / c + (as.map (· / c)).sum ≤ a / c + as.sum / c := Nat.add_le_add_left ih _
      _ ≤ (a + as.sum) / c := add_div_le a as.sum c

theorem sum_map_mul_left (l : List Nat) (k : Nat) : (l.map (k * ·)).sum = k * l.sum := by
  induction l with
  | nil => simp
  | cons a as ih => simp [List.sum_cons, ih, Nat.mul_add]

theorem sum_map_mul_right (l : List Nat) (k : Nat) : (l.map (· * k)).sum = l.sum * k := by
  induction l with
  | nil => simp
  | cons a as ih => simp [List.sum_cons, ih, Nat.add_mul]

/-- truncated fractions of the powers add up to at most one (scaled by 10^18) -/
theorem fractions_le_one (ps : List Nat) (ht : 0 < ps.sum) :
    (ps.map (fun p => decQuoTruncate p ps.sum)).sum ≤ e18 := by
  have h1 : (ps.map (fun p => decQuoTruncate p ps.sum)) = (ps.map (· * e18)).map (· / ps.sum) := by
    rw [List.map_map]
    exact List.map_congr_left (fun p _ => decQuoTruncate_eq p ps.sum)
  rw [h1]
  calc ((ps.map (· * e18)).map (· / ps.sum)).sum ≤ (ps.map (· * e18)).sum / ps.sum := sum_div_le _ _
    _ = ps.sum * e18 / ps.sum := by rw [sum_map_mul_right]
    _ = e18 := Nat.mul_div_cancel_left e18 ht

/-- each share is at most the exact proportional amount -/
theorem share_le_proportional (pool p t : Nat) :
    mulTruncInt pool (decQuoTruncate p t) * t ≤ pool * p := by
  rw [mulTruncInt_eq, decQuoTruncate_eq]
  -- (pool·f / e18)·t·e18 ≤ pool·f·t ≤ pool·p·e18
  have hf : p * e18 / t * t ≤ p * e18 := Nat.div_mul_le_self _ _
  have h1 : pool * (p * e18 / t) / e18 * e18 ≤ pool * (p * e18 / t) := Nat.div_mul_le_self _ _
  have h2 : pool * (p * e18 / t) / e18 * t * e18 ≤ pool * p * e18 := by
    calc pool * (p * e18 / t) / e18 * t * e18 = pool * (p * e18 / t) / e18 * e18 * t := by
          rw [Nat.mul_assoc, Nat.mul_comm t e18, ← Nat.mul_assoc]
      _ ≤ pool * (p * e18 / t) * t := Nat.mul_le_mul_right _ h1
      _ = pool * (p * e18 / t * t) := Nat.mul_assoc _ _ _
      _ ≤ pool * (p * e18) := Nat.mul_le_mul_left _ hf
      _ = pool * p * e18 := (Nat.mul_assoc _ _ _).symm
  exact Nat.le_of_mul_le_mul_right h2 e18_pos

/-- **the shares never exceed the pool** (truncating fraction) -/
theorem shares_le_pool (pool : Nat) (ps : List Nat) (ht : 0 < ps.sum) :
    (ps.map (fun p => mulTruncInt pool (decQuoTruncate p ps.sum))).sum ≤ pool := by
  have h1 : ps.map (fun p => mulTruncInt pool (decQuoTruncate p ps.sum))
      = ((ps.map (fun p => decQuoTruncate p ps.sum)).map (pool * ·)).map (· / e18) := by
    rw [List.map_map, List.map_map]
    exact List.map_congr_left (fun p _ => by rw [mulTruncInt_eq, Function.comp_apply, Function.comp_apply])
  rw [h1]
  calc _ ≤ ((ps.map (fun p => decQuoTruncate p ps.sum)).map (pool * ·)).sum / e18 := sum_div_le _ _
    _ = pool * (ps.map (fun p => decQuoTruncate p ps.sum)).sum / e18 := by rw [sum_map_mul_left]
    _ ≤ pool * e18 / e18 := Nat.div_le_div_right (Nat.mul_le_mul_left _ (fractions_le_one ps ht))
    _ = pool := Nat.mul_div_cancel _ e18_pos

theorem chopRound_mul (k : Nat) : chopRound (k * e18) = k := by
  unfold chopRound
  have h1 : k * e18 / e18 = k := Nat.mul_div_cancel _ e18_pos
  have h2 : k * e18 % e18 = 0 := Nat.mul_mod_left _ _
  simp [h1, h2]

theorem slashAmount_eq (a frac : Nat) : slashAmount a frac = a * frac / e18 := by
  unfold slashAmount
  have : a * e18 * frac = a * frac * e18 := by
    rw [Nat.mul_assoc, Nat.mul_comm e18 frac, ← Nat.mul_assoc]
  rw [this, chopRound_mul]

theorem slashAmount_le (a frac : Nat) (hf : frac ≤ e18) : slashAmount a frac ≤ a := by
  rw [slashAmount_eq]
  calc a * frac / e18 ≤ a * e18 / e18 := Nat.div_le_div_right (Nat.mul_le_mul_left _ hf)
    _ = a := Nat.mul_div_cancel _ e18_pos
end Goat.Locking
