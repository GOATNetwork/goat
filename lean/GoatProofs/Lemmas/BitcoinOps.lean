/-
  The bitcoin message handlers read backwards: what a successful call says about its arguments, which
  vote went through `Relayer.verifyProposal`, what the loop returned and what the two new states are
  (`…_ok`), and the fields it writes (`…_frame`); before that, one round of each handler loop
  (`…_go_cons`) and the fields the loop writes (`…_go_frame`); after them the dequeue (numbered
  batches) and the execution-layer requests.
-/
import GoatModel.Bitcoin
import GoatProofs.Lemmas.Bitcoin
import GoatProofs.Lemmas.Outcome
namespace Goat.Bitcoin
open Goat.Relayer (VoteMsg)

theorem processWithdrawal_go_cons {c : Crypto} {tx : Bytes} {fee : Nat} {outs : List BtcTx.TxOut} {txid : Bytes}
    {wid : Nat} {rest : List Nat} {idx : Nat} {a : State} {vals : List Nat} {b : State} {vals' : List Nat}
    (h : processWithdrawal.go c tx fee outs txid (wid :: rest) idx a vals = .ok (b, vals')) :
    ∃ w, nlookup a.withdrawals wid = some w ∧ (w.status = .pending ∨ w.status = .canceling) ∧
      checkOutput c w fee tx.length (outs[idx]!) = .ok () ∧
      processWithdrawal.go c tx fee outs txid rest (idx + 1)
        { a with withdrawals := ninsert a.withdrawals wid { w with
            status := .processing, receipt := some { txid := txid, txout := idx, amount := (outs[idx]!).value } } }
        ((outs[idx]!).value :: vals) = .ok (b, vals') := by
  simp only [processWithdrawal.go] at h
  split at h
  · cases h
  rename_i w hw
  obtain ⟨hst, h⟩ := Outcome.of_guard_err h
  split at h
  · cases h
  · cases h
  rename_i hc
  exact ⟨w, hw, Decidable.or_iff_not_not_and_not.mpr hst, hc, h⟩

theorem replaceWithdrawal_go_cons {c : Crypto} {tx : Bytes} {fee : Nat} {outs : List BtcTx.TxOut} {txid : Bytes}
    {wid : Nat} {rest : List Nat} {idx : Nat} {a : State} {vals : List Nat} {b : State} {vals' : List Nat}
    (h : replaceWithdrawal.go c tx fee outs txid (wid :: rest) idx a vals = .ok (b, vals')) :
    ∃ w r, nlookup a.withdrawals wid = some w ∧ w.receipt = some r ∧ w.status = .processing ∧
      checkOutput c w fee tx.length (outs[idx]!) = .ok () ∧
      replaceWithdrawal.go c tx fee outs txid rest (idx + 1)
        { a with withdrawals := ninsert a.withdrawals wid { w with
            receipt := some { r with txid := txid, amount := (outs[idx]!).value } } }
        ((outs[idx]!).value :: vals) = .ok (b, vals') := by
  simp only [replaceWithdrawal.go] at h
  split at h
  · cases h
  rename_i w hw
  split at h
  · cases h
  rename_i r hr
  obtain ⟨hst, h⟩ := Outcome.of_guard_err h
  split at h
  · cases h
  · cases h
  rename_i hc
  exact ⟨w, r, hw, hr, Decidable.not_not.mp hst, hc, h⟩

theorem finalizeWithdrawal_go_cons {m : FinalizeMsg} {vals : List Nat} {wid : Nat} {rest : List Nat} {i : Nat} {a b : State}
    (h : finalizeWithdrawal.go m vals (wid :: rest) i a = .ok b) :
    ∃ w r, nlookup a.withdrawals wid = some w ∧ w.status = .processing ∧ w.receipt = some r ∧
      finalizeWithdrawal.go m vals rest (i + 1)
        { a with withdrawals := ninsert a.withdrawals wid
                   { w with status := .paid, receipt := some { r with txid := m.txid, amount := vals[i]! } },
                 queue := { a.queue with paid := a.queue.paid ++ [(wid, { r with txid := m.txid, amount := vals[i]! })] } } = .ok b := by
  simp only [finalizeWithdrawal.go] at h
  split at h
  · cases h
  rename_i w hw
  obtain ⟨hst, h⟩ := Outcome.of_guard_err h
  split at h
  · cases h
  rename_i r hr
  exact ⟨w, r, hw, Decidable.not_not.mp hst, hr, h⟩

theorem approveCancellation_go_cons {wid : Nat} {rest : List Nat} {a b : State}
    (h : approveCancellation.go (wid :: rest) a = .ok b) :
    ∃ w, nlookup a.withdrawals wid = some w ∧ w.status = .canceling ∧
      approveCancellation.go rest { a with withdrawals := ninsert a.withdrawals wid { w with status := .canceled } } = .ok b := by
  simp only [approveCancellation.go] at h
  split at h
  · cases h
  rename_i w hw
  obtain ⟨hst, h⟩ := Outcome.of_guard_err h
  exact ⟨w, hw, Decidable.not_not.mp hst, h⟩

theorem newDeposits_go_cons {c : Crypto} {headers : List (Nat × Bytes)} {rel : Relayer.State} {d : Deposit} {rest : List Deposit}
    {a : State} {acc : List DepositReceipt} {b : State} {rs : List DepositReceipt}
    (h : newDeposits.go c headers rel (d :: rest) a acc = .ok (b, rs)) :
    d.validate = true ∧ ∃ r, verifyDeposit c rel a headers d = .ok r ∧
      newDeposits.go c headers rel rest
        { a with deposited := a.deposited ++ [((r.txid, r.txout), (r.amount + r.tax) % two64)] } (r :: acc) = .ok (b, rs) := by
  simp only [newDeposits.go] at h
  obtain ⟨hv, h⟩ := Outcome.of_guard_err h
  split at h
  · cases h
  · cases h
  rename_i r hr
  exact ⟨by simpa using hv, r, hr, h⟩

theorem processWithdrawal_go_frame {c : Crypto} {tx : Bytes} {fee : Nat} {outs : List BtcTx.TxOut} {txid : Bytes} :
    ∀ {l : List Nat} {idx : Nat} {a : State} {vals : List Nat} {b : State} {vals' : List Nat},
      processWithdrawal.go c tx fee outs txid l idx a vals = .ok (b, vals') → b = { a with withdrawals := b.withdrawals }
  | [], _, _, _, _, _, h => by
    simp only [processWithdrawal.go, Outcome.ok.injEq, Prod.mk.injEq] at h
    rw [← h.1]
  | _ :: _, _, _, _, _, _, h => by
    obtain ⟨_, _, _, _, h⟩ := processWithdrawal_go_cons h
    rw [processWithdrawal_go_frame h]

theorem replaceWithdrawal_go_frame {c : Crypto} {tx : Bytes} {fee : Nat} {outs : List BtcTx.TxOut} {txid : Bytes} :
    ∀ {l : List Nat} {idx : Nat} {a : State} {vals : List Nat} {b : State} {vals' : List Nat},
      replaceWithdrawal.go c tx fee outs txid l idx a vals = .ok (b, vals') → b = { a with withdrawals := b.withdrawals }
  | [], _, _, _, _, _, h => by
    simp only [replaceWithdrawal.go, Outcome.ok.injEq, Prod.mk.injEq] at h
    rw [← h.1]
  | _ :: _, _, _, _, _, _, h => by
    obtain ⟨_, _, _, _, _, _, h⟩ := replaceWithdrawal_go_cons h
    rw [replaceWithdrawal_go_frame h]

theorem finalizeWithdrawal_go_frame {m : FinalizeMsg} {vals : List Nat} :
    ∀ {l : List Nat} {i : Nat} {a b : State}, finalizeWithdrawal.go m vals l i a = .ok b →
      b = { a with withdrawals := b.withdrawals, queue := { a.queue with paid := b.queue.paid } }
  | [], _, _, _, h => by
    simp only [finalizeWithdrawal.go, Outcome.ok.injEq] at h
    rw [← h]
  | _ :: _, _, _, _, h => by
    obtain ⟨_, _, _, _, _, h⟩ := finalizeWithdrawal_go_cons h
    rw [finalizeWithdrawal_go_frame h]

theorem approveCancellation_go_frame :
    ∀ {l : List Nat} {a b : State}, approveCancellation.go l a = .ok b → b = { a with withdrawals := b.withdrawals }
  | [], _, _, h => by
    simp only [approveCancellation.go, Outcome.ok.injEq] at h
    rw [← h]
  | _ :: _, _, _, h => by
    obtain ⟨_, _, _, h⟩ := approveCancellation_go_cons h
    rw [approveCancellation_go_frame h]

theorem newDeposits_go_frame {c : Crypto} {headers : List (Nat × Bytes)} {rel : Relayer.State} :
    ∀ {l : List Deposit} {a : State} {acc : List DepositReceipt} {b : State} {rs : List DepositReceipt},
      newDeposits.go c headers rel l a acc = .ok (b, rs) → b = { a with deposited := b.deposited }
  | [], _, _, _, _, h => by
    simp only [newDeposits.go, Outcome.ok.injEq, Prod.mk.injEq] at h
    rw [← h.1]
  | _ :: _, _, _, _, _, h => by
    obtain ⟨_, _, _, h⟩ := newDeposits_go_cons h
    rw [newDeposits_go_frame h]

/-- the deposit loop yields one receipt per item -/
theorem newDeposits_go_length {c : Crypto} {headers : List (Nat × Bytes)} {rel : Relayer.State} :
    ∀ {l : List Deposit} {a : State} {acc : List DepositReceipt} {b : State} {rs : List DepositReceipt},
      newDeposits.go c headers rel l a acc = .ok (b, rs) → rs.length = acc.length + l.length
  | [], _, _, _, _, h => by
    simp only [newDeposits.go, Outcome.ok.injEq, Prod.mk.injEq] at h
    rw [← h.2, List.length_reverse]
    rfl
  | _ :: _, _, _, _, _, h => by
    obtain ⟨_, _, _, h⟩ := newDeposits_go_cons h
    rw [newDeposits_go_length h, List.length_cons, List.length_cons, Nat.add_right_comm, Nat.add_assoc]

/-- ids outside the list keep their entry -/
theorem processWithdrawal_go_other {c : Crypto} {tx : Bytes} {fee : Nat} {outs : List BtcTx.TxOut} {txid : Bytes} {id : Nat} :
    ∀ {l : List Nat} {idx : Nat} {a : State} {vals : List Nat} {b : State} {vals' : List Nat},
      processWithdrawal.go c tx fee outs txid l idx a vals = .ok (b, vals') → id ∉ l →
      nlookup b.withdrawals id = nlookup a.withdrawals id
  | [], _, _, _, _, _, h, _ => by
    simp only [processWithdrawal.go, Outcome.ok.injEq, Prod.mk.injEq] at h
    rw [← h.1]
  | wid :: _, _, _, _, _, _, h, hid => by
    obtain ⟨_, _, _, _, h⟩ := processWithdrawal_go_cons h
    rw [processWithdrawal_go_other h (fun hm => hid (List.mem_cons_of_mem _ hm))]
    exact nlookup_ninsert_other _ _ _ _ (fun e => hid (e ▸ List.mem_cons_self ..))

/-- storing `hs` at the heights right above `t`: the tip moves by their number, each hash sits at
    its height, and no other height is rewritten -/
theorem foldl_ninsert_above : ∀ (hs : List Bytes) (m : List (Nat × Bytes)) (t : Nat),
    let res := hs.foldl (fun (acc : List (Nat × Bytes) × Nat) h => (ninsert acc.1 (acc.2 + 1) h, acc.2 + 1)) (m, t)
    res.2 = t + hs.length ∧ (∀ k, (hk : k < hs.length) → nlookup res.1 (t + 1 + k) = some hs[k]) ∧
    (∀ j, j ≤ t ∨ t + hs.length < j → nlookup res.1 j = nlookup m j)
  | [], m, t => ⟨rfl, fun _ hk => absurd hk (Nat.not_lt_zero _), fun _ _ => rfl⟩
  | x :: xs, m, t => by
    obtain ⟨i1, i2, i3⟩ := foldl_ninsert_above xs (ninsert m (t + 1) x) (t + 1)
    simp only [List.foldl_cons, List.length_cons]
    refine ⟨by omega, fun k hk => ?_, fun j hj => ?_⟩
    · cases k with
      | zero => rw [Nat.add_zero, i3 (t + 1) (Or.inl (Nat.le_refl _)), nlookup_ninsert_same, List.getElem_cons_zero]
      | succ k' =>
        rw [List.getElem_cons_succ, ← i2 k' (Nat.lt_of_succ_lt_succ hk), Nat.add_right_comm (t + 1) 1 k',
          Nat.add_assoc (t + 1) k' 1]
    · rw [i3 j (by omega)]
      exact nlookup_ninsert_other _ _ _ _ (by omega)

theorem newBlockHashes_ok {rc : Relayer.Crypto} {chainId : String} {rel : Relayer.State} {s : State} {vote : VoteMsg}
    {hv : Bool} {start : Nat} {hashes : List Bytes} {r : Relayer.State × State}
    (h : newBlockHashes rc chainId rel s vote hv start hashes = .ok r) :
    hv = true ∧ start ≠ 0 ∧ hashes.length ≤ 16 ∧ (∀ x ∈ hashes, x.length = 32) ∧ votesValidate vote = true ∧
    start = (s.tip + 1) % two64 ∧
    ∃ rel' q, Relayer.verifyProposal rc chainId rel
        { vote with method := "Bitcoin/NewBlocks", sigDoc := List.replicate 8 0 ++ le64 start ++ hashes.flatten } = .ok (rel', q) ∧
      r = (Relayer.consumeVote rc rel' q vote.signature,
           { s with hashes := (hashes.foldl (fun (acc : List (Nat × Bytes) × Nat) h => (ninsert acc.1 (acc.2 + 1) h, acc.2 + 1)) (s.hashes, s.tip)).1,
                    tip := (hashes.foldl (fun (acc : List (Nat × Bytes) × Nat) h => (ninsert acc.1 (acc.2 + 1) h, acc.2 + 1)) (s.hashes, s.tip)).2 }) := by
  unfold newBlockHashes at h
  obtain ⟨h1, h⟩ := Outcome.of_guard_err h
  obtain ⟨h2, h⟩ := Outcome.of_guard_err h
  obtain ⟨h3, h⟩ := Outcome.of_guard_err h
  obtain ⟨h4, h⟩ := Outcome.of_guard_err h
  obtain ⟨h5, h⟩ := Outcome.of_guard_err h
  obtain ⟨h6, h⟩ := Outcome.of_guard_err h
  dsimp only at h
  split at h
  · cases h
  · cases h
  rename_i rel' q hvp
  cases h
  exact ⟨by simpa using h1, h2, by omega, by simpa using h4, by simpa using h5, by simpa using h6, rel', q, hvp, rfl⟩

theorem newPubkey_ok {rc : Relayer.Crypto} {chainId : String} {rel : Relayer.State} {s : State} {vote : VoteMsg}
    {hv : Bool} {pk : PubKey} {r : Relayer.State × State}
    (h : newPubkey rc chainId rel s vote hv pk = .ok r) :
    hv = true ∧ pk.validate = true ∧ votesValidate vote = true ∧
    ∃ rel' q, Relayer.verifyProposal rc chainId rel { vote with method := "Bitcoin/NewPubkey", sigDoc := pk.encode } = .ok (rel', q) ∧
      rel'.pubkeys.contains pk.encode = false ∧
      r = (Relayer.consumeVote rc { rel' with pubkeys := rel'.pubkeys ++ [pk.encode] } q vote.signature, { s with pubkey := pk }) := by
  unfold newPubkey at h
  obtain ⟨h1, h⟩ := Outcome.of_guard_err h
  obtain ⟨h2, h⟩ := Outcome.of_guard_err h
  obtain ⟨h3, h⟩ := Outcome.of_guard_err h
  dsimp only at h
  split at h
  · cases h
  · cases h
  rename_i rel' q hvp
  obtain ⟨h4, h⟩ := Outcome.of_guard_err h
  cases h
  exact ⟨by simpa using h1, by simpa using h2, by simpa using h3, rel', q, hvp, by simpa using h4, rfl⟩

theorem processWithdrawal_ok {c : Crypto} {rc : Relayer.Crypto} {chainId : String} {rel : Relayer.State} {s : State}
    {vote : VoteMsg} {hv : Bool} {ids : List Nat} {tx : Bytes} {fee : Nat} {r : Relayer.State × State}
    (h : processWithdrawal c rc chainId rel s vote hv ids tx fee = .ok r) :
    hv = true ∧ 82 ≤ tx.length ∧ tx.length ≤ 32768 ∧ fee ≠ 0 ∧ ids.length ≠ 0 ∧ ids.length ≤ 32 ∧
    ∃ outs, BtcTx.parseNoWitness tx = some outs ∧ (outs.length = ids.length ∨ outs.length = ids.length + 1) ∧
    ∃ rel' q, Relayer.verifyProposal rc chainId rel
        { vote with method := "Bitcoin/ProcessWithdrawal", sigDoc := (ids.map le64).flatten ++ rc.sha256 tx ++ le64 fee } = .ok (rel', q) ∧
    ∃ s1 vals, processWithdrawal.go c tx fee outs (c.dsha256 tx) ids 0 s [] = .ok (s1, vals) ∧
      changeOk c s1 outs ids.length = true ∧
      r = (Relayer.consumeVote rc rel' q vote.signature,
           { s1 with processing := ninsert s1.processing s1.processId
                        { txids := [c.dsha256 tx], outputs := [vals], withdrawals := ids, fee := fee },
                     processId := (s1.processId + 1) % two64 }) := by
  unfold processWithdrawal at h
  obtain ⟨h1, h⟩ := Outcome.of_guard_err h
  obtain ⟨h2, h⟩ := Outcome.of_guard_err h
  obtain ⟨h3, h⟩ := Outcome.of_guard_err h
  obtain ⟨h4, h⟩ := Outcome.of_guard_err h
  split at h
  · cases h
  rename_i outs hparse
  obtain ⟨h5, h⟩ := Outcome.of_guard_err h
  dsimp only at h
  split at h
  · cases h
  · cases h
  rename_i rel' q hvp
  split at h
  · cases h
  · cases h
  rename_i s1 vals hgo
  obtain ⟨h6, h⟩ := Outcome.of_guard_err h
  cases h
  exact ⟨by simpa using h1, by omega, by omega, h3, by omega, by omega, outs, hparse, by omega, rel', q, hvp, s1, vals, hgo,
    by simpa using h6, rfl⟩

theorem replaceWithdrawal_ok {c : Crypto} {rc : Relayer.Crypto} {chainId : String} {rel : Relayer.State} {s : State}
    {vote : VoteMsg} {hv : Bool} {pid : Nat} {tx : Bytes} {fee : Nat} {r : Relayer.State × State}
    (h : replaceWithdrawal c rc chainId rel s vote hv pid tx fee = .ok r) :
    hv = true ∧ 82 ≤ tx.length ∧ tx.length ≤ 32768 ∧ fee ≠ 0 ∧
    ∃ outs p, BtcTx.parseNoWitness tx = some outs ∧ nlookup s.processing pid = some p ∧ p.fee < fee ∧
      p.txids.contains (c.dsha256 tx) = false ∧
      (outs.length = p.withdrawals.length ∨ outs.length = p.withdrawals.length + 1) ∧
    ∃ rel' q, Relayer.verifyProposal rc chainId rel
        { vote with method := "Bitcoin/ReplaceWithdrawal", sigDoc := le64 pid ++ le64 fee ++ rc.sha256 tx } = .ok (rel', q) ∧
    ∃ s1 vals, replaceWithdrawal.go c tx fee outs (c.dsha256 tx) p.withdrawals 0 s [] = .ok (s1, vals) ∧
      changeOk c s1 outs p.withdrawals.length = true ∧
      r = (Relayer.consumeVote rc rel' q vote.signature,
           { s1 with processing := ninsert s1.processing pid
                        { p with fee := fee, txids := p.txids ++ [c.dsha256 tx], outputs := p.outputs ++ [vals] } }) := by
  unfold replaceWithdrawal at h
  obtain ⟨h1, h⟩ := Outcome.of_guard_err h
  obtain ⟨h2, h⟩ := Outcome.of_guard_err h
  obtain ⟨h3, h⟩ := Outcome.of_guard_err h
  split at h
  · cases h
  rename_i outs hparse
  dsimp only at h
  split at h
  · cases h
  rename_i p hp
  obtain ⟨h4, h⟩ := Outcome.of_guard_err h
  obtain ⟨h5, h⟩ := Outcome.of_guard_err h
  obtain ⟨h6, h⟩ := Outcome.of_guard_err h
  split at h
  · cases h
  · cases h
  rename_i rel' q hvp
  split at h
  · cases h
  · cases h
  rename_i s1 vals hgo
  obtain ⟨h7, h⟩ := Outcome.of_guard_err h
  cases h
  exact ⟨by simpa using h1, by omega, by omega, h3, outs, p, hparse, hp, by omega, by simpa using h5, by omega, rel', q, hvp,
    s1, vals, hgo, by simpa using h7, rfl⟩

theorem finalizeWithdrawal_ok {c : Crypto} {rel : Relayer.State} {s : State} {m : FinalizeMsg} {r : Relayer.State × State}
    (h : finalizeWithdrawal c rel s m = .ok r) :
    m.txid.length = 32 ∧ m.txIndex ≠ 0 ∧ m.proof.length ≠ 0 ∧ m.header.length = 80 ∧
    ∃ rel', Relayer.verifyNonProposal rel m.proposer = .ok rel' ∧
    ∃ p idx blockHash, nlookup s.processing m.pid = some p ∧ p.txids.length = p.outputs.length ∧
      p.txids.findIdx? (· == m.txid) = some idx ∧ (p.outputs[idx]!).length = p.withdrawals.length ∧
      nlookup s.hashes m.blockNumber = some blockHash ∧ blockHash = c.dsha256 m.header ∧
      Merkle.verify c.dsha256 m.txid ((m.header.drop 36).take 32) m.proof m.txIndex = true ∧
    ∃ s1, finalizeWithdrawal.go m (p.outputs[idx]!) p.withdrawals 0 s = .ok s1 ∧
      r = (rel', { s1 with processing := nerase s1.processing m.pid }) := by
  unfold finalizeWithdrawal at h
  obtain ⟨h1, h⟩ := Outcome.of_guard_err h
  obtain ⟨h2, h⟩ := Outcome.of_guard_err h
  obtain ⟨h3, h⟩ := Outcome.of_guard_err h
  split at h
  · cases h
  · cases h
  rename_i rel' hrel
  split at h
  · cases h
  rename_i p hp
  obtain ⟨h4, h⟩ := Outcome.of_guard_err h
  split at h
  · cases h
  rename_i idx hidx
  dsimp only at h
  obtain ⟨h5, h⟩ := Outcome.of_guard_err h
  split at h
  · cases h
  rename_i blockHash hbh
  obtain ⟨h6, h⟩ := Outcome.of_guard_err h
  obtain ⟨h7, h⟩ := Outcome.of_guard_err h
  split at h
  · cases h
  · cases h
  rename_i s1 hgo
  cases h
  exact ⟨by simpa using h1, by omega, by omega, by simpa using h3, rel', hrel, p, idx, blockHash, hp, by simpa using h4, hidx,
    by simpa using h5, hbh, by simpa using h6, by simpa using h7, s1, hgo, rfl⟩

theorem approveCancellation_ok {rel : Relayer.State} {s : State} {proposer : String} {ids : List Nat} {r : Relayer.State × State}
    (h : approveCancellation rel s proposer ids = .ok r) :
    ids.length ≠ 0 ∧ ids.length ≤ 32 ∧
    ∃ rel', Relayer.verifyNonProposal rel proposer = .ok rel' ∧
    ∃ s1, approveCancellation.go ids s = .ok s1 ∧
      r = (rel', { s1 with queue := { s1.queue with rejected := s1.queue.rejected ++ ids } }) := by
  unfold approveCancellation at h
  obtain ⟨h1, h⟩ := Outcome.of_guard_err h
  split at h
  · cases h
  · cases h
  rename_i rel' hrel
  split at h
  · cases h
  · cases h
  rename_i s1 hgo
  cases h
  exact ⟨by omega, by omega, rel', hrel, s1, hgo, rfl⟩

/-- The guards in the order of `MsgNewConsolidation.Validate` and the handler. A message without a vote makes
    `req.Vote.Validate()` dereference nil: the model answers `.panic`, so `hv = true` is among the conclusions. -/
theorem newConsolidation_ok {c : Crypto} {rc : Relayer.Crypto} {chainId : String} {rel : Relayer.State} {s : State}
    {vote : VoteMsg} {hv : Bool} {tx : Bytes} {r : Relayer.State × State}
    (h : newConsolidation c rc chainId rel s vote hv tx = .ok r) :
    82 ≤ tx.length ∧ tx.length ≤ 32768 ∧ hv = true ∧ votesValidate vote = true ∧
    ∃ outs, BtcTx.parseNoWitness tx = some outs ∧ outs.length = 1 ∧
      verifySystemAddressScript c s.pubkey (outs[0]!).pkScript = true ∧
    ∃ rel' q, Relayer.verifyProposal rc chainId rel
        { vote with method := "Bitcoin/NewConsolidation", sigDoc := rc.sha256 tx } = .ok (rel', q) ∧
      r = (Relayer.consumeVote rc rel' q vote.signature, s) := by
  unfold newConsolidation at h
  obtain ⟨h1, h⟩ := Outcome.of_guard_err h
  obtain ⟨h2, h⟩ := Outcome.of_guard_panic h
  obtain ⟨h3, h⟩ := Outcome.of_guard_err h
  split at h
  · cases h
  rename_i outs hparse
  obtain ⟨h4, h⟩ := Outcome.of_guard_err h
  obtain ⟨h5, h⟩ := Outcome.of_guard_err h
  dsimp only at h
  split at h
  · cases h
  · cases h
  rename_i rel' q hvp
  cases h
  exact ⟨by omega, by omega, by simpa using h2, by simpa using h3, outs, hparse, by simpa using h4, by simpa using h5,
    rel', q, hvp, rfl⟩

theorem newDeposits_ok {c : Crypto} {rel : Relayer.State} {s : State} {m : NewDepositsMsg} {r : Relayer.State × State}
    (h : newDeposits c rel s m = .ok r) :
    m.deposits.length ≠ 0 ∧ m.deposits.length ≤ 16 ∧ m.headers.length ≠ 0 ∧ m.headers.length ≤ m.deposits.length ∧
    ∃ headers, blockHeadersMap m.headers = some headers ∧
    ∃ rel', Relayer.verifyNonProposal rel m.proposer = .ok rel' ∧
    ∃ s1 rs, newDeposits.go c headers rel' m.deposits s [] = .ok (s1, rs) ∧
      r = (rel', { s1 with queue := { s1.queue with deposits := s1.queue.deposits ++ rs } }) := by
  unfold newDeposits at h
  obtain ⟨h1, h⟩ := Outcome.of_guard_err h
  obtain ⟨h2, h⟩ := Outcome.of_guard_err h
  split at h
  · cases h
  rename_i headers hh
  split at h
  · cases h
  · cases h
  rename_i rel' hrel
  split at h
  · cases h
  · cases h
  rename_i s1 rs hgo
  cases h
  exact ⟨by omega, by omega, by omega, by omega, headers, hh, rel', hrel, s1, rs, hgo, rfl⟩

/-! The fields a handler writes: `r.2 = { s with … := r.2.… }` names the fields that may differ; that any
    other field is unchanged then follows by rewriting with the equation. -/

theorem newBlockHashes_frame {rc : Relayer.Crypto} {chainId : String} {rel : Relayer.State} {s : State} {vote : VoteMsg}
    {hv : Bool} {start : Nat} {hashes : List Bytes} {r : Relayer.State × State}
    (h : newBlockHashes rc chainId rel s vote hv start hashes = .ok r) : r.2 = { s with hashes := r.2.hashes, tip := r.2.tip } := by
  obtain ⟨_, _, _, _, _, _, _, _, _, rfl⟩ := newBlockHashes_ok h
  rfl

theorem newPubkey_frame {rc : Relayer.Crypto} {chainId : String} {rel : Relayer.State} {s : State} {vote : VoteMsg}
    {hv : Bool} {pk : PubKey} {r : Relayer.State × State}
    (h : newPubkey rc chainId rel s vote hv pk = .ok r) : r.2 = { s with pubkey := r.2.pubkey } := by
  obtain ⟨_, _, _, _, _, _, _, rfl⟩ := newPubkey_ok h
  rfl

theorem processWithdrawal_frame {c : Crypto} {rc : Relayer.Crypto} {chainId : String} {rel : Relayer.State} {s : State}
    {vote : VoteMsg} {hv : Bool} {ids : List Nat} {tx : Bytes} {fee : Nat} {r : Relayer.State × State}
    (h : processWithdrawal c rc chainId rel s vote hv ids tx fee = .ok r) :
    r.2 = { s with withdrawals := r.2.withdrawals, processing := r.2.processing, processId := r.2.processId } := by
  obtain ⟨_, _, _, _, _, _, _, _, _, _, _, _, s1, _, hgo, _, rfl⟩ := processWithdrawal_ok h
  rw [processWithdrawal_go_frame hgo]

theorem replaceWithdrawal_frame {c : Crypto} {rc : Relayer.Crypto} {chainId : String} {rel : Relayer.State} {s : State}
    {vote : VoteMsg} {hv : Bool} {pid : Nat} {tx : Bytes} {fee : Nat} {r : Relayer.State × State}
    (h : replaceWithdrawal c rc chainId rel s vote hv pid tx fee = .ok r) :
    r.2 = { s with withdrawals := r.2.withdrawals, processing := r.2.processing } := by
  obtain ⟨_, _, _, _, _, _, _, _, _, _, _, _, _, _, s1, _, hgo, _, rfl⟩ := replaceWithdrawal_ok h
  rw [replaceWithdrawal_go_frame hgo]

theorem finalizeWithdrawal_frame {c : Crypto} {rel : Relayer.State} {s : State} {m : FinalizeMsg} {r : Relayer.State × State}
    (h : finalizeWithdrawal c rel s m = .ok r) :
    r.2 = { s with withdrawals := r.2.withdrawals, processing := r.2.processing,
                   queue := { s.queue with paid := r.2.queue.paid } } := by
  obtain ⟨_, _, _, _, _, _, _, _, _, _, _, _, _, _, _, _, s1, hgo, rfl⟩ := finalizeWithdrawal_ok h
  rw [finalizeWithdrawal_go_frame hgo]

theorem approveCancellation_frame {rel : Relayer.State} {s : State} {proposer : String} {ids : List Nat} {r : Relayer.State × State}
    (h : approveCancellation rel s proposer ids = .ok r) :
    r.2 = { s with withdrawals := r.2.withdrawals, queue := { s.queue with rejected := r.2.queue.rejected } } := by
  obtain ⟨_, _, _, _, s1, hgo, rfl⟩ := approveCancellation_ok h
  rw [approveCancellation_go_frame hgo]

theorem newConsolidation_frame {c : Crypto} {rc : Relayer.Crypto} {chainId : String} {rel : Relayer.State} {s : State}
    {vote : VoteMsg} {hv : Bool} {tx : Bytes} {r : Relayer.State × State}
    (h : newConsolidation c rc chainId rel s vote hv tx = .ok r) : r.2 = s := by
  obtain ⟨_, _, _, _, _, _, _, _, _, _, _, rfl⟩ := newConsolidation_ok h
  rfl

theorem newDeposits_frame {c : Crypto} {rel : Relayer.State} {s : State} {m : NewDepositsMsg} {r : Relayer.State × State}
    (h : newDeposits c rel s m = .ok r) :
    r.2 = { s with deposited := r.2.deposited, queue := { s.queue with deposits := r.2.queue.deposits } } := by
  obtain ⟨_, _, _, _, _, _, _, _, s1, rs, hgo, rfl⟩ := newDeposits_ok h
  rw [newDeposits_go_frame hgo]

theorem length_number : ∀ (fs : List (Nat → SysTx)) (n : Nat), (number n fs).length = fs.length
  | [], _ => rfl
  | _ :: fs, n => congrArg (· + 1) (length_number fs (n + 1))

theorem number_append : ∀ (xs ys : List (Nat → SysTx)) (n : Nat),
    number n (xs ++ ys) = number n xs ++ number (n + xs.length) ys := by
  intro xs
  induction xs with
  | nil => intro ys n; simp [number]
  | cons f fs ih =>
    intro ys n
    simp only [List.cons_append, number, ih, List.length_cons]
    have : n + 1 + fs.length = n + (fs.length + 1) := by omega
    rw [this]

/-- numbering does not change what the items carry -/
theorem filterMap_number {α β : Type} (f : SysTx → Option β) (g : α → Nat → SysTx) (k : α → Option β)
    (hfg : ∀ a n, f (g a n) = k a) : ∀ (l : List α) (n : Nat), (number n (l.map g)).filterMap f = l.filterMap k := by
  intro l
  induction l with
  | nil => intro n; rfl
  | cons a l ih =>
    intro n
    simp only [List.map_cons, number, List.filterMap_cons, hfg, ih]

/-- what a numbered batch of the four kinds of bridge item carries, kind by kind -/
theorem filterMap_number_items {β : Type} (f : SysTx → Option β) (kh : Bytes → Option β) (kd : DepositReceipt → Option β)
    (kp : Nat × Receipt → Option β) (kr : Nat → Option β)
    (hh : ∀ h n, f (.newBlock n h) = kh h) (hd : ∀ d n, f (.deposit n d) = kd d)
    (hp : ∀ p n, f (.paid n p.1 p.2) = kp p) (hr : ∀ id n, f (.cancel2 n id) = kr id)
    (n : Nat) (hb : List Bytes) (ds : List DepositReceipt) (ps : List (Nat × Receipt)) (rs : List Nat) :
    (number n (hb.map (fun h n => SysTx.newBlock n h) ++ ds.map (fun d n => SysTx.deposit n d) ++
        ps.map (fun p n => SysTx.paid n p.1 p.2) ++ rs.map (fun id n => SysTx.cancel2 n id))).filterMap f =
      hb.filterMap kh ++ ds.filterMap kd ++ ps.filterMap kp ++ rs.filterMap kr := by
  rw [number_append, number_append, number_append, List.filterMap_append, List.filterMap_append, List.filterMap_append,
    filterMap_number f _ kh hh, filterMap_number f _ kd hd, filterMap_number f _ kp hp, filterMap_number f _ kr hr]

theorem filterMap_none {α β : Type} (l : List α) : l.filterMap (fun _ => (none : Option β)) = [] := by
  induction l with
  | nil => rfl
  | cons a l ih => simp [ih]

theorem drop_take_length {α : Type} (l : List α) (k : Nat) : l.drop (l.take k).length = l.drop k := by
  rw [List.length_take]
  by_cases h : k ≤ l.length
  · rw [Nat.min_eq_left h]
  · have h' : l.length ≤ k := by omega
    rw [Nat.min_eq_right h', List.drop_length, List.drop_eq_nil_of_le h']

theorem take_take_length {α : Type} (l : List α) (k : Nat) : l.take (l.take k).length = l.take k := by
  rw [List.length_take, List.take_eq_take_iff]
  omega

theorem drop_of_eq_nil {α : Type} {l : List α} (h : l = []) (k : Nat) : l.drop k = l := by
  rw [h, List.drop_nil]

/-- **One dequeue, exactly.**  A successful `dequeue` hands over
    `number s.nonce (≤1 block hash ‖ first 8 deposits ‖ first 8 paid ‖ first (8 − #paid) refunds)`;
    the block hash, if any, is the voted hash of the height right above the cursor; exactly these
    prefixes leave the queue and the cursor advances by the number of hashes; an empty hand-over
    changes nothing, any other advances the nonce by the number of transactions (modulo 2^64) and
    writes nothing but queue and nonce. -/
theorem dequeue_ok {s s' : State} {txs : List SysTx} (h : dequeue s = .ok (s', txs)) :
    ∃ hb : List Bytes, hb.length ≤ 1 ∧
      (∀ x ∈ hb, s.queue.blockNumber < s.tip ∧ nlookup s.hashes (s.queue.blockNumber + 1) = some x) ∧
      txs = number s.nonce (hb.map (fun h n => SysTx.newBlock n h) ++ (s.queue.deposits.take 8).map (fun d n => SysTx.deposit n d) ++
              (s.queue.paid.take 8).map (fun p n => SysTx.paid n p.1 p.2) ++
              (s.queue.rejected.take (8 - (s.queue.paid.take 8).length)).map (fun id n => SysTx.cancel2 n id)) ∧
      s'.queue = { blockNumber := s.queue.blockNumber + hb.length, deposits := s.queue.deposits.drop 8, paid := s.queue.paid.drop 8,
                   rejected := s.queue.rejected.drop (8 - (s.queue.paid.take 8).length) } ∧
      (txs = [] → s' = s) ∧
      (txs ≠ [] → s' = { s with queue := s'.queue, nonce := (s.nonce + txs.length) % two64 }) := by
  unfold dequeue at h
  dsimp only at h
  split at h
  · cases h
  · cases h
  rename_i hbf hhb
  have : ∃ hb : List Bytes, hbf = hb.map (fun h n => SysTx.newBlock n h) ∧ hb.length ≤ 1 ∧
      ∀ x ∈ hb, s.queue.blockNumber < s.tip ∧ nlookup s.hashes (s.queue.blockNumber + 1) = some x := by
    split at hhb
    · rename_i hlt
      split at hhb
      · cases hhb
      · rename_i x hx
        cases hhb
        exact ⟨[x], rfl, Nat.le_refl 1, fun y hy => by rw [List.mem_singleton.mp hy]; exact ⟨hlt, hx⟩⟩
    · cases hhb
      exact ⟨[], rfl, Nat.zero_le 1, fun y hy => nomatch hy⟩
  obtain ⟨hb, rfl, hlen, hhb'⟩ := this
  refine ⟨hb, hlen, hhb', ?_⟩
  rw [List.length_map] at h
  generalize hits : hb.map (fun h n => SysTx.newBlock n h) ++ (s.queue.deposits.take 8).map (fun d n => SysTx.deposit n d) ++
      (s.queue.paid.take 8).map (fun p n => SysTx.paid n p.1 p.2) ++
      (s.queue.rejected.take (8 - (s.queue.paid.take 8).length)).map (fun id n => SysTx.cancel2 n id) = its at h ⊢
  split at h
  · rename_i hemp
    cases h
    rw [List.isEmpty_iff] at hemp
    subst hemp
    simp only [List.append_eq_nil_iff, List.map_eq_nil_iff, List.take_eq_nil_iff] at hits
    obtain ⟨⟨⟨rfl, hd⟩, hp⟩, hr⟩ := hits
    have hp := hp.resolve_left (by decide)
    rw [hp] at hr
    refine ⟨rfl, ?_, fun _ => rfl, fun hc => absurd rfl hc⟩
    rw [drop_of_eq_nil (hd.resolve_left (by decide)), drop_of_eq_nil hp, drop_of_eq_nil (hr.resolve_left (by decide))]
    rfl
  · rename_i hne
    cases h
    refine ⟨rfl, ?_, fun hc => ?_, fun _ => ?_⟩
    · show Queue.mk _ _ _ _ = _
      rw [drop_take_length, drop_take_length, drop_take_length]
    · exact absurd (List.isEmpty_iff.mpr (List.eq_nil_of_length_eq_zero ((length_number _ _).symm.trans (congrArg List.length hc)))) hne
    · rw [length_number]

/-- `dequeue` writes nothing but the queue and the nonce -/
theorem dequeue_frame {s s' : State} {txs : List SysTx} (h : dequeue s = .ok (s', txs)) :
    s' = { s with queue := s'.queue, nonce := s'.nonce } := by
  obtain ⟨_, _, _, _, _, he, hn⟩ := dequeue_ok h
  by_cases ht : txs = []
  · rw [he ht]
  · have e := hn ht
    rw [show s'.nonce = (s.nonce + txs.length) % two64 by rw [e]]
    exact e

/-- one creation step of `processBridgeRequest` (the body of its fold) -/
def createStep (c : Crypto) (acc : List (Nat × Withdrawal) × List Nat) (v : WithdrawReq) : List (Nat × Withdrawal) × List Nat :=
  let valid := (c.decodeAddr v.address).isSome
  let w : Withdrawal := { address := v.address, requestAmount := v.amount, maxTxPrice := v.txPrice,
                          status := if valid then .pending else .canceled, receipt := none }
  (ninsert acc.1 v.id w, if valid then acc.2 else acc.2 ++ [v.id])

theorem processBridgeRequest_goRbf_cons {id price : Nat} {rest : List (Nat × Nat)} {a b : State}
    (h : processBridgeRequest.goRbf ((id, price) :: rest) a = .ok b) :
    ∃ w, nlookup a.withdrawals id = some w ∧
      ((w.status ≠ .pending ∧ w.status ≠ .processing) ∧ processBridgeRequest.goRbf rest a = .ok b ∨
       (w.status = .pending ∨ w.status = .processing) ∧
         processBridgeRequest.goRbf rest { a with withdrawals := ninsert a.withdrawals id { w with maxTxPrice := price } } = .ok b) := by
  simp only [processBridgeRequest.goRbf] at h
  split at h
  · cases h
  rename_i w hw
  split at h
  · exact ⟨w, hw, Or.inl ⟨‹_›, h⟩⟩
  · exact ⟨w, hw, Or.inr ⟨Decidable.or_iff_not_not_and_not.mpr ‹_›, h⟩⟩

theorem processBridgeRequest_goCancel_cons {id : Nat} {rest : List Nat} {a b : State}
    (h : processBridgeRequest.goCancel (id :: rest) a = .ok b) :
    ∃ w, nlookup a.withdrawals id = some w ∧
      (w.status ≠ .pending ∧ processBridgeRequest.goCancel rest a = .ok b ∨
       w.status = .pending ∧
         processBridgeRequest.goCancel rest { a with withdrawals := ninsert a.withdrawals id { w with status := .canceling } } = .ok b) := by
  simp only [processBridgeRequest.goCancel] at h
  split at h
  · cases h
  rename_i w hw
  split at h
  · exact ⟨w, hw, Or.inl ⟨‹_›, h⟩⟩
  · exact ⟨w, hw, Or.inr ⟨Decidable.not_not.mp ‹_›, h⟩⟩

theorem processBridgeRequest_goRbf_frame :
    ∀ {l : List (Nat × Nat)} {a b : State}, processBridgeRequest.goRbf l a = .ok b → b = { a with withdrawals := b.withdrawals }
  | [], _, _, h => by
    simp only [processBridgeRequest.goRbf, Outcome.ok.injEq] at h
    rw [← h]
  | (_, _) :: _, _, _, h => by
    obtain ⟨_, _, ⟨_, h⟩ | ⟨_, h⟩⟩ := processBridgeRequest_goRbf_cons h
    · exact processBridgeRequest_goRbf_frame h
    · rw [processBridgeRequest_goRbf_frame h]

theorem processBridgeRequest_goCancel_frame :
    ∀ {l : List Nat} {a b : State}, processBridgeRequest.goCancel l a = .ok b → b = { a with withdrawals := b.withdrawals }
  | [], _, _, h => by
    simp only [processBridgeRequest.goCancel, Outcome.ok.injEq] at h
    rw [← h]
  | _ :: _, _, _, h => by
    obtain ⟨_, _, ⟨_, h⟩ | ⟨_, h⟩⟩ := processBridgeRequest_goCancel_cons h
    · exact processBridgeRequest_goCancel_frame h
    · rw [processBridgeRequest_goCancel_frame h]

theorem withdraws_nil_of_count {r : BridgeReqs} (h : r.count = 0) : r.withdraws = [] := by
  unfold BridgeReqs.count at h
  exact List.eq_nil_of_length_eq_zero (by omega)

/-- a successful `processBridgeRequest` read backwards: nothing to do, or the three passes in turn -/
theorem processBridgeRequest_ok {c : Crypto} {s s' : State} {r : BridgeReqs} (h : processBridgeRequest c s r = .ok s') :
    (r.count = 0 ∧ s' = s) ∨
    (r.count ≠ 0 ∧ ∃ s2 s3,
      processBridgeRequest.goRbf r.rbf
        { s with withdrawals := (r.withdraws.foldl (createStep c) (s.withdrawals, [])).1,
                 queue := { s.queue with rejected := s.queue.rejected ++ (r.withdraws.foldl (createStep c) (s.withdrawals, [])).2 } } = .ok s2 ∧
      processBridgeRequest.goCancel r.cancel1 s2 = .ok s3 ∧
      s' = { s3 with params := applyParamReqs s3.params r }) := by
  unfold processBridgeRequest at h
  by_cases hc : r.count = 0
  · rw [if_pos hc] at h
    cases h
    exact Or.inl ⟨hc, rfl⟩
  rw [if_neg hc] at h
  dsimp only at h
  split at h
  · cases h
  · cases h
  rename_i s2 hrbf
  split at h
  · cases h
  · cases h
  rename_i s3 hcan
  cases h
  exact Or.inr ⟨hc, s2, s3, hrbf, hcan, rfl⟩

theorem processBridgeRequest_frame {c : Crypto} {s s' : State} {r : BridgeReqs} (h : processBridgeRequest c s r = .ok s') :
    s' = { s with withdrawals := s'.withdrawals, params := s'.params,
                  queue := { s.queue with rejected := s'.queue.rejected } } := by
  rcases processBridgeRequest_ok h with ⟨_, rfl⟩ | ⟨_, s2, s3, hrbf, hcan, rfl⟩
  · rfl
  · rw [processBridgeRequest_goCancel_frame hcan, processBridgeRequest_goRbf_frame hrbf]

end Goat.Bitcoin
