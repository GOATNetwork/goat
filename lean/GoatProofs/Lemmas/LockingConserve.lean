/-
  Integer sums, `Coins` arithmetic (`amountOf` / `coinsSum` after `setAmount`, `addCoin`, `addCoins`; canonical,
  non-negative and positive coin sets; their denominations), association lists whose update rewrites the
  entry of a key or appends one (the model's maps; `aget` / `aset` for those keyed by address), the projection of a locking state to the part the
  conservation measures of C11H depend on (`View`), the unlock queues and the aggregation of lock requests.
-/
import GoatModel.Locking
import GoatProofs.Lemmas.Locking
import GoatProofs.Lemmas.LockingOps
namespace Goat.Locking

/-! ### integer sums -/

def isum : List Int → Int
  | [] => 0
  | x :: xs => x + isum xs

@[simp] theorem isum_nil : isum [] = 0 := rfl
@[simp] theorem isum_cons (x : Int) (xs : List Int) : isum (x :: xs) = x + isum xs := rfl

theorem isum_append (a b : List Int) : isum (a ++ b) = isum a + isum b := by
  induction a with
  | nil => exact (Int.zero_add _).symm
  | cons x xs ih => rw [List.cons_append, isum_cons, isum_cons, ih, Int.add_assoc]

theorem isum_perm {a b : List Int} (h : a.Perm b) : isum a = isum b := by
  induction h with
  | nil => rfl
  | cons x _ ih => rw [isum_cons, isum_cons, ih]
  | swap x y l => rw [isum_cons, isum_cons, isum_cons, isum_cons, Int.add_left_comm]
  | trans _ _ ih1 ih2 => exact ih1.trans ih2

theorem isum_eq_sum (l : List Int) : isum l = l.sum := by
  induction l with
  | nil => rfl
  | cons x xs ih => rw [isum_cons, List.sum_cons, ih]

theorem sum_perm {a b : List Int} (h : a.Perm b) : a.sum = b.sum := by
  rw [← isum_eq_sum, ← isum_eq_sum]
  exact isum_perm h

theorem isum_map_filter_split {α : Type} (f : α → Int) (p : α → Bool) (l : List α) :
    isum (l.map f) = isum ((l.filter p).map f) + isum ((l.filter (fun x => !p x)).map f) := by
  induction l with
  | nil => rfl
  | cons x xs ih =>
    rw [List.map_cons, isum_cons, ih]
    cases hp : p x
    · rw [List.filter_cons_of_neg (by rw [hp]; exact Bool.false_ne_true), List.filter_cons_of_pos (by rw [hp]; rfl),
        List.map_cons, isum_cons, Int.add_left_comm]
    · rw [List.filter_cons_of_pos hp, List.filter_cons_of_neg (by rw [hp]; exact Bool.false_ne_true),
        List.map_cons, isum_cons, Int.add_assoc]

theorem isum_map_flatten {α : Type} (f : α → Int) (ll : List (List α)) :
    isum (ll.flatten.map f) = isum (ll.map (fun l => isum (l.map f))) := by
  induction ll with
  | nil => rfl
  | cons l ls ih => rw [List.flatten_cons, List.map_append, isum_append, ih]; rfl

theorem isum_map_take_drop {α : Type} (f : α → Int) (n : Nat) (l : List α) :
    isum (l.map f) = isum ((l.take n).map f) + isum ((l.drop n).map f) := by
  rw [← isum_append, ← List.map_append, List.take_append_drop]

theorem isum_nonneg (l : List Int) (h : ∀ x ∈ l, 0 ≤ x) : 0 ≤ isum l := by
  induction l with
  | nil => exact Int.le_refl 0
  | cons x xs ih =>
    exact Int.add_nonneg (h x List.mem_cons_self) (ih (fun y hy => h y (List.mem_cons_of_mem _ hy)))

theorem isum_map_nonneg {α : Type} (f : α → Int) (l : List α) (h : ∀ x ∈ l, 0 ≤ f x) : 0 ≤ isum (l.map f) :=
  isum_nonneg _ (List.forall_mem_map.mpr h)

theorem ite_nonneg {p : Prop} [Decidable p] {x : Int} (h : 0 ≤ x) : 0 ≤ if p then x else 0 := by
  split
  · exact h
  · exact Int.le_refl 0

/-- a successful fold adds up the increments `δ a` that its steps make to a measure `m` -/
theorem foldlM_sum_mem {α β : Type} (P : β → Prop) (m : β → Int) (δ : α → Int) (f : β → α → Outcome β) :
    ∀ (l : List α), (∀ b a b', a ∈ l → P b → f b a = .ok b' → P b' ∧ m b' = m b + δ a) →
    ∀ (b b' : β), P b → l.foldlM f b = .ok b' → P b' ∧ m b' = m b + isum (l.map δ) := by
  intro l
  induction l with
  | nil => intro _ b b' hb h; rw [foldlM_nil_ok f b b' h]; exact ⟨hb, (Int.add_zero _).symm⟩
  | cons a l ih =>
    intro hf b b' hb h
    obtain ⟨b1, h1, h2⟩ := foldlM_cons_ok f a l b b' h
    obtain ⟨hp1, hm1⟩ := hf b a b1 List.mem_cons_self hb h1
    obtain ⟨hp2, hm2⟩ := ih (fun b a' b' ha' => hf b a' b' (List.mem_cons_of_mem _ ha')) b1 b' hp1 h2
    exact ⟨hp2, by rw [hm2, hm1, List.map_cons, isum_cons, Int.add_assoc]⟩

/-! ### Coins -/

/-- sum of *all* entries of a denomination (`amountOf` reads the first one) -/
def coinsSum (c : Coins) (d : String) : Int := isum (c.map (fun e => if e.1 = d then e.2 else 0))

/-- every denomination occurs with its total in the first entry (true of every `sdk.Coins` value,
    where denominations are unique) -/
def Canon (c : Coins) : Prop := ∀ d, coinsSum c d = amountOf c d

def CoinsNonneg (c : Coins) : Prop := ∀ e ∈ c, 0 ≤ e.2

@[simp] theorem amountOf_nil (d : String) : amountOf [] d = 0 := rfl

theorem amountOf_cons (e : String × Int) (c : Coins) (d : String) :
    amountOf (e :: c) d = if e.1 = d then e.2 else amountOf c d := by
  unfold amountOf
  rw [List.find?_cons]
  by_cases h : e.1 = d
  · rw [if_pos h, beq_iff_eq.mpr h]; rfl
  · rw [if_neg h, beq_eq_false_iff_ne.mpr h]

@[simp] theorem coinsSum_nil (d : String) : coinsSum [] d = 0 := rfl

theorem coinsSum_cons (e : String × Int) (c : Coins) (d : String) :
    coinsSum (e :: c) d = (if e.1 = d then e.2 else 0) + coinsSum c d := rfl

theorem coinsSum_append (a b : Coins) (d : String) : coinsSum (a ++ b) d = coinsSum a d + coinsSum b d := by
  unfold coinsSum; rw [List.map_append, isum_append]

theorem canon_nil : Canon [] := fun _ => rfl

theorem amountOf_nonneg (c : Coins) (h : CoinsNonneg c) (d : String) : 0 ≤ amountOf c d := by
  induction c with
  | nil => simp
  | cons e c ih =>
    rw [amountOf_cons]
    split
    · exact h e (List.mem_cons_self)
    · exact ih (fun x hx => h x (List.mem_cons_of_mem _ hx))

theorem coinsSum_nonneg (c : Coins) (h : CoinsNonneg c) (d : String) : 0 ≤ coinsSum c d :=
  isum_map_nonneg _ _ (fun e he => ite_nonneg (h e he))

theorem amountOf_filter (c : Coins) (d d' : String) :
    amountOf (c.filter (·.1 != d)) d' = if d = d' then 0 else amountOf c d' := by
  induction c with
  | nil => exact (ite_self _).symm
  | cons e c ih =>
    rw [List.filter_cons, amountOf_cons]
    by_cases h : e.1 = d
    · rw [if_neg (by rw [h, bne_self_eq_false]; exact Bool.false_ne_true), ih, h]
      split <;> rfl
    · rw [if_pos (bne_iff_ne.mpr h), amountOf_cons, ih]
      split
      · rename_i h2; rw [if_neg (fun x => h (h2.trans x.symm))]
      · rfl

theorem coinsSum_filter (c : Coins) (d d' : String) :
    coinsSum (c.filter (·.1 != d)) d' = if d = d' then 0 else coinsSum c d' := by
  induction c with
  | nil => exact (ite_self _).symm
  | cons e c ih =>
    rw [List.filter_cons, coinsSum_cons]
    by_cases h : e.1 = d
    · rw [if_neg (by rw [h, bne_self_eq_false]; exact Bool.false_ne_true), ih, h]
      split
      · rfl
      · exact (Int.zero_add _).symm
    · rw [if_pos (bne_iff_ne.mpr h), coinsSum_cons, ih]
      by_cases hd : d = d'
      · rw [if_pos hd, if_pos hd, if_neg (fun x => h (x.trans hd.symm))]; rfl
      · rw [if_neg hd, if_neg hd]

theorem ins_nil (d : String) (a : Int) : setAmount.ins d a [] = [(d, a)] := by simp [setAmount.ins]
theorem ins_cons (d : String) (a : Int) (e : String × Int) (es : Coins) :
    setAmount.ins d a (e :: es) = if d < e.1 then (d, a) :: e :: es else e :: setAmount.ins d a es := by
  simp [setAmount.ins]

theorem ins_perm (d : String) (a : Int) : ∀ l : Coins, (setAmount.ins d a l).Perm ((d, a) :: l)
  | [] => by rw [ins_nil]
  | e :: es => by
    rw [ins_cons]
    split
    · exact .refl _
    · exact ((ins_perm d a es).cons e).trans (.swap ..)

theorem mem_ins (d : String) (a : Int) (rest : Coins) (e : String × Int) :
    e ∈ setAmount.ins d a rest ↔ e = (d, a) ∨ e ∈ rest :=
  (ins_perm d a rest).mem_iff.trans List.mem_cons

theorem coinsSum_ins (d : String) (a : Int) (rest : Coins) (d' : String) :
    coinsSum (setAmount.ins d a rest) d' = (if d = d' then a else 0) + coinsSum rest d' :=
  isum_perm ((ins_perm d a rest).map _)

theorem str_lt_of_not_lt_of_ne {a b : String} (h : ¬ a < b) (hne : a ≠ b) : b < a :=
  Classical.byContradiction (fun hc => hne (String.le_antisymm (String.not_lt.1 hc) (String.not_lt.1 h)))

/-- insertion of a new denomination keeps the coins strictly sorted -/
theorem sorted_ins (d : String) (a : Int) : ∀ l : Coins, l.Pairwise (fun x y => x.1 < y.1) → d ∉ l.map (·.1) →
    (setAmount.ins d a l).Pairwise (fun x y => x.1 < y.1)
  | [], _, _ => by simp [ins_nil]
  | e :: es, hs, hd => by
    rw [ins_cons]
    rw [List.pairwise_cons] at hs
    rw [List.map_cons, List.mem_cons, not_or] at hd
    split
    next hlt =>
      refine List.pairwise_cons.2 ⟨fun y hy => ?_, List.pairwise_cons.2 hs⟩
      rcases List.mem_cons.1 hy with rfl | hy
      · exact hlt
      · exact String.lt_trans hlt (hs.1 y hy)
    next hlt =>
      refine List.pairwise_cons.2 ⟨fun y hy => ?_, sorted_ins d a es hs.2 hd.2⟩
      rcases List.mem_cons.1 ((ins_perm d a es).mem_iff.1 hy) with rfl | hy
      · exact str_lt_of_not_lt_of_ne hlt hd.1
      · exact hs.1 y hy

/-- in a coin set without the denomination `d`, the inserted entry is the one `amountOf` reads -/
theorem amountOf_ins (d : String) (a : Int) (rest : Coins) (d' : String) (hr : ∀ e ∈ rest, e.1 ≠ d) :
    amountOf (setAmount.ins d a rest) d' = if d = d' then a else amountOf rest d' := by
  induction rest with
  | nil => rw [setAmount.ins, amountOf_cons, amountOf_nil]
  | cons x xs ih =>
    unfold setAmount.ins
    split
    · rw [amountOf_cons]
    · rw [amountOf_cons, ih (fun e he => hr e (List.mem_cons_of_mem _ he)), amountOf_cons]
      split
      · rename_i h2; rw [if_neg (fun x => hr _ List.mem_cons_self (h2.trans x.symm))]
      · rfl

theorem amountOf_setAmount (c : Coins) (d : String) (a : Int) (d' : String) :
    amountOf (setAmount c d a) d' = if d = d' then a else amountOf c d' := by
  unfold setAmount
  split
  · rename_i ha; rw [amountOf_filter, ha]
  · rw [amountOf_ins _ _ _ _ (fun e he => bne_iff_ne.mp (List.mem_filter.mp he).2), amountOf_filter]
    split <;> rfl

theorem coinsSum_setAmount (c : Coins) (d : String) (a : Int) (d' : String) :
    coinsSum (setAmount c d a) d' = if d = d' then a else coinsSum c d' := by
  unfold setAmount
  split
  · rename_i ha; rw [coinsSum_filter, ha]
  · rw [coinsSum_ins, coinsSum_filter]
    split
    · exact Int.add_zero _
    · exact Int.zero_add _

theorem amountOf_setAmount_same (c : Coins) (d : String) (a : Int) : amountOf (setAmount c d a) d = a := by
  rw [amountOf_setAmount, if_pos rfl]

theorem amountOf_setAmount_other (c : Coins) (d : String) (a : Int) (d' : String) (hd : d' ≠ d) :
    amountOf (setAmount c d a) d' = amountOf c d' := by
  rw [amountOf_setAmount, if_neg hd.symm]

theorem canon_setAmount (c : Coins) (d : String) (a : Int) (h : Canon c) : Canon (setAmount c d a) := by
  intro d'
  rw [coinsSum_setAmount, amountOf_setAmount, h d']

theorem mem_setAmount (c : Coins) (d : String) (a : Int) (e : String × Int) (he : e ∈ setAmount c d a) :
    (e = (d, a) ∧ a ≠ 0) ∨ e ∈ c := by
  unfold setAmount at he
  by_cases ha : a = 0
  · simp only [ha, if_true] at he; exact Or.inr (List.mem_filter.mp he).1
  · simp only [ha, if_false] at he
    rcases (mem_ins d a _ e).mp he with h | h
    · exact Or.inl ⟨h, ha⟩
    · exact Or.inr (List.mem_filter.mp h).1

theorem nonneg_setAmount (c : Coins) (d : String) (a : Int) (h : CoinsNonneg c) (ha : 0 ≤ a) :
    CoinsNonneg (setAmount c d a) := by
  intro e he
  rcases mem_setAmount c d a e he with ⟨rfl, _⟩ | h'
  · exact ha
  · exact h e h'

/-- `coins.Add(NewCoin(d, a))` for a denomination not yet present and `a ≠ 0` -/
theorem addCoin_fresh (c : Coins) (d : String) (a : Int) (hd : d ∉ c.map (·.1)) (ha : a ≠ 0) :
    addCoin c d a = setAmount.ins d a c := by
  have hfind : c.find? (fun e => e.1 == d) = none :=
    List.find?_eq_none.2 fun e he heq => hd (List.mem_map.2 ⟨e, he, beq_iff_eq.1 heq⟩)
  simp [addCoin, amountOf, setAmount, hfind, filter_key_ne hd, ha]

theorem amountOf_addCoin (c : Coins) (d : String) (a : Int) (d' : String) :
    amountOf (addCoin c d a) d' = amountOf c d' + (if d = d' then a else 0) := by
  unfold addCoin
  rw [amountOf_setAmount]
  by_cases hd : d = d'
  · rw [if_pos hd, if_pos hd, hd]
  · rw [if_neg hd, if_neg hd, Int.add_zero]

theorem canon_addCoin (c : Coins) (d : String) (a : Int) (h : Canon c) : Canon (addCoin c d a) :=
  canon_setAmount c d _ h

theorem nonneg_addCoin (c : Coins) (d : String) (a : Int) (h : CoinsNonneg c) (ha : 0 ≤ a) :
    CoinsNonneg (addCoin c d a) := by
  have := amountOf_nonneg c h d
  exact nonneg_setAmount c d _ h (by omega)

theorem amountOf_addCoins (c cs : Coins) (d : String) :
    amountOf (addCoins c cs) d = amountOf c d + coinsSum cs d := by
  unfold addCoins
  induction cs generalizing c with
  | nil => exact (Int.add_zero _).symm
  | cons e es ih => rw [List.foldl_cons, ih, amountOf_addCoin, coinsSum_cons, Int.add_assoc]

theorem canon_addCoins (c cs : Coins) (h : Canon c) : Canon (addCoins c cs) := by
  unfold addCoins
  induction cs generalizing c with
  | nil => exact h
  | cons e es ih => rw [List.foldl_cons]; exact ih _ (canon_addCoin c e.1 e.2 h)

theorem nonneg_addCoins (c cs : Coins) (h : CoinsNonneg c) (hs : CoinsNonneg cs) : CoinsNonneg (addCoins c cs) := by
  unfold addCoins
  induction cs generalizing c with
  | nil => exact h
  | cons e es ih =>
    rw [List.foldl_cons]
    exact ih _ (nonneg_addCoin c e.1 e.2 h (hs e (List.mem_cons_self))) (fun x hx => hs x (List.mem_cons_of_mem _ hx))

/-! ### the denominations of a coin set; coin sets with positive amounts only -/

theorem mem_keys_of_amountOf_ne {c : Coins} {d : String} (h : amountOf c d ≠ 0) : d ∈ c.map (·.1) := by
  induction c with
  | nil => exact absurd rfl h
  | cons e c ih =>
    rw [amountOf_cons] at h
    rw [List.map_cons, List.mem_cons]
    by_cases he : e.1 = d
    · exact Or.inl he.symm
    · rw [if_neg he] at h; exact Or.inr (ih h)

theorem mem_keys_setAmount_other {c : Coins} {d d' : String} (a : Int) (hd : d' ≠ d) (h : d' ∈ c.map (·.1)) :
    d' ∈ (setAmount c d a).map (·.1) := by
  obtain ⟨e, he, hk⟩ := List.mem_map.mp h
  have hrest : e ∈ c.filter (·.1 != d) := List.mem_filter.mpr ⟨he, bne_iff_ne.mpr (hk ▸ hd)⟩
  unfold setAmount
  split
  · exact List.mem_map.mpr ⟨e, hrest, hk⟩
  · exact List.mem_map.mpr ⟨e, (mem_ins d a _ e).mpr (Or.inr hrest), hk⟩

theorem mem_keys_addCoins {c cs : Coins} {d' : String} (hd : d' ∉ cs.map (·.1)) (h : d' ∈ c.map (·.1)) :
    d' ∈ (addCoins c cs).map (·.1) := by
  unfold addCoins
  induction cs generalizing c with
  | nil => exact h
  | cons x xs ih =>
    rw [List.foldl_cons]
    rw [List.map_cons, List.mem_cons, not_or] at hd
    exact ih hd.2 (mem_keys_setAmount_other _ hd.1 h)

def Pos (c : Coins) : Prop := ∀ e ∈ c, 0 < e.2

theorem Pos.nonneg {c : Coins} (h : Pos c) : CoinsNonneg c := fun e he => Int.le_of_lt (h e he)

theorem pos_nil : Pos [] := fun e he => by cases he

theorem amountOf_pos_of_mem (c : Coins) (h : Pos c) (d : String) (hd : d ∈ c.map (·.1)) : 0 < amountOf c d := by
  induction c with
  | nil => simp at hd
  | cons e c ih =>
    rw [amountOf_cons]
    by_cases he : e.1 = d
    · rw [if_pos he]; exact h e List.mem_cons_self
    · rw [if_neg he]
      rw [List.map_cons, List.mem_cons] at hd
      rcases hd with hd | hd
      · exact absurd hd.symm he
      · exact ih (fun x hx => h x (List.mem_cons_of_mem _ hx)) hd

theorem pos_setAmount (c : Coins) (d : String) (a : Int) (h : Pos c) (ha : 0 ≤ a) : Pos (setAmount c d a) := by
  intro e he
  rcases mem_setAmount c d a e he with ⟨rfl, h0⟩ | h'
  · show 0 < a; omega
  · exact h e h'

theorem pos_addCoin (c : Coins) (d : String) (a : Int) (h : Pos c) (ha : 0 ≤ a) : Pos (addCoin c d a) := by
  have := amountOf_nonneg c h.nonneg d
  exact pos_setAmount c d _ h (by omega)

theorem pos_addCoins (c cs : Coins) (h : Pos c) (hs : CoinsNonneg cs) : Pos (addCoins c cs) := by
  unfold addCoins
  induction cs generalizing c with
  | nil => exact h
  | cons e es ih =>
    rw [List.foldl_cons]
    exact ih _ (pos_addCoin c e.1 e.2 h (hs e List.mem_cons_self)) (fun x hx => hs x (List.mem_cons_of_mem _ hx))

theorem coinsSum_ge_mem (cs : Coins) (h : CoinsNonneg cs) (c : String × Int) (hc : c ∈ cs) : c.2 ≤ coinsSum cs c.1 := by
  induction cs with
  | nil => cases hc
  | cons e es ih =>
    rw [coinsSum_cons]
    have hes : CoinsNonneg es := fun x hx => h x (List.mem_cons_of_mem _ hx)
    rcases List.mem_cons.mp hc with rfl | hc'
    · rw [if_pos rfl]
      have := coinsSum_nonneg es hes c.1
      omega
    · have := ih hes hc'
      have := h e List.mem_cons_self
      split <;> omega

/-- the keys of `holding + coins` contain the keys of both -/
theorem keys_addCoins (c cs : Coins) (hc : Pos c) (hs : Pos cs) (d : String)
    (hd : d ∈ c.map (·.1) ∨ d ∈ cs.map (·.1)) : d ∈ (addCoins c cs).map (·.1) := by
  apply mem_keys_of_amountOf_ne
  rw [amountOf_addCoins]
  have h1 := amountOf_nonneg c hc.nonneg d
  have h2 := coinsSum_nonneg cs hs.nonneg d
  rcases hd with hd | hd
  · have := amountOf_pos_of_mem c hc d hd
    omega
  · obtain ⟨e, he, rfl⟩ := List.mem_map.mp hd
    have := coinsSum_ge_mem cs hs.nonneg e he
    have := hs e he
    omega

theorem keys_setAmount (c : Coins) (hc : Pos c) (d : String) (a : Int) (ha : 0 ≤ a) (d' : String) :
    d' ∈ (setAmount c d a).map (·.1) ↔ (d' = d ∧ a ≠ 0) ∨ (d' ≠ d ∧ d' ∈ c.map (·.1)) := by
  have hp := pos_setAmount c d a hc ha
  constructor
  · intro h
    have := amountOf_pos_of_mem _ hp d' h
    by_cases hd : d' = d
    · subst hd; rw [amountOf_setAmount_same] at this; exact Or.inl ⟨rfl, by omega⟩
    · rw [amountOf_setAmount_other c d a d' hd] at this
      exact Or.inr ⟨hd, mem_keys_of_amountOf_ne (by omega)⟩
  · rintro (⟨rfl, h⟩ | ⟨h1, h2⟩)
    · exact mem_keys_of_amountOf_ne (by rw [amountOf_setAmount_same]; exact h)
    · exact mem_keys_setAmount_other a h1 h2

/-! ### association lists: rewrite the entry of a key, or append one -/
section upd
variable {κ β : Type} [BEq κ]

/-- the update of the model's maps: every entry of key `k` becomes `(k, g old)`; when there is none,
    `(k, b₀)` is appended -/
def aupd (l : List (κ × β)) (k : κ) (g : β → β) (b₀ : β) : List (κ × β) :=
  if l.any (·.1 == k) then l.map (fun e => if e.1 == k then (k, g e.2) else e) else l ++ [(k, b₀)]

theorem mem_aupd {l : List (κ × β)} {k : κ} {g : β → β} {b₀ : β} {e : κ × β} (he : e ∈ aupd l k g b₀) :
    e ∈ l ∨ e = (k, b₀) ∨ ∃ e' ∈ l, (e'.1 == k) = true ∧ e = (k, g e'.2) := by
  unfold aupd at he
  split at he
  · obtain ⟨x, hx, rfl⟩ := List.mem_map.mp he
    split
    · exact Or.inr (Or.inr ⟨x, hx, ‹_›, rfl⟩)
    · exact Or.inl hx
  · rcases List.mem_append.mp he with h | h
    · exact Or.inl h
    · exact Or.inr (Or.inl (List.mem_singleton.mp h))

variable [LawfulBEq κ]

theorem map_upd_noop (l : List (κ × β)) (k : κ) (g : β → β) (h : k ∉ l.map (·.1)) :
    l.map (fun e => if e.1 == k then (k, g e.2) else e) = l := by
  refine (List.map_congr_left fun e he => if_neg fun hk => h ?_).trans (List.map_id' l)
  exact List.mem_map.mpr ⟨e, he, beq_iff_eq.mp hk⟩

theorem keys_map_upd (l : List (κ × β)) (k : κ) (g : β → β) :
    (l.map (fun e => if e.1 == k then (k, g e.2) else e)).map (·.1) = l.map (·.1) := by
  rw [List.map_map]
  refine List.map_congr_left fun e _ => ?_
  show (if e.1 == k then (k, g e.2) else e).1 = e.1
  split
  · rename_i h; exact (beq_iff_eq.mp h).symm
  · rfl

theorem aupd_of_not_mem (l : List (κ × β)) (k : κ) (g : β → β) (b₀ : β) (h : k ∉ l.map (·.1)) :
    aupd l k g b₀ = l ++ [(k, b₀)] :=
  if_neg (fun ha => h ((any_key l k).mp ha))

theorem nodup_keys_aupd (l : List (κ × β)) (k : κ) (g : β → β) (b₀ : β) (h : (l.map (·.1)).Nodup) :
    ((aupd l k g b₀).map (·.1)).Nodup := by
  unfold aupd
  split
  · rw [keys_map_upd]; exact h
  · rename_i ha
    rw [List.map_append]
    refine List.nodup_append.mpr ⟨h, List.nodup_cons.mpr ⟨List.not_mem_nil, List.nodup_nil⟩, fun x hx y hy hxy => ?_⟩
    rw [List.map_cons, List.map_nil, List.mem_singleton] at hy
    exact ha ((any_key l k).mpr ((hxy.trans hy : x = k) ▸ hx))

/-- with distinct keys, an entry `(k, b)` of the list is the one that is rewritten -/
theorem aupd_of_mem {l : List (κ × β)} {k : κ} {b : β} (g : β → β) (b₀ : β) (hn : (l.map (·.1)).Nodup) (hm : (k, b) ∈ l) :
    ∃ l₁ l₂, l = l₁ ++ (k, b) :: l₂ ∧ aupd l k g b₀ = l₁ ++ (k, g b) :: l₂ := by
  obtain ⟨l₁, l₂, rfl⟩ := List.append_of_mem hm
  refine ⟨l₁, l₂, rfl, ?_⟩
  rw [List.map_append, List.map_cons] at hn
  obtain ⟨_, h2, h3⟩ := List.nodup_append.mp hn
  have k1 : k ∉ l₁.map (·.1) := fun hk => h3 k hk k List.mem_cons_self rfl
  have k2 : k ∉ l₂.map (·.1) := (List.nodup_cons.mp h2).1
  unfold aupd
  rw [if_pos ((any_key _ k).mpr (List.mem_map.mpr ⟨(k, b), hm, rfl⟩)), List.map_append, List.map_cons, map_upd_noop l₁ k g k1,
    map_upd_noop l₂ k g k2, if_pos (beq_self_eq_true k)]

end upd

/-! ### association lists keyed by address (the model's maps) -/
section assoc
variable {β : Type}

def aget (l : List (Bytes × β)) (a : Bytes) : Option β := (l.find? (·.1 == a)).map (·.2)

def aset (l : List (Bytes × β)) (a : Bytes) (c : β) : List (Bytes × β) :=
  if l.any (·.1 == a) then l.map (fun e => if e.1 == a then (a, c) else e) else l ++ [(a, c)]

/-- distinct keys (true of every store of the Go code) -/
def AKeys (l : List (Bytes × β)) : Prop := (l.map (·.1)).Nodup

theorem aget_cons (e : Bytes × β) (l : List (Bytes × β)) (a : Bytes) :
    aget (e :: l) a = if e.1 = a then some e.2 else aget l a := by
  unfold aget
  by_cases h : e.1 = a
  · rw [List.find?_cons_of_pos (p := fun x : Bytes × β => x.1 == a) (beq_iff_eq.mpr h), if_pos h]; rfl
  · rw [List.find?_cons_of_neg (p := fun x : Bytes × β => x.1 == a) (fun hb => h (beq_iff_eq.mp hb)), if_neg h]

/-- the entry `aget` finds -/
theorem aget_some {l : List (Bytes × β)} {a : Bytes} {c : β} (h : aget l a = some c) : (a, c) ∈ l := by
  obtain ⟨e, he, rfl⟩ := Option.map_eq_some_iff.mp h
  have h1 : e.1 = a := beq_iff_eq.mp (List.find?_some (p := fun x : Bytes × β => x.1 == a) he)
  exact h1 ▸ List.mem_of_find?_eq_some he

theorem aget_none {l : List (Bytes × β)} {a : Bytes} (h : aget l a = none) : ∀ e ∈ l, e.1 ≠ a :=
  fun e he h1 => List.find?_eq_none.mp (Option.map_eq_none_iff.mp h) e he (beq_iff_eq.mpr h1)

theorem aget_none_not_mem (l : List (Bytes × β)) (a : Bytes) (h : aget l a = none) : a ∉ l.map (·.1) := by
  intro ha
  obtain ⟨e, he, h1⟩ := List.mem_map.mp ha
  exact aget_none h e he h1

theorem aset_eq (l : List (Bytes × β)) (a : Bytes) (c : β) : aset l a c = aupd l a (fun _ => c) c := rfl

/-- with distinct keys, the entry of `a` occurs once and `aset` rewrites exactly that entry -/
theorem aset_split (l : List (Bytes × β)) (a : Bytes) (c c' : β) (hn : AKeys l) (hg : aget l a = some c) :
    ∃ l1 l2, l = l1 ++ (a, c) :: l2 ∧ aset l a c' = l1 ++ (a, c') :: l2 :=
  aupd_of_mem (fun _ => c') c' hn (aget_some hg)

theorem aset_none (l : List (Bytes × β)) (a : Bytes) (c' : β) (hg : aget l a = none) :
    aset l a c' = l ++ [(a, c')] :=
  aupd_of_not_mem l a (fun _ => c') c' (aget_none_not_mem l a hg)

theorem akeys_aset (l : List (Bytes × β)) (a : Bytes) (c' : β) (hn : AKeys l) : AKeys (aset l a c') :=
  nodup_keys_aupd l a (fun _ => c') c' hn

theorem aset_same (l : List (Bytes × β)) (a : Bytes) (c : β) (hn : AKeys l) (hg : aget l a = some c) :
    aset l a c = l := by
  obtain ⟨l1, l2, h1, h2⟩ := aset_split l a c c hn hg
  rw [h2, ← h1]

theorem aget_aset_same (l : List (Bytes × β)) (a : Bytes) (c : β) : aget (aset l a c) a = some c := by
  unfold aset
  induction l with
  | nil => exact (aget_cons _ _ _).trans (if_pos rfl)
  | cons e es ih =>
    rw [List.any_cons]
    by_cases he : e.1 = a
    · rw [beq_iff_eq.mpr he, Bool.true_or, if_pos rfl, List.map_cons, if_pos (beq_iff_eq.mpr he)]
      exact (aget_cons _ _ _).trans (if_pos rfl)
    · rw [beq_eq_false_iff_ne.mpr he, Bool.false_or]
      by_cases h : es.any (·.1 == a) = true
      · rw [if_pos h] at ih ⊢
        rw [List.map_cons, if_neg (fun hb => he (beq_iff_eq.mp hb)), aget_cons, if_neg he]
        exact ih
      · rw [if_neg h] at ih ⊢
        rw [List.cons_append, aget_cons, if_neg he]
        exact ih

theorem aget_aset_other (l : List (Bytes × β)) (a b : Bytes) (c : β) (hab : a ≠ b) :
    aget (aset l a c) b = aget l b := by
  unfold aset
  by_cases h : l.any (·.1 == a) = true
  · rw [if_pos h]
    clear h
    induction l with
    | nil => rfl
    | cons e es ih =>
      rw [List.map_cons, aget_cons, aget_cons, ih]
      by_cases he : e.1 = a
      · have : (e.1 == a) = true := by simpa using he
        rw [this, if_pos rfl]
        have h1 : ¬ a = b := hab
        have h2 : ¬ e.1 = b := by rw [he]; exact hab
        rw [if_neg h1, if_neg h2]
      · have : (e.1 == a) = false := by simpa using he
        rw [this]; rfl
  · rw [if_neg h]
    clear h
    induction l with
    | nil => simp [aget, hab]
    | cons e es ih => rw [List.cons_append, aget_cons, aget_cons, ih]

theorem keys_aset (l : List (Bytes × β)) (a : Bytes) (c : β) :
    (aset l a c).map (·.1) = if a ∈ l.map (·.1) then l.map (·.1) else l.map (·.1) ++ [a] := by
  unfold aset
  by_cases h : l.any (·.1 == a) = true
  · rw [if_pos h, if_pos ((any_key l a).mp h)]
    exact keys_map_upd l a (fun _ => c)
  · rw [if_neg h, if_neg (fun hm => h ((any_key l a).mpr hm)), List.map_append]
    rfl

/-- reading through a map of the values -/
theorem aget_map {γ : Type} (f : β → γ) (l : List (Bytes × β)) (a : Bytes) :
    aget (l.map (fun e => (e.1, f e.2))) a = (aget l a).map f := by
  induction l with
  | nil => rfl
  | cons e es ih =>
    rw [List.map_cons, aget_cons, aget_cons, ih]
    dsimp only
    split <;> rfl

/-- writing through a map of the values -/
theorem aset_map {γ : Type} (f : β → γ) (l : List (Bytes × β)) (a : Bytes) (c : β) :
    (aset l a c).map (fun e => (e.1, f e.2)) = aset (l.map (fun e => (e.1, f e.2))) a (f c) := by
  unfold aset
  rw [List.any_map]
  show _ = if l.any (·.1 == a) then _ else _
  split
  · rw [List.map_map, List.map_map]
    refine List.map_congr_left fun e _ => ?_
    dsimp only [Function.comp]
    split <;> rfl
  · exact List.map_append

/-- sum of a measure of the entries -/
def asum (f : β → Int) (l : List (Bytes × β)) : Int := isum (l.map (fun e => f e.2))

theorem asum_append (f : β → Int) (a b : List (Bytes × β)) : asum f (a ++ b) = asum f a + asum f b := by
  unfold asum; rw [List.map_append, isum_append]

theorem asum_cons (f : β → Int) (e : Bytes × β) (l : List (Bytes × β)) : asum f (e :: l) = f e.2 + asum f l := rfl

theorem asum_aset_some (f : β → Int) (l : List (Bytes × β)) (a : Bytes) (c c' : β) (hn : AKeys l)
    (hg : aget l a = some c) : asum f (aset l a c') = asum f l - f c + f c' := by
  obtain ⟨l1, l2, h1, h2⟩ := aset_split l a c c' hn hg
  rw [h2, h1, asum_append, asum_append, asum_cons, asum_cons]
  simp only; omega

theorem asum_aset_none (f : β → Int) (l : List (Bytes × β)) (a : Bytes) (c' : β) (hg : aget l a = none) :
    asum f (aset l a c') = asum f l + f c' := by
  rw [aset_none l a c' hg, asum_append, asum_cons]; simp [asum]

theorem mem_aset (l : List (Bytes × β)) (a : Bytes) (c : β) (e : Bytes × β) (he : e ∈ aset l a c) :
    e = (a, c) ∨ e ∈ l := by
  rcases mem_aupd (g := fun _ => c) (b₀ := c) he with h | h | ⟨_, _, _, h⟩
  · exact Or.inr h
  · exact Or.inl h
  · exact Or.inl h

theorem asum_nonneg (f : β → Int) (l : List (Bytes × β)) (h : ∀ e ∈ l, 0 ≤ f e.2) : 0 ≤ asum f l :=
  isum_map_nonneg _ l h

end assoc

/-! ### the view of a state that the conservation measures read -/

/-- validators' holdings (by address), slashed totals, time queue of unlocks, matured unlocks -/
structure View where
  params : Params
  locks : List (Bytes × Coins)
  slashed : List (String × Int)
  unlockQueue : List (Int × List Unlock)
  qUnlocks : List Unlock

def view (s : State) : View :=
  { params := s.params, locks := s.validators.map (fun e => (e.1, e.2.locking)), slashed := s.slashed,
    unlockQueue := s.unlockQueue, qUnlocks := s.qUnlocks }

def locksGet (l : List (Bytes × Coins)) (a : Bytes) : Option Coins := (l.find? (·.1 == a)).map (·.2)

theorem locksGet_eq_aget (l : List (Bytes × Coins)) (a : Bytes) : locksGet l a = aget l a := rfl

theorem locksGet_none_not_mem (l : List (Bytes × Coins)) (a : Bytes) (h : locksGet l a = none) : a ∉ l.map (·.1) :=
  aget_none_not_mem l a h

def KeysNodup (l : List (Bytes × Coins)) : Prop := (l.map (·.1)).Nodup

/-- the view reads neither the ranking nor the locking index -/
theorem IdxWrites.view {a : Bytes} {s t : State} (h : IdxWrites a s t) : view t = view s := by
  unfold Locking.view
  rw [h.params, h.validators, h.slashed, h.unlockQueue, h.qUnlocks]

@[simp] theorem view_rankRemove (s : State) (p : Nat) (a : Bytes) : view (rankRemove s p a) = view s := rfl
@[simp] theorem view_rankSet (s : State) (p : Nat) (a : Bytes) : view (rankSet s p a) = view s := by
  unfold rankSet; split <;> rfl
@[simp] theorem view_idxSet (s : State) (d : String) (a : Bytes) (x : Int) : view (idxSet s d a x) = view s := rfl
@[simp] theorem view_idxRemove (s : State) (d : String) (a : Bytes) : view (idxRemove s d a) = view s := rfl
@[simp] theorem view_tset (s : State) (d : String) (t : Token) : view (tset s d t) = view s := rfl

theorem view_vset (s : State) (a : Bytes) (v : Validator) :
    view (vset s a v) = { view s with locks := aset (view s).locks a v.locking } :=
  congrArg (fun l => { view s with locks := l }) (aset_map Validator.locking s.validators a v)

theorem aget_view (s : State) (a : Bytes) : aget (view s).locks a = (vget s a).map (·.locking) :=
  aget_map Validator.locking s.validators a

/-- a property of every holding -/
def LAll (P : Coins → Prop) (l : List (Bytes × Coins)) : Prop := ∀ e ∈ l, P e.2

theorem lall_aset (P : Coins → Prop) (l : List (Bytes × Coins)) (a : Bytes) (c : Coins) (h : LAll P l) (hc : P c) :
    LAll P (aset l a c) := by
  intro e he
  rcases mem_aset l a c e he with rfl | h'
  · exact hc
  · exact h e h'

theorem lall_get (P : Coins → Prop) (l : List (Bytes × Coins)) (a : Bytes) (c : Coins) (h : LAll P l)
    (hg : aget l a = some c) : P c := h (a, c) (aget_some hg)

/-! ### slashed totals -/

theorem amountOf_filter_append (c : Coins) (d : String) (y : Int) (d' : String) :
    amountOf (c.filter (·.1 != d) ++ [(d, y)]) d' = if d = d' then y else amountOf c d' := by
  induction c with
  | nil => exact amountOf_cons _ _ _
  | cons e c ih =>
    rw [List.filter_cons]
    by_cases h : e.1 = d
    · rw [if_neg (by rw [h, bne_self_eq_false]; exact Bool.false_ne_true), ih, amountOf_cons, h]
      split <;> rfl
    · rw [if_pos (bne_iff_ne.mpr h), List.cons_append, amountOf_cons, ih, amountOf_cons]
      by_cases h2 : e.1 = d'
      · rw [if_pos h2, if_pos h2, if_neg (fun x => h (h2.trans x.symm))]
      · rw [if_neg h2, if_neg h2]

theorem view_slashedAdd (s : State) (d : String) (x : Int) :
    view (slashedAdd s d x) =
      { view s with slashed := (s.slashed.filter (·.1 != d)) ++ [(d, amountOf s.slashed d + x)] } := rfl

theorem slashed_slashedAdd (s : State) (d : String) (x : Int) (d' : String) :
    amountOf (slashedAdd s d x).slashed d' = amountOf s.slashed d' + (if d = d' then x else 0) := by
  show amountOf ((s.slashed.filter (·.1 != d)) ++ [(d, amountOf s.slashed d + x)]) d' = _
  rw [amountOf_filter_append]
  by_cases h : d = d'
  · rw [if_pos h, if_pos h, h]
  · rw [if_neg h, if_neg h, Int.add_zero]

/-! ### unlock queues -/

/-- the amount of one unlock record counted for denomination `d`; the record carries the token
    address, `denomOf` is the address ↦ denomination map (`types.TokenDenom`) -/
def unlockAmt (denomOf : Bytes → String) (d : String) (u : Unlock) : Int := if denomOf u.token = d then u.amount else 0

def unlockSum (denomOf : Bytes → String) (us : List Unlock) (d : String) : Int := isum (us.map (unlockAmt denomOf d))

def queueSum (denomOf : Bytes → String) (q : List (Int × List Unlock)) (d : String) : Int :=
  isum (q.map (fun e => unlockSum denomOf e.2 d))

theorem unlockSum_nonneg (denomOf : Bytes → String) (us : List Unlock) (d : String) (h : ∀ u ∈ us, 0 ≤ u.amount) :
    0 ≤ unlockSum denomOf us d :=
  isum_map_nonneg _ _ (fun u hu => ite_nonneg (h u hu))

theorem unlockSum_append (denomOf : Bytes → String) (a b : List Unlock) (d : String) :
    unlockSum denomOf (a ++ b) d = unlockSum denomOf a d + unlockSum denomOf b d := by
  unfold unlockSum; rw [List.map_append, isum_append]

theorem unlockSum_single (denomOf : Bytes → String) (u : Unlock) (d : String) :
    unlockSum denomOf [u] d = unlockAmt denomOf d u :=
  Int.add_zero _

theorem queueSum_cons (denomOf : Bytes → String) (e : Int × List Unlock) (q : List (Int × List Unlock)) (d : String) :
    queueSum denomOf (e :: q) d = unlockSum denomOf e.2 d + queueSum denomOf q d := rfl

theorem queueSum_append (denomOf : Bytes → String) (a b : List (Int × List Unlock)) (d : String) :
    queueSum denomOf (a ++ b) d = queueSum denomOf a d + queueSum denomOf b d := by
  unfold queueSum; rw [List.map_append, isum_append]

/-- the queue update of `enqueueUnlock` -/
def enq (q : List (Int × List Unlock)) (t : Int) (u : Unlock) : List (Int × List Unlock) :=
  if q.any (·.1 == t) then q.map (fun e => if e.1 == t then (t, e.2 ++ [u]) else e) else q ++ [(t, [u])]

theorem view_enqueueUnlock (s : State) (t : Int) (u : Unlock) :
    view (enqueueUnlock s t u) = { view s with unlockQueue := enq s.unlockQueue t u } := rfl

theorem enq_eq (q : List (Int × List Unlock)) (t : Int) (u : Unlock) : enq q t u = aupd q t (· ++ [u]) [u] := rfl

theorem enq_keys_nodup (q : List (Int × List Unlock)) (t : Int) (u : Unlock) (h : (q.map (·.1)).Nodup) :
    ((enq q t u).map (·.1)).Nodup :=
  nodup_keys_aupd q t (· ++ [u]) [u] h

/-- with distinct time keys the enqueue adds exactly the one record -/
theorem queueSum_enq (denomOf : Bytes → String) (q : List (Int × List Unlock)) (t : Int) (u : Unlock) (d : String)
    (h : (q.map (·.1)).Nodup) : queueSum denomOf (enq q t u) d = queueSum denomOf q d + unlockAmt denomOf d u := by
  rw [enq_eq]
  by_cases ht : t ∈ q.map (·.1)
  · obtain ⟨e, he, rfl⟩ := List.mem_map.mp ht
    obtain ⟨q₁, q₂, rfl, h2⟩ := aupd_of_mem (· ++ [u]) [u] h he
    rw [h2, queueSum_append, queueSum_append, queueSum_cons, queueSum_cons, unlockSum_append, unlockSum_single]
    dsimp only
    omega
  · rw [aupd_of_not_mem q t _ [u] ht, queueSum_append, queueSum_cons, unlockSum_single]
    exact congrArg (queueSum denomOf q d + ·) (Int.add_zero _)

/-- where a record of the queue after an enqueue comes from: it is the new one under the new key, or
    it was there under the same key -/
theorem mem_enq (q : List (Int × List Unlock)) (t : Int) (u : Unlock) (e : Int × List Unlock) (x : Unlock)
    (he : e ∈ enq q t u) (hx : x ∈ e.2) : (x = u ∧ e.1 = t) ∨ ∃ e' ∈ q, e'.1 = e.1 ∧ x ∈ e'.2 := by
  rw [enq_eq] at he
  rcases mem_aupd he with h | rfl | ⟨e', he', hk, rfl⟩
  · exact Or.inr ⟨e, h, rfl, hx⟩
  · exact Or.inl ⟨List.mem_singleton.mp hx, rfl⟩
  · rcases List.mem_append.mp hx with h | h
    · exact Or.inr ⟨e', he', beq_iff_eq.mp hk, h⟩
    · exact Or.inl ⟨List.mem_singleton.mp h, rfl⟩

theorem enq_key (q : List (Int × List Unlock)) (t : Int) (u : Unlock) (e : Int × List Unlock) (he : e ∈ enq q t u) :
    e.1 = t ∨ e.1 ∈ q.map (·.1) := by
  rw [enq_eq] at he
  rcases mem_aupd he with h | rfl | ⟨_, _, _, rfl⟩
  · exact Or.inr (List.mem_map_of_mem h)
  · exact Or.inl rfl
  · exact Or.inl rfl

theorem unlockSum_flatten (denomOf : Bytes → String) (q : List (Int × List Unlock)) (d : String) :
    unlockSum denomOf ((q.map (·.2)).flatten) d = queueSum denomOf q d := by
  unfold unlockSum queueSum
  rw [isum_map_flatten, List.map_map]; rfl

theorem queueSum_perm (denomOf : Bytes → String) {a b : List (Int × List Unlock)} (h : a.Perm b) (d : String) :
    queueSum denomOf a d = queueSum denomOf b d := isum_perm (h.map _)

/-- moving the matured entries to the delivery queue keeps the queued total -/
theorem queued_dequeueMature (denomOf : Bytes → String) (s : State) (now : Int) (d : String) :
    queueSum denomOf (dequeueMature s now).unlockQueue d + unlockSum denomOf (dequeueMature s now).qUnlocks d
      = queueSum denomOf s.unlockQueue d + unlockSum denomOf s.qUnlocks d := by
  rw [dequeueMature_unlockQueue, dequeueMature_qUnlocks, unlockSum_append, unlockSum_flatten]
  unfold dueUnlocks
  rw [queueSum_perm denomOf (List.mergeSort_perm _ _)]
  have := isum_map_filter_split (fun e : Int × List Unlock => unlockSum denomOf e.2 d) (fun e => decide (e.1 ≤ now)) s.unlockQueue
  unfold queueSum
  omega

theorem view_dequeueMature_fields (s : State) (now : Int) :
    (view (dequeueMature s now)).params = (view s).params ∧ (view (dequeueMature s now)).locks = (view s).locks ∧
    (view (dequeueMature s now)).slashed = (view s).slashed := by
  rw [dequeueMature_eq]
  exact ⟨rfl, rfl, rfl⟩

theorem dequeueMature_keys_nodup (s : State) (now : Int) (h : (s.unlockQueue.map (·.1)).Nodup) :
    ((dequeueMature s now).unlockQueue.map (·.1)).Nodup := by
  rw [dequeueMature_unlockQueue]
  exact List.Nodup.sublist ((List.filter_sublist).map _) h

/-! ### aggregation of lock requests -/

/-- total requested for denomination `d` -/
def lockSum (reqs : List LockReq) (d : String) : Int := isum (reqs.map (fun r => if r.token = d then r.amount else 0))

theorem lockSum_cons (r : LockReq) (reqs : List LockReq) (d : String) :
    lockSum (r :: reqs) d = (if r.token = d then r.amount else 0) + lockSum reqs d := rfl

theorem lockSum_nonneg (reqs : List LockReq) (d : String) (h : ∀ r ∈ reqs, 0 ≤ r.amount) : 0 ≤ lockSum reqs d :=
  isum_map_nonneg _ _ (fun r hr => ite_nonneg (h r hr))

def aggStep (acc : List (Bytes × Coins)) (r : LockReq) : List (Bytes × Coins) :=
  let cur := ((acc.find? (·.1 == r.validator)).map (·.2)).getD []
  let cur' := addCoin cur r.token r.amount
  if acc.any (·.1 == r.validator) then acc.map (fun e => if e.1 == r.validator then (e.1, cur') else e)
  else acc ++ [(r.validator, cur')]

theorem aggregateLocks_ok (reqs : List LockReq) (agg : List (Bytes × Coins)) (h : aggregateLocks reqs = .ok agg) :
    agg = reqs.foldl aggStep [] := by
  have h : (if ((reqs.foldl aggStep []).any fun e => e.2.any fun c => !fits256 c.2) = true then Outcome.panic "int-overflow"
      else Outcome.ok (reqs.foldl aggStep [])) = Outcome.ok agg := h
  split at h
  · cases h
  · cases h; rfl

theorem aggStep_eq (acc : List (Bytes × Coins)) (r : LockReq) :
    aggStep acc r = aset acc r.validator (addCoin ((aget acc r.validator).getD []) r.token r.amount) := by
  unfold aggStep aset aget
  dsimp only
  split
  · refine List.map_congr_left fun e _ => ?_
    split
    · rename_i h; rw [beq_iff_eq.mp h]
    · rfl
  · rfl

theorem aggStep_spec (acc : List (Bytes × Coins)) (r : LockReq) (hn : KeysNodup acc) (hc : LAll Canon acc) :
    KeysNodup (aggStep acc r) ∧ LAll Canon (aggStep acc r) ∧
    (∀ d, asum (amountOf · d) (aggStep acc r) = asum (amountOf · d) acc + (if r.token = d then r.amount else 0)) ∧
    (LAll CoinsNonneg acc → 0 ≤ r.amount → LAll CoinsNonneg (aggStep acc r)) := by
  rw [aggStep_eq]
  -- the coins already aggregated for the validator, none when this is its first request
  have key : ∃ c₀, (aget acc r.validator).getD [] = c₀ ∧ Canon c₀ ∧ (LAll CoinsNonneg acc → CoinsNonneg c₀) ∧
      ∀ c' d, asum (amountOf · d) (aset acc r.validator c') = asum (amountOf · d) acc - amountOf c₀ d + amountOf c' d := by
    cases hg : aget acc r.validator with
    | none =>
      exact ⟨[], rfl, canon_nil, fun _ e he => (nomatch he),
        fun c' d => by rw [asum_aset_none _ _ _ _ hg, amountOf_nil, Int.sub_zero]⟩
    | some c =>
      exact ⟨c, rfl, lall_get Canon acc _ c hc hg, fun hnn => lall_get CoinsNonneg acc _ c hnn hg,
        fun c' d => asum_aset_some _ _ _ c _ hn hg⟩
  obtain ⟨c₀, h0, k1, k2, k3⟩ := key
  rw [h0]
  exact ⟨akeys_aset _ _ _ hn, lall_aset Canon _ _ _ hc (canon_addCoin _ _ _ k1),
    fun d => by rw [k3, amountOf_addCoin]; omega,
    fun hnn ha => lall_aset CoinsNonneg _ _ _ hnn (nonneg_addCoin _ _ _ (k2 hnn) ha)⟩

theorem agg_fold_spec (reqs : List LockReq) (acc : List (Bytes × Coins)) (hn : KeysNodup acc) (hc : LAll Canon acc) :
    KeysNodup (reqs.foldl aggStep acc) ∧ LAll Canon (reqs.foldl aggStep acc) ∧
    (∀ d, asum (amountOf · d) (reqs.foldl aggStep acc) = asum (amountOf · d) acc + lockSum reqs d) ∧
    (LAll CoinsNonneg acc → (∀ r ∈ reqs, 0 ≤ r.amount) → LAll CoinsNonneg (reqs.foldl aggStep acc)) := by
  induction reqs generalizing acc with
  | nil => exact ⟨hn, hc, fun d => (Int.add_zero _).symm, fun h _ => h⟩
  | cons r rs ih =>
    obtain ⟨h1, h2, h3, h4⟩ := aggStep_spec acc r hn hc
    obtain ⟨i1, i2, i3, i4⟩ := ih (aggStep acc r) h1 h2
    rw [List.foldl_cons]
    refine ⟨i1, i2, ?_, ?_⟩
    · intro d; rw [i3, h3, lockSum_cons]; omega
    · intro hnn hr
      exact i4 (h4 hnn (hr r List.mem_cons_self)) (fun x hx => hr x (List.mem_cons_of_mem _ hx))

theorem agg_fold_pos (reqs : List LockReq) (acc : List (Bytes × Coins)) (hp : LAll Pos acc) (hr : ∀ r ∈ reqs, 0 ≤ r.amount) :
    LAll Pos (reqs.foldl aggStep acc) := by
  induction reqs generalizing acc with
  | nil => exact hp
  | cons r rs ih =>
    rw [List.foldl_cons]
    refine ih _ ?_ (fun x hx => hr x (List.mem_cons_of_mem _ hx))
    rw [aggStep_eq]
    apply lall_aset Pos _ _ _ hp
    apply pos_addCoin _ _ _ _ (hr r List.mem_cons_self)
    cases hg : aget acc r.validator with
    | none => exact pos_nil
    | some c => exact lall_get Pos acc _ c hp hg

/-- the aggregated coins: distinct validators, canonical coin sets, and per denomination they add up
    to exactly the requested amounts -/
theorem aggregateLocks_spec (reqs : List LockReq) (agg : List (Bytes × Coins)) (h : aggregateLocks reqs = .ok agg) :
    KeysNodup agg ∧ LAll Canon agg ∧ (∀ d, asum (amountOf · d) agg = lockSum reqs d) ∧
    ((∀ r ∈ reqs, 0 ≤ r.amount) → LAll CoinsNonneg agg) := by
  rw [aggregateLocks_ok reqs agg h]
  obtain ⟨h1, h2, h3, h4⟩ := agg_fold_spec reqs [] List.nodup_nil (fun e he => nomatch he)
  exact ⟨h1, h2, fun d => (h3 d).trans (Int.zero_add _), fun hr => h4 (fun e he => nomatch he) hr⟩

/-- without negative requests every aggregated amount is positive -/
theorem aggregateLocks_pos (reqs : List LockReq) (agg : List (Bytes × Coins)) (h : aggregateLocks reqs = .ok agg)
    (hr : ∀ r ∈ reqs, 0 ≤ r.amount) : LAll Pos agg := by
  rw [aggregateLocks_ok reqs agg h]
  exact agg_fold_pos reqs [] (fun e he => nomatch he) hr

end Goat.Locking
