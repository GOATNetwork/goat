import GoatModel.Prelude
/-
  Reading a guard `if c then <refusal> else x` backwards: the ladders of the Go handlers
  (`if bad { return err }` one after another) give the passing answer (`ok` for an `Outcome`, `none` for an
  optional error, `true` for a `Bool`) only past every guard. Also: an `err` stays an `err` under a guard
  that raises `err`, and a loop without state succeeds iff every round does.
-/
namespace Goat

namespace Outcome

theorem guard_err_ok_iff {α} {c : Prop} [Decidable c] {e : String} {x : Outcome α} {a : α} :
    (if c then .err e else x) = .ok a ↔ ¬ c ∧ x = .ok a := by
  by_cases hc : c
  · rw [if_pos hc]
    exact ⟨nofun, fun h => absurd hc h.1⟩
  · rw [if_neg hc]
    exact ⟨fun h => ⟨hc, h⟩, fun h => h.2⟩

theorem guard_panic_ok_iff {α} {c : Prop} [Decidable c] {e : String} {x : Outcome α} {a : α} :
    (if c then .panic e else x) = .ok a ↔ ¬ c ∧ x = .ok a := by
  by_cases hc : c
  · rw [if_pos hc]
    exact ⟨nofun, fun h => absurd hc h.1⟩
  · rw [if_neg hc]
    exact ⟨fun h => ⟨hc, h⟩, fun h => h.2⟩

theorem of_guard_err {α} {c : Prop} [Decidable c] {e : String} {x : Outcome α} {a : α}
    (h : (if c then .err e else x) = .ok a) : ¬ c ∧ x = .ok a :=
  guard_err_ok_iff.mp h

theorem of_guard_panic {α} {c : Prop} [Decidable c] {e : String} {x : Outcome α} {a : α}
    (h : (if c then .panic e else x) = .ok a) : ¬ c ∧ x = .ok a :=
  guard_panic_ok_iff.mp h

/-- an error under a guard that itself only raises an error -/
theorem err_under_guard {α} {c : Prop} [Decidable c] {e : String} {x : Outcome α}
    (h : ∃ msg, x = .err msg) : ∃ msg, (if c then .err e else x) = .err msg := by
  by_cases hc : c
  · exact ⟨e, if_pos hc⟩
  · rw [if_neg hc]
    exact h

end Outcome

/-- a loop that carries no state succeeds iff every round does -/
theorem foldlM_unit_ok {α} (f : α → Outcome Unit) (l : List α) :
    l.foldlM (fun (_ : Unit) a => f a) () = Outcome.ok () ↔ ∀ a ∈ l, f a = Outcome.ok () := by
  induction l with
  | nil => exact ⟨fun _ _ h => (nomatch h), fun _ => rfl⟩
  | cons x xs ih =>
    rw [List.foldlM_cons, List.forall_mem_cons, ← ih]
    cases f x with
    | ok u => exact ⟨fun h => ⟨rfl, h⟩, fun h => h.2⟩
    | err e => exact ⟨nofun, fun h => nomatch h.1⟩
    | panic e => exact ⟨nofun, fun h => nomatch h.1⟩

theorem guard_some_none_iff {α} {c : Prop} [Decidable c] {e : α} {x : Option α} :
    (if c then some e else x) = none ↔ ¬ c ∧ x = none := by
  by_cases hc : c
  · rw [if_pos hc]
    exact ⟨nofun, fun h => absurd hc h.1⟩
  · rw [if_neg hc]
    exact ⟨fun h => ⟨hc, h⟩, fun h => h.2⟩

theorem guard_false_true_iff {c : Prop} [Decidable c] {b : Bool} :
    (if c then false else b) = true ↔ ¬ c ∧ b = true := by
  by_cases hc : c
  · rw [if_pos hc]
    exact ⟨nofun, fun h => absurd hc h.1⟩
  · rw [if_neg hc]
    exact ⟨fun h => ⟨hc, h⟩, fun h => h.2⟩

end Goat
