/-
  `Merkle.chunks` cuts a proof of `32·k` bytes into `k` hashes; `Merkle.foldUp` run over `path ++ [x]`, and that it
  reads only the low `path.length` bits of the index.
-/
import GoatModel.Merkle
namespace Goat.Merkle

theorem chunks32_nil (fuel : Nat) : chunks32 fuel [] = [] := by cases fuel <;> rfl

/-- a string of `32·k` bytes is cut into `k` chunks of 32 bytes -/
theorem chunks32_spec (k fuel : Nat) (bs : Bytes) (hk : bs.length = 32 * k) (hf : bs.length ≤ fuel) :
    (chunks32 fuel bs).length = k ∧ ∀ c ∈ chunks32 fuel bs, c.length = 32 := by
  induction k generalizing fuel bs with
  | zero =>
    rw [List.length_eq_zero_iff.mp hk, chunks32_nil]
    exact ⟨rfl, fun c hc => nomatch hc⟩
  | succ k ih =>
    rw [Nat.mul_succ] at hk
    match fuel, bs with
    | 0, _ => rw [hk] at hf; cases hf
    | _, [] => cases hk
    | n + 1, b :: bs' =>
      have hd : ((b :: bs').drop 32).length = 32 * k := by rw [List.length_drop, hk, Nat.add_sub_cancel]
      obtain ⟨ih1, ih2⟩ := ih n _ hd (by rw [hd]; rw [hk] at hf; omega)
      show (_ :: chunks32 n _).length = _ ∧ ∀ c ∈ _ :: chunks32 n _, _
      rw [List.length_cons, ih1]
      refine ⟨rfl, fun c hc => ?_⟩
      rcases List.mem_cons.mp hc with rfl | hc
      · rw [List.length_take, hk]; exact Nat.min_eq_left (Nat.le_add_left _ _)
      · exact ih2 c hc

theorem chunks_length (bs : Bytes) (h : bs.length % 32 = 0) : (chunks bs).length = bs.length / 32 :=
  (chunks32_spec _ _ bs (Nat.mul_div_cancel' (Nat.dvd_of_mod_eq_zero h)).symm (Nat.le_refl _)).1

theorem chunks_all32 (bs : Bytes) (h : bs.length % 32 = 0) : ∀ c ∈ chunks bs, c.length = 32 :=
  (chunks32_spec (bs.length / 32) _ bs (Nat.mul_div_cancel' (Nat.dvd_of_mod_eq_zero h)).symm (Nat.le_refl _)).2

theorem div_two_div_pow (i n : Nat) : i / 2 / 2 ^ n = i / 2 ^ (n + 1) := by
  rw [Nat.div_div_eq_div_mul, Nat.pow_succ, Nat.mul_comm]

theorem mod_pow_succ_mod_two (i n : Nat) : i % 2 ^ (n + 1) % 2 = i % 2 := by
  rw [Nat.pow_succ, Nat.mul_comm]; exact Nat.mod_mul_right_mod i 2 (2 ^ n)

theorem mod_pow_succ_div_two (i n : Nat) : i % 2 ^ (n + 1) / 2 = i / 2 % 2 ^ n := by
  rw [Nat.pow_succ, Nat.mul_comm, Nat.mod_mul_right_div_self]

theorem foldUp_append (H : Bytes → Bytes) (cur : Bytes) (path : List Bytes) (x : Bytes) (idx : Nat) :
    foldUp H cur (path ++ [x]) idx = stepNode H (foldUp H cur path idx) x (idx / 2 ^ path.length) := by
  induction path generalizing cur idx with
  | nil => simp [foldUp]
  | cons p ps ih =>
    simp only [List.cons_append, foldUp, List.length_cons]
    rw [ih, div_two_div_pow]

/-- only the low `path.length` bits of the index matter for the fold -/
theorem foldUp_mod (H : Bytes → Bytes) (cur : Bytes) (path : List Bytes) (i : Nat) :
    foldUp H cur path i = foldUp H cur path (i % 2 ^ path.length) := by
  induction path generalizing cur i with
  | nil => simp [foldUp]
  | cons p ps ih =>
    simp only [foldUp, List.length_cons]
    unfold stepNode
    rw [mod_pow_succ_mod_two, mod_pow_succ_div_two]
    split <;> exact ih _ _
end Goat.Merkle
