/-
  The invariant `Inv now s` of the locking state inside a block with time `now` (ranking = the Active / Pending
  validators with positive power, recorded members neither Pending nor out of jail, sound locking index), and
  `Tr hash160 now s t`: what a successful operation guarantees from it (the invariant again, recorded set and
  parameters untouched, consensus keys kept, addresses = hashes of keys).  Two preservation principles carry
  the proofs: `inv_upd` (one record rewritten, its ranking entry re-filed) and `inv_equiv` (nothing the
  invariant reads changes).  Every operation that writes a record has the form "un-rank `a`, write index
  entries of `a`, file `a` again, store the record" (`Lemmas/LockingOps.lean`), covered by `tr_rerank`,
  `tr_unranked` and `tr_exit`.  Used by C13B to show that the operations between two EndBlockers
  re-establish `C13H.RankOk`.
-/
import GoatModel.Locking
import GoatProofs.Lemmas.Locking
import GoatProofs.Lemmas.LockingConserve
import GoatProofs.Lemmas.LockingOps
import GoatProofs.Lemmas.Bytes
namespace Goat.Ranking
open Goat Goat.Locking

/-- eligible for the validator set: Active or Pending -/
def Elig (v : Validator) : Prop := v.status = .active ∨ v.status = .pending

instance (v : Validator) : Decidable (Elig v) := by unfold Elig; exact inferInstance

theorem elig_of_status_eq {v w : Validator} (h : w.status = v.status) : Elig w ↔ Elig v := by
  unfold Elig; rw [h]

/-- what an entry `(d, ·) ↦ x` of the locking index must satisfy for its validator `v`: an Active/Pending
    validator holds the token when the entry is not zero; for any other validator the entry is a stale
    zero (slashing and exit remove the entries of all held tokens) and the validator has no power -/
def IdxEntry (v : Validator) (d : String) (x : Int) : Prop :=
  (Elig v ∧ (x ≠ 0 → d ∈ v.locking.map (·.1))) ∨ (¬ Elig v ∧ x = 0 ∧ v.power = 0)

theorem IdxEntry.key_of_elig {v : Validator} {d : String} {x : Int} (h : IdxEntry v d x) (he : Elig v) (hx : x ≠ 0) :
    d ∈ v.locking.map (·.1) := by
  rcases h with ⟨_, hk⟩ | ⟨hne, _⟩
  · exact hk hx
  · exact absurd he hne

theorem IdxEntry.zero_of_inelig {v : Validator} {d : String} {x : Int} (h : IdxEntry v d x) (hne : ¬ Elig v) :
    x = 0 ∧ v.power = 0 := by
  rcases h with ⟨he, _⟩ | ⟨_, hz⟩
  · exact absurd he hne
  · exact hz

/-- an index entry stays sound for a record with the same eligibility, locked coins and power -/
theorem IdxEntry.congr {v w : Validator} {d : String} {x : Int} (hel : Elig w ↔ Elig v) (hlk : w.locking = v.locking)
    (hp : w.power = v.power) (h : IdxEntry v d x) : IdxEntry w d x := by
  rcases h with ⟨he, hk⟩ | ⟨hne, hx, hz⟩
  · exact Or.inl ⟨hel.mpr he, by rw [hlk]; exact hk⟩
  · exact Or.inr ⟨fun c => hne (hel.mp c), hx, by rw [hp]; exact hz⟩

/-- **The invariant of the locking state between two EndBlockers** of a block with time `now`.
    The first three fields are `rank_nodup`, `rank_rec`, `rank_complete` of `C13H.RankOk`; then the
    recorded set (written by EndBlocker only); `member_status` is the in-block form of `pending_out`
    (a member jailed in this block's BeginBlock is still recorded and must not be re-locked to Pending
    before EndBlocker removes it); `idx_ok` is what `onWeightChanged` relies on (it re-ranks every
    holder of the token *without looking at the status*). -/
structure Inv (now : Int) (s : State) : Prop where
  rank_nodup : (s.ranking.map (·.2)).Nodup
  rank_rec : ∀ p a, (p, a) ∈ s.ranking → ∃ v, vget s a = some v ∧ v.power = p ∧ 0 < p ∧ Elig v
  rank_complete : ∀ a v, vget s a = some v → Elig v → 0 < v.power → (v.power, a) ∈ s.ranking
  valset_nodup : (s.valset.map (·.1)).Nodup
  valset_rec : ∀ a, a ∈ s.valset.map (·.1) → ∃ v, vget s a = some v
  /-- a recorded member is not Pending, and when it is jailed (Downgrade) the jail has not ended -/
  member_status : ∀ a v, a ∈ s.valset.map (·.1) → vget s a = some v →
    v.status ≠ .pending ∧ (v.status = .downgrade → now ≤ v.jailedUntil)
  /-- every entry of the locking index belongs to a validator record and is sound for it (`IdxEntry`) -/
  idx_ok : ∀ d a x, ((d, a), x) ∈ s.lockingIdx → ∃ v, vget s a = some v ∧ IdxEntry v d x
  max_nonneg : 0 ≤ s.params.maxValidators
  /-- the jail period is not negative (the Go parameter validation demands at least a minute) -/
  jail_nonneg : 0 ≤ s.params.downtimeJail

/-! ### ranking as a list -/

theorem mem_rankSet_iff (s : State) (p : Nat) (a : Bytes) (e : Nat × Bytes) :
    e ∈ (rankSet s p a).ranking ↔ e ∈ s.ranking ∨ e = (p, a) :=
  Locking.mem_rankSet_iff s p a e

/-- un-ranking an address whose only possible entry carries power `p` -/
theorem rankRemove_eq_filter (s : State) (p : Nat) (a : Bytes) (h : ∀ q, (q, a) ∈ s.ranking → q = p) :
    (rankRemove s p a).ranking = s.ranking.filter (fun e => e.2 != a) := by
  refine List.filter_congr fun ⟨q, b⟩ he => ?_
  show (!(q == p && b == a)) = !(b == a)
  by_cases hb : b = a
  · subst hb
    rw [h q he, beq_self_eq_true, Bool.true_and]
  · rw [bytes_beq_false_iff.mpr hb, Bool.and_false]

theorem rankSet_fresh (s : State) (p : Nat) (a : Bytes) (h : ∀ e ∈ s.ranking, e.2 ≠ a) :
    (rankSet s p a).ranking = s.ranking ++ [(p, a)] := by
  unfold rankSet
  rw [if_neg]
  intro hc
  obtain ⟨x, hx, hx'⟩ := List.any_eq_true.mp hc
  exact h x hx (bytes_beq_iff.mp (Bool.and_eq_true_iff.mp hx').2)

theorem filter_ne_addr (l : List (Nat × Bytes)) (a : Bytes) : ∀ e ∈ l.filter (fun e => e.2 != a), e.2 ≠ a :=
  fun _ he => bytes_bne_iff.mp (List.mem_filter.mp he).2

/-! ### the state up to what the invariant reads -/

/-- `t` is `s` with the address `a` un-ranked; the fields the invariant does not read are arbitrary -/
structure Base (s t : State) (a : Bytes) : Prop where
  validators : t.validators = s.validators
  valset : t.valset = s.valset
  params : t.params = s.params
  ranking : t.ranking = s.ranking.filter (fun e => e.2 != a)

/-- same validators, ranking, recorded set and parameters -/
structure Same (s t : State) : Prop where
  validators : t.validators = s.validators
  valset : t.valset = s.valset
  params : t.params = s.params
  ranking : t.ranking = s.ranking

theorem Same.refl (s : State) : Same s s := ⟨rfl, rfl, rfl, rfl⟩
theorem Same.trans {a b c : State} (h1 : Same a b) (h2 : Same b c) : Same a c :=
  ⟨h2.validators.trans h1.validators, h2.valset.trans h1.valset, h2.params.trans h1.params, h2.ranking.trans h1.ranking⟩
theorem Base.same {s t u : State} {a : Bytes} (h1 : Base s t a) (h2 : Same t u) : Base s u a :=
  ⟨h2.validators.trans h1.validators, h2.valset.trans h1.valset, h2.params.trans h1.params, h2.ranking.trans h1.ranking⟩

theorem same_idxSet (s : State) (d : String) (a : Bytes) (x : Int) : Same s (idxSet s d a x) := ⟨rfl, rfl, rfl, rfl⟩
theorem same_idxRemove (s : State) (d : String) (a : Bytes) : Same s (idxRemove s d a) := ⟨rfl, rfl, rfl, rfl⟩

theorem _root_.Goat.Locking.IdxWrites.same {a : Bytes} {s t : State} (h : IdxWrites a s t) (hr : t.ranking = s.ranking) :
    Same s t :=
  ⟨h.validators, h.valset, h.params, hr⟩

theorem same_idxSets (a : Bytes) (X : String × Int → Int) (cs : Coins) (s : State) :
    Same s (cs.foldl (fun t c => idxSet t c.1 a (X c)) s) :=
  (idxWrites_idxSets a X cs s).same (idxSets_ranking a X cs s)

theorem same_idxRemoves (a : Bytes) (cs : Coins) (s : State) : Same s (cs.foldl (fun t c => idxRemove t c.1 a) s) :=
  (idxWrites_idxRemoves a cs s).same (idxRemoves_ranking a cs s)

section
variable {now : Int} {s : State}

/-- a ranking entry of `a` carries the power of its record, which is Active / Pending -/
theorem Inv.ranked (h : Inv now s) {a : Bytes} {v : Validator} (hv : vget s a = some v) {q : Nat}
    (hq : (q, a) ∈ s.ranking) : v.power = q ∧ Elig v := by
  obtain ⟨w, hw, hp, _, he⟩ := h.rank_rec q a hq
  rw [hv] at hw
  cases hw
  exact ⟨hp, he⟩

theorem Inv.idx_entry (h : Inv now s) {a : Bytes} {v : Validator} (hv : vget s a = some v) {d : String} {x : Int}
    (hm : ((d, a), x) ∈ s.lockingIdx) : IdxEntry v d x := by
  obtain ⟨w, hw, r⟩ := h.idx_ok d a x hm
  rw [hv] at hw
  cases hw
  exact r

/-- un-ranking a validator with its current power removes every entry of its address -/
theorem Inv.base_rankRemove (h : Inv now s) {a : Bytes} {v : Validator} (hv : vget s a = some v) :
    Base s (rankRemove s v.power a) a :=
  ⟨rfl, rfl, rfl, rankRemove_eq_filter s v.power a (fun _ hq => (h.ranked hv hq).1.symm)⟩

/-- an address that is not ranked -/
theorem base_self (hno : ∀ p, (p, a) ∉ s.ranking) : Base s s a :=
  ⟨rfl, rfl, rfl, (List.filter_eq_self.mpr fun ⟨q, _⟩ he => bytes_bne_iff.mpr fun hb => hno q (hb ▸ he)).symm⟩

theorem Inv.base_of_inelig (h : Inv now s) {a : Bytes} {v : Validator} (hv : vget s a = some v) (hne : ¬ Elig v) :
    Base s s a :=
  base_self fun _ hp => hne (h.ranked hv hp).2

theorem Inv.base_of_none (h : Inv now s) {a : Bytes} (hv : vget s a = none) : Base s s a := by
  refine base_self fun p hp => ?_
  obtain ⟨w, hw, _⟩ := h.rank_rec p a hp
  rw [hv] at hw
  cases hw

end

/-! ### one record rewritten -/

/-- `t` is `s` with the record of `a` replaced by `v'` and the ranking entry of `a` re-filed: removed,
    and appended again iff `v'` is Active/Pending with positive power -/
structure Upd (s t : State) (a : Bytes) (v' : Validator) : Prop where
  get_same : vget t a = some v'
  get_other : ∀ b, b ≠ a → vget t b = vget s b
  valset : t.valset = s.valset
  params : t.params = s.params
  ranking : t.ranking = s.ranking.filter (fun e => e.2 != a) ++
    (if 0 < v'.power ∧ Elig v' then [(v'.power, a)] else [])

theorem upd_vset {s s2 : State} {a : Bytes} {v' : Validator} (hb : Base s s2 a) (hne : ¬ (0 < v'.power ∧ Elig v')) :
    Upd s (vset s2 a v') a v' := by
  refine ⟨vget_vset_same _ _ _, ?_, by rw [vset_valset, hb.valset], by rw [vset_params, hb.params], ?_⟩
  · intro b hba
    rw [vget_vset_other _ _ _ _ (Ne.symm hba)]
    exact vget_congr _ _ hb.validators b
  · rw [vset_ranking, hb.ranking, if_neg hne, List.append_nil]

theorem upd_rank_vset {s s2 : State} {a : Bytes} {v' : Validator} (hb : Base s s2 a) (hp : 0 < v'.power) (he : Elig v') :
    Upd s (vset (rankSet s2 v'.power a) a v') a v' := by
  refine ⟨vget_vset_same _ _ _, ?_, by rw [vset_valset, rankSet_valset, hb.valset],
    by rw [vset_params, rankSet_params, hb.params], ?_⟩
  · intro b hba
    rw [vget_vset_other _ _ _ _ (Ne.symm hba)]
    exact vget_congr _ _ ((rankSet_validators _ _ _).trans hb.validators) b
  · rw [vset_ranking, rankSet_fresh _ _ _ (by rw [hb.ranking]; exact filter_ne_addr _ _), hb.ranking, if_pos ⟨hp, he⟩]

/-- the shape `if p > 0 then rankSet … else …` of the model -/
theorem upd_rank_ite_vset {s s2 : State} {a : Bytes} {v' : Validator} (hb : Base s s2 a) (he : 0 < v'.power → Elig v') :
    Upd s (vset (if v'.power > 0 then rankSet s2 v'.power a else s2) a v') a v' := by
  by_cases hp : v'.power > 0
  · rw [if_pos hp]; exact upd_rank_vset hb hp (he hp)
  · rw [if_neg hp]; exact upd_vset hb (fun h => hp h.1)

theorem mem_ite_singleton {α : Type} {c : Prop} [Decidable c] {x e : α} : e ∈ (if c then [x] else []) ↔ c ∧ e = x := by
  split
  · rename_i hc
    rw [List.mem_singleton]
    exact ⟨fun h => ⟨hc, h⟩, fun h => h.2⟩
  · rename_i hc
    exact ⟨fun h => (List.not_mem_nil h).elim, fun h => absurd h.1 hc⟩

/-- **preservation by a single-record update** -/
theorem inv_upd {now : Int} {s t : State} {a : Bytes} {v' : Validator} (h : Inv now s) (hu : Upd s t a v')
    (hm : a ∈ s.valset.map (·.1) → v'.status ≠ .pending ∧ (v'.status = .downgrade → now ≤ v'.jailedUntil))
    (hidx_other : ∀ d b x, b ≠ a → ((d, b), x) ∈ t.lockingIdx → ((d, b), x) ∈ s.lockingIdx)
    (hidx_same : ∀ d x, ((d, a), x) ∈ t.lockingIdx → IdxEntry v' d x) :
    Inv now t := by
  have hmem : ∀ e, e ∈ t.ranking ↔ (e ∈ s.ranking ∧ e.2 ≠ a) ∨ ((0 < v'.power ∧ Elig v') ∧ e = (v'.power, a)) := by
    intro e
    rw [hu.ranking, List.mem_append, List.mem_filter, bytes_bne_iff, mem_ite_singleton]
  -- a record is the one of `s`, except at `a`
  have hget : ∀ b w, vget t b = some w → (b = a ∧ w = v') ∨ (b ≠ a ∧ vget s b = some w) := by
    intro b w hw
    by_cases hb : b = a
    · rw [hb, hu.get_same] at hw
      exact Or.inl ⟨hb, (Option.some.inj hw).symm⟩
    · exact Or.inr ⟨hb, hu.get_other b hb ▸ hw⟩
  refine ⟨?_, ?_, ?_, by rw [hu.valset]; exact h.valset_nodup, ?_, ?_, ?_, by rw [hu.params]; exact h.max_nonneg,
    by rw [hu.params]; exact h.jail_nonneg⟩
  · rw [hu.ranking, List.map_append, List.nodup_append]
    refine ⟨List.Nodup.sublist (List.filter_sublist.map _) h.rank_nodup, ?_, ?_⟩
    · split
      · exact List.pairwise_singleton _ _
      · exact List.nodup_nil
    · intro x hx y hy hxy
      obtain ⟨e, he, rfl⟩ := List.mem_map.mp hx
      obtain ⟨e', he', rfl⟩ := List.mem_map.mp hy
      rw [(mem_ite_singleton.mp he').2] at hxy
      exact filter_ne_addr _ _ e he hxy
  · intro p b hm'
    rcases (hmem _).mp hm' with ⟨h1, h2⟩ | ⟨hc, he⟩
    · obtain ⟨v, hv, r⟩ := h.rank_rec p b h1
      exact ⟨v, by rw [hu.get_other b h2]; exact hv, r⟩
    · cases he
      exact ⟨v', hu.get_same, rfl, hc.1, hc.2⟩
  · intro b w hw he hpos
    refine (hmem _).mpr ?_
    rcases hget b w hw with ⟨rfl, rfl⟩ | ⟨hb, hw'⟩
    · exact Or.inr ⟨⟨hpos, he⟩, rfl⟩
    · exact Or.inl ⟨h.rank_complete b w hw' he hpos, hb⟩
  · intro b hb
    rw [hu.valset] at hb
    by_cases hba : b = a
    · exact ⟨v', hba ▸ hu.get_same⟩
    · rw [hu.get_other b hba]; exact h.valset_rec b hb
  · intro b w hb hw
    rw [hu.valset] at hb
    rcases hget b w hw with ⟨rfl, rfl⟩ | ⟨_, hw'⟩
    · exact hm hb
    · exact h.member_status b w hb hw'
  · intro d b x hi
    by_cases hba : b = a
    · subst hba
      exact ⟨v', hu.get_same, hidx_same d x hi⟩
    · obtain ⟨v, hv, r⟩ := h.idx_ok d b x (hidx_other d b x hba hi)
      exact ⟨v, by rw [hu.get_other b hba]; exact hv, r⟩

/-! ### nothing the invariant reads changes -/

/-- the fields of a record the invariant (and the consensus key bookkeeping) reads -/
def SameCore (v w : Validator) : Prop :=
  w.pubkey = v.pubkey ∧ w.power = v.power ∧ w.status = v.status ∧ w.jailedUntil = v.jailedUntil ∧ w.locking = v.locking

theorem SameCore.refl (v : Validator) : SameCore v v := ⟨rfl, rfl, rfl, rfl, rfl⟩
theorem SameCore.trans {a b c : Validator} (h1 : SameCore a b) (h2 : SameCore b c) : SameCore a c :=
  ⟨h2.1.trans h1.1, h2.2.1.trans h1.2.1, h2.2.2.1.trans h1.2.2.1, h2.2.2.2.1.trans h1.2.2.2.1, h2.2.2.2.2.trans h1.2.2.2.2⟩
theorem SameCore.symm {a b : Validator} (h : SameCore a b) : SameCore b a :=
  ⟨h.1.symm, h.2.1.symm, h.2.2.1.symm, h.2.2.2.1.symm, h.2.2.2.2.symm⟩
theorem SameCore.pubkey {v w : Validator} (h : SameCore v w) : w.pubkey = v.pubkey := h.1
theorem SameCore.power {v w : Validator} (h : SameCore v w) : w.power = v.power := h.2.1
theorem SameCore.status {v w : Validator} (h : SameCore v w) : w.status = v.status := h.2.2.1
theorem SameCore.jailedUntil {v w : Validator} (h : SameCore v w) : w.jailedUntil = v.jailedUntil := h.2.2.2.1
theorem SameCore.locking {v w : Validator} (h : SameCore v w) : w.locking = v.locking := h.2.2.2.2
theorem SameCore.elig {v w : Validator} (h : SameCore v w) : Elig w ↔ Elig v := elig_of_status_eq h.status

structure Equiv (s t : State) : Prop where
  fwd : ∀ b v, vget s b = some v → ∃ w, vget t b = some w ∧ SameCore v w
  bwd : ∀ b w, vget t b = some w → ∃ v, vget s b = some v ∧ SameCore v w
  valset : t.valset = s.valset
  params : t.params = s.params
  ranking : t.ranking = s.ranking
  lockingIdx : t.lockingIdx = s.lockingIdx

theorem Equiv.refl (s : State) : Equiv s s :=
  ⟨fun _ v hv => ⟨v, hv, SameCore.refl v⟩, fun _ w hw => ⟨w, hw, SameCore.refl w⟩, rfl, rfl, rfl, rfl⟩

theorem Equiv.trans {a b c : State} (h1 : Equiv a b) (h2 : Equiv b c) : Equiv a c := by
  refine ⟨?_, ?_, h2.valset.trans h1.valset, h2.params.trans h1.params, h2.ranking.trans h1.ranking,
    h2.lockingIdx.trans h1.lockingIdx⟩
  · intro x v hv
    obtain ⟨w, hw, c1⟩ := h1.fwd x v hv
    obtain ⟨u, hu, c2⟩ := h2.fwd x w hw
    exact ⟨u, hu, c1.trans c2⟩
  · intro x u hu
    obtain ⟨w, hw, c2⟩ := h2.bwd x u hu
    obtain ⟨v, hv, c1⟩ := h1.bwd x w hw
    exact ⟨v, hv, c1.trans c2⟩

/-- only fields outside validators / ranking / recorded set / parameters / locking index differ -/
theorem equiv_of_fields {s t : State} (h1 : t.validators = s.validators) (h2 : t.valset = s.valset)
    (h3 : t.params = s.params) (h4 : t.ranking = s.ranking) (h5 : t.lockingIdx = s.lockingIdx) : Equiv s t := by
  refine ⟨?_, ?_, h2, h3, h4, h5⟩
  · intro b v hv
    exact ⟨v, by rw [vget_congr _ _ h1 b]; exact hv, SameCore.refl v⟩
  · intro b w hw
    exact ⟨w, by rw [← vget_congr _ _ h1 b]; exact hw, SameCore.refl w⟩

/-- a record rewritten in fields the invariant does not read (rewards, counters) -/
theorem equiv_vset {s : State} {a : Bytes} {v w : Validator} (hv : vget s a = some v) (hc : SameCore v w) :
    Equiv s (vset s a w) := by
  refine ⟨?_, ?_, vset_valset _ _ _, vset_params _ _ _, vset_ranking _ _ _, vset_lockingIdx _ _ _⟩
  · intro b u hu
    by_cases hb : b = a
    · subst hb
      rw [hv] at hu
      cases hu
      exact ⟨w, vget_vset_same _ _ _, hc⟩
    · exact ⟨u, by rw [vget_vset_other _ _ _ _ (Ne.symm hb)]; exact hu, SameCore.refl u⟩
  · intro b u hu
    by_cases hb : b = a
    · subst hb
      rw [vget_vset_same] at hu
      cases hu
      exact ⟨v, hv, hc⟩
    · rw [vget_vset_other _ _ _ _ (Ne.symm hb)] at hu
      exact ⟨u, hu, SameCore.refl u⟩

/-- **preservation by an invisible change** -/
theorem inv_equiv {now : Int} {s t : State} (h : Inv now s) (he : Equiv s t) : Inv now t := by
  refine ⟨by rw [he.ranking]; exact h.rank_nodup, ?_, ?_, by rw [he.valset]; exact h.valset_nodup, ?_, ?_, ?_,
    by rw [he.params]; exact h.max_nonneg, by rw [he.params]; exact h.jail_nonneg⟩
  · intro p a hm
    rw [he.ranking] at hm
    obtain ⟨v, hv, hp, hpos, hel⟩ := h.rank_rec p a hm
    obtain ⟨w, hw, c⟩ := he.fwd a v hv
    exact ⟨w, hw, c.power.trans hp, hpos, c.elig.mpr hel⟩
  · intro a w hw hel hpos
    obtain ⟨v, hv, c⟩ := he.bwd a w hw
    rw [he.ranking, c.power]
    exact h.rank_complete a v hv (c.elig.mp hel) (c.power ▸ hpos)
  · intro a ha
    rw [he.valset] at ha
    obtain ⟨v, hv⟩ := h.valset_rec a ha
    obtain ⟨w, hw, _⟩ := he.fwd a v hv
    exact ⟨w, hw⟩
  · intro a w ha hw
    rw [he.valset] at ha
    obtain ⟨v, hv, c⟩ := he.bwd a w hw
    have := h.member_status a v ha hv
    rw [c.status, c.jailedUntil]
    exact this
  · intro d a x hm
    rw [he.lockingIdx] at hm
    obtain ⟨v, hv, r⟩ := h.idx_ok d a x hm
    obtain ⟨w, hw, c⟩ := he.fwd a v hv
    exact ⟨w, hw, r.congr c.elig c.locking c.power⟩

/-! ### slashing -/

/-- slashing removes the index entries of every held coin and touches nothing else the invariant reads -/
theorem slashAll_spec (s : State) (addr : Bytes) (v : Validator) (frac : Nat) :
    Same s (slashAll s addr v frac).1 ∧
    ∀ e, e ∈ (slashAll s addr v frac).1.lockingIdx ↔
      e ∈ s.lockingIdx ∧ ¬ (e.1.2 = addr ∧ e.1.1 ∈ v.locking.map (·.1)) := by
  rw [slashAll_fst]
  have hs := same_idxRemoves addr v.locking s
  exact ⟨⟨hs.validators, hs.valset, hs.params, hs.ranking⟩, fun e => mem_idxRemoves_iff addr e v.locking s⟩

/-! ### transitions: what is carried through the composite operations -/

/-- the address of a validator is the hash of its consensus key (how `create` files it) -/
def KeyOk (hash160 : Bytes → Bytes) (s : State) : Prop := ∀ a v, vget s a = some v → hash160 v.pubkey = a

/-- summary of a successful operation from a state satisfying `Inv now`: the invariant holds again,
    the recorded set and the parameters are untouched, no record disappears or changes its consensus
    key, and addresses stay hashes of keys -/
structure Tr (hash160 : Bytes → Bytes) (now : Int) (s t : State) : Prop where
  inv : Inv now t
  valset : t.valset = s.valset
  params : t.params = s.params
  pk : ∀ b v, vget s b = some v → ∃ w, vget t b = some w ∧ w.pubkey = v.pubkey
  key : KeyOk hash160 s → KeyOk hash160 t

theorem Tr.refl (hash160 : Bytes → Bytes) {now : Int} {s : State} (h : Inv now s) : Tr hash160 now s s :=
  ⟨h, rfl, rfl, fun _ v hv => ⟨v, hv, rfl⟩, id⟩

theorem Tr.trans {hash160 : Bytes → Bytes} {now : Int} {a b c : State} (h1 : Tr hash160 now a b) (h2 : Tr hash160 now b c) :
    Tr hash160 now a c := by
  refine ⟨h2.inv, h2.valset.trans h1.valset, h2.params.trans h1.params, ?_, fun hk => h2.key (h1.key hk)⟩
  intro x v hv
  obtain ⟨w, hw, e1⟩ := h1.pk x v hv
  obtain ⟨u, hu, e2⟩ := h2.pk x w hw
  exact ⟨u, hu, e2.trans e1⟩

/-- a successful fold of operations each of which is a transition -/
theorem tr_foldlM {α : Type} (hash160 : Bytes → Bytes) (now : Int) (f : State → α → Outcome State)
    (hf : ∀ b x b', Inv now b → f b x = .ok b' → Tr hash160 now b b') (l : List α) (s t : State)
    (h : Inv now s) (he : l.foldlM f s = .ok t) : Tr hash160 now s t := by
  refine foldlM_inv (fun b => Tr hash160 now s b) f ?_ l s t (Tr.refl hash160 h) he
  intro b x b' hb hstep
  exact hb.trans (hf b x b' hb.inv hstep)

theorem tr_of_equiv (hash160 : Bytes → Bytes) {now : Int} {s t : State} (h : Inv now s) (he : Equiv s t) :
    Tr hash160 now s t := by
  refine ⟨inv_equiv h he, he.valset, he.params, ?_, ?_⟩
  · intro b v hv
    obtain ⟨w, hw, c⟩ := he.fwd b v hv
    exact ⟨w, hw, c.pubkey⟩
  · intro hk a w hw
    obtain ⟨v, hv, c⟩ := he.bwd a w hw
    rw [c.pubkey]
    exact hk a v hv

theorem Tr.equiv {hash160 : Bytes → Bytes} {now : Int} {s t u : State} (h : Tr hash160 now s t) (he : Equiv t u) :
    Tr hash160 now s u :=
  h.trans (tr_of_equiv hash160 h.inv he)

theorem tr_of_upd (hash160 : Bytes → Bytes) {now : Int} {s t : State} {a : Bytes} {v' : Validator} (h : Inv now s)
    (hu : Upd s t a v')
    (hm : a ∈ s.valset.map (·.1) → v'.status ≠ .pending ∧ (v'.status = .downgrade → now ≤ v'.jailedUntil))
    (hidx_other : ∀ d b x, b ≠ a → ((d, b), x) ∈ t.lockingIdx → ((d, b), x) ∈ s.lockingIdx)
    (hidx_same : ∀ d x, ((d, a), x) ∈ t.lockingIdx → IdxEntry v' d x)
    (hpk : ∀ v, vget s a = some v → v'.pubkey = v.pubkey)
    (hnew : vget s a = none → hash160 v'.pubkey = a) : Tr hash160 now s t := by
  refine ⟨inv_upd h hu hm hidx_other hidx_same, hu.valset, hu.params, ?_, ?_⟩
  · intro b v hv
    by_cases hb : b = a
    · subst hb
      exact ⟨v', hu.get_same, hpk v hv⟩
    · exact ⟨v, by rw [hu.get_other b hb]; exact hv, rfl⟩
  · intro hk b w hw
    by_cases hb : b = a
    · subst hb
      rw [hu.get_same] at hw
      cases hw
      cases hv : vget s b with
      | none => exact hnew hv
      | some v => rw [hpk v hv]; exact hk b v hv
    · rw [hu.get_other b hb] at hw
      exact hk b w hw

/-- the record `v` of `a` replaced by `v'`, which keeps the consensus key -/
theorem tr_of_rec (hash160 : Bytes → Bytes) {now : Int} {s t : State} {a : Bytes} {v v' : Validator} (h : Inv now s)
    (hv : vget s a = some v) (hu : Upd s t a v') (hpk : v'.pubkey = v.pubkey)
    (hm : a ∈ s.valset.map (·.1) → v'.status ≠ .pending ∧ (v'.status = .downgrade → now ≤ v'.jailedUntil))
    (hidx_other : ∀ d b x, b ≠ a → ((d, b), x) ∈ t.lockingIdx → ((d, b), x) ∈ s.lockingIdx)
    (hidx_same : ∀ d x, ((d, a), x) ∈ t.lockingIdx → IdxEntry v' d x) : Tr hash160 now s t := by
  refine tr_of_upd hash160 h hu hm hidx_other hidx_same (fun w hw => ?_) (fun hn => ?_)
  · rw [hv] at hw
    cases hw
    exact hpk
  · rw [hv] at hn
    cases hn

/-- **re-ranking**: after the ranking entry of `a` was removed and index entries of `a` were written
    (`s₂`), `a` is filed again at the power of its new record `v'`, and the record is stored -/
theorem tr_rerank (hash160 : Bytes → Bytes) {now : Int} {s s₂ : State} {a : Bytes} {v v' : Validator} (h : Inv now s)
    (hv : vget s a = some v) (hb : Base s s₂ a) (hw : IdxWrites a s s₂) (hpk : v'.pubkey = v.pubkey)
    (hel : 0 < v'.power → Elig v')
    (hm : a ∈ s.valset.map (·.1) → v'.status ≠ .pending ∧ (v'.status = .downgrade → now ≤ v'.jailedUntil))
    (hidx : ∀ d x, ((d, a), x) ∈ s₂.lockingIdx → IdxEntry v' d x) :
    Tr hash160 now s (vset (if v'.power > 0 then rankSet s₂ v'.power a else s₂) a v') := by
  have hi : (vset (if v'.power > 0 then rankSet s₂ v'.power a else s₂) a v').lockingIdx = s₂.lockingIdx :=
    rank_ite_lockingIdx s₂ v'.power a
  refine tr_of_rec hash160 h hv (upd_rank_ite_vset hb hel) hpk hm ?_ ?_
  · intro d b x hba hmem
    rw [hi] at hmem
    exact (hw.idx _ hba).mp hmem
  · intro d x hmem
    rw [hi] at hmem
    exact hidx d x hmem

/-- **leaving the ranking**: the new record `v'` of `a` is not Active / Pending; the index entries of `a`
    that remain in `s₂` are zero -/
theorem tr_unranked (hash160 : Bytes → Bytes) {now : Int} {s s₂ : State} {a : Bytes} {v v' : Validator} (h : Inv now s)
    (hv : vget s a = some v) (hb : Base s s₂ a) (hpk : v'.pubkey = v.pubkey) (hne : ¬ Elig v')
    (hm : a ∈ s.valset.map (·.1) → v'.status ≠ .pending ∧ (v'.status = .downgrade → now ≤ v'.jailedUntil))
    (hidx_other : ∀ e ∈ s₂.lockingIdx, e.1.2 ≠ a → e ∈ s.lockingIdx)
    (hzero : ∀ d x, ((d, a), x) ∈ s₂.lockingIdx → x = 0 ∧ v'.power = 0) :
    Tr hash160 now s (vset s₂ a v') :=
  tr_of_rec hash160 h hv (upd_vset hb (fun hc => hne hc.2)) hpk hm (fun _ _ _ hba hmem => hidx_other _ hmem hba)
    (fun d x hmem => Or.inr ⟨hne, hzero d x hmem⟩)

/-- **exit and slashing**: the ranking entry of `a` and the index entries of all its coins are removed
    (`s₂`); the new record has no power and is Inactive, Tombstoned or jailed -/
theorem tr_exit (hash160 : Bytes → Bytes) {now : Int} {s s₂ : State} {a : Bytes} {v v' : Validator} (h : Inv now s)
    (hv : vget s a = some v) (hb : Base s s₂ a)
    (hmem : ∀ e, e ∈ s₂.lockingIdx ↔ e ∈ s.lockingIdx ∧ ¬ (e.1.2 = a ∧ e.1.1 ∈ v.locking.map (·.1)))
    (hpk : v'.pubkey = v.pubkey) (hp : v'.power = 0) (hne : ¬ Elig v')
    (hj : v'.status = .downgrade → now ≤ v'.jailedUntil) : Tr hash160 now s (vset s₂ a v') := by
  refine tr_unranked hash160 h hv hb hpk hne (fun _ => ⟨fun hc => hne (Or.inr hc), hj⟩)
    (fun e he _ => ((hmem e).mp he).1) (fun d x hm => ⟨?_, hp⟩)
  obtain ⟨m1, m2⟩ := (hmem _).mp hm
  -- a non-zero entry is one of an Active / Pending validator for a coin it holds: those were removed
  apply Classical.byContradiction
  intro hx
  rcases h.idx_entry hv m1 with ⟨_, hk⟩ | ⟨_, hz, _⟩
  · exact m2 ⟨rfl, hk hx⟩
  · exact hx hz

/-! ## the operations

### lockOne -/

/-- **`lockOne` preserves the invariant** (every status branch) -/
theorem lockOne_tr (hash160 : Bytes → Bytes) {now : Int} {s t : State} {a : Bytes} {coins : Coins}
    (h : Inv now s) (he : lockOne s now a coins = .ok t) : Tr hash160 now s t := by
  obtain ⟨v, hv, hc⟩ := lockOne_ok he
  have hms := fun ha => h.member_status a v ha hv
  rcases hc with ⟨hst, pw, s₂, rfl, rfl⟩ | ⟨⟨hst, hjail, _⟩, pw, s₂, rfl, rfl⟩ | ⟨hst, rfl⟩
  · -- Active / Pending: an entry of `a` is an old one for a coin not in the request, or a new one
    have hel : Elig v := hst.symm
    refine tr_rerank hash160 h hv ((h.base_rankRemove hv).same (same_idxSets a _ coins _))
      ((idxWrites_rankRemove s v.power a).trans (idxWrites_idxSets a _ coins _))
      (v' := { v with locking := addCoins v.locking coins, power := pw }) rfl (fun _ => hel) hms ?_
    intro d x hm
    refine Or.inl ⟨hel, fun hx => ?_⟩
    rcases mem_idxSets a _ _ coins _ hm with ⟨m1, m2⟩ | ⟨c, _, hc⟩
    · exact mem_keys_addCoins (fun hc => m2 ⟨rfl, hc⟩) ((h.idx_entry hv m1).key_of_elig hel hx)
    · cases hc
      exact mem_keys_of_amountOf_ne hx
  · -- Downgrade → Pending: the jail is over, so `a` is not a recorded member; its old entries are zero
    have hne : ¬ Elig v := by simp only [Elig, hst, reduceCtorEq, or_self, not_false_eq_true]
    refine tr_rerank hash160 h hv ((h.base_of_inelig hv hne).same (same_idxSets a _ _ s))
      (idxWrites_idxSets a _ _ s)
      (v' := { v with locking := addCoins v.locking coins, power := pw, status := .pending }) rfl (fun _ => Or.inr rfl) ?_ ?_
    · intro ha
      have := (hms ha).2 hst
      omega
    · intro d x hm
      refine Or.inl ⟨Or.inr rfl, fun hx => ?_⟩
      rcases mem_idxSets a _ _ _ s hm with ⟨m1, _⟩ | ⟨c, hcm, hc⟩
      · exact absurd ((h.idx_entry hv m1).zero_of_inelig hne).1 hx
      · cases hc
        exact List.mem_map.mpr ⟨c, hcm, rfl⟩
  · -- Tombstoned, Inactive, Downgrade still jailed or below the thresholds: the coins are credited only
    have hne : ¬ Elig v := by
      rcases hst with k | k | ⟨k, _⟩ <;> simp only [Elig, k, reduceCtorEq, or_self, not_false_eq_true]
    exact tr_unranked hash160 h hv (h.base_of_inelig hv hne) rfl hne hms (fun _ he _ => he)
      (fun d x hm => (h.idx_entry hv hm).zero_of_inelig hne)

/-! ### unlockCore -/

/-- **`unlockCore` preserves the invariant** (power decrease, exit to Inactive, removal from the ranking) -/
theorem unlockCore_tr (hash160 : Bytes → Bytes) {now : Int} {s t : State} {r : UnlockReq} {ex : Bool} {amt : Int}
    (h : Inv now s) (he : unlockCore s r = .ok (t, ex, amt)) : Tr hash160 now s t := by
  obtain ⟨v, tok, hv, _, _, _, _, hc⟩ := unlockCore_ok he
  have hms := fun ha => h.member_status r.validator v ha hv
  rcases hc with ⟨_, rfl⟩ | ⟨_, hel, pw, s₂, _, hs₂, rfl⟩ | ⟨_, h1, h2, rfl⟩
  · obtain ⟨e1, e2, e3⟩ := exitStatus_ne v.status
    exact tr_exit hash160 h hv ((h.base_rankRemove hv).same (same_idxRemoves _ _ _)) (fun e => mem_idxRemoves_iff _ e _ _)
      rfl rfl (fun hc => hc.elim e1 e2) (fun hc => absurd hc e3)
  · -- staying Active / Pending: an entry of `a` is an old one for another token, or the new one
    generalize amountOf v.locking r.token - amt = left at hs₂ ⊢
    have key : Same (rankRemove s v.power r.validator) s₂ ∧ IdxWrites r.validator (rankRemove s v.power r.validator) s₂ ∧
        ∀ e ∈ s₂.lockingIdx, (e ∈ s.lockingIdx ∧ ¬ (e.1.1 = r.token ∧ e.1.2 = r.validator)) ∨
          (left ≠ 0 ∧ e = ((r.token, r.validator), left)) := by
      rw [hs₂]
      split
      · exact ⟨same_idxRemove _ _ _, idxWrites_idxRemove _ _ _, fun e he => Or.inl ((mem_idxRemove_iff _ _ _ _).mp he)⟩
      · rename_i hl
        exact ⟨same_idxSet _ _ _ _, idxWrites_idxSet _ _ _ _,
          fun e he => ((mem_idxSet_iff _ _ _ _ _).mp he).imp_right (fun k => ⟨hl, k⟩)⟩
    obtain ⟨k1, k2, k3⟩ := key
    refine tr_rerank hash160 h hv ((h.base_rankRemove hv).same k1) ((idxWrites_rankRemove _ _ _).trans k2)
      (v' := { v with power := pw, locking := setAmount v.locking r.token left }) rfl (fun _ => hel) hms ?_
    intro d x hm
    refine Or.inl ⟨hel, fun hx => ?_⟩
    rcases k3 _ hm with ⟨m1, m2⟩ | ⟨hl, hc⟩
    · exact mem_keys_setAmount_other _ (fun hd => m2 ⟨hd, rfl⟩) ((h.idx_entry hv m1).key_of_elig hel hx)
    · cases hc
      exact mem_keys_of_amountOf_ne (by rw [amountOf_setAmount_same]; exact hl)
  · -- a jailed validator staying above the threshold: only the holding changes
    have hne : ¬ Elig v := fun hc => hc.elim h1 h2
    exact tr_unranked hash160 h hv (h.base_rankRemove hv) rfl hne hms (fun _ he _ => he)
      (fun d x hm => (h.idx_entry hv hm).zero_of_inelig hne)

/-! ### onWeightChanged -/

/-- one step of `onWeightChanged`, for an entry of the index: a holder outside Active / Pending has no
    power and only zero index entries, so it stays at power 0 and unranked -/
theorem weightStep_tr (hash160 : Bytes → Bytes) {now : Int} {s t : State} {prev cur : Nat} {e : (String × Bytes) × Int}
    (h : Inv now s) (hmem : e ∈ s.lockingIdx) (he : weightStep prev cur s e = .ok t) :
    Tr hash160 now s t ∧ t.lockingIdx = s.lockingIdx := by
  have hi : t.lockingIdx = s.lockingIdx := by
    obtain ⟨_, _, _, _, _, rfl, rfl⟩ := weightStep_writes he
    exact rank_ite_lockingIdx _ _ _
  refine ⟨?_, hi⟩
  obtain ⟨v, d, p', hv, hp, rfl⟩ := weightStep_ok he
  have hp0 : ¬ Elig v → p' = 0 := by
    intro hne
    obtain ⟨z1, z2⟩ := (h.idx_entry (d := e.1.1) (x := e.2) hv hmem).zero_of_inelig hne
    rw [z1, z2] at hp
    rcases hp with ⟨_, hd, rfl⟩ | ⟨_, hd, rfl⟩
    · rw [powerOf_zero hd]
      rfl
    · rw [powerOf_zero hd]
      rfl
  have hel : 0 < p' → Elig v := fun hpos => Decidable.byContradiction fun hne => Nat.ne_of_gt hpos (hp0 hne)
  rw [rank_ite_vset]
  refine tr_rerank hash160 h hv (h.base_rankRemove hv) (idxWrites_rankRemove s v.power e.1.2) (v' := { v with power := p' }) rfl
    hel (fun ha => h.member_status e.1.2 v ha hv) ?_
  intro d x hm
  rcases h.idx_entry hv hm with ⟨hel, hk⟩ | ⟨hne, hz, _⟩
  · exact Or.inl ⟨hel, hk⟩
  · exact Or.inr ⟨hne, hz, hp0 hne⟩

/-- **`onWeightChanged` preserves the invariant**: every holder of the token gets its new power and its
    ranking entry rewritten -/
theorem onWeightChanged_tr (hash160 : Bytes → Bytes) {now : Int} {s t : State} {token : String} {prev cur : Nat}
    (h : Inv now s) (he : onWeightChanged s token prev cur = .ok t) : Tr hash160 now s t := by
  rw [onWeightChanged_eq] at he
  split at he
  · cases he; exact Tr.refl hash160 h
  · refine (foldlM_inv_mem (fun b => Tr hash160 now s b ∧ b.lockingIdx = s.lockingIdx) _ _ ?_ s t
      ⟨Tr.refl hash160 h, rfl⟩ he).1
    intro b e b' hmem ⟨hb, hidx⟩ hstep
    obtain ⟨hb', hidx'⟩ := weightStep_tr hash160 hb.inv (hidx ▸ (mem_weightEntries hmem).1) hstep
    exact ⟨hb.trans hb', hidx'.trans hidx⟩

/-! ### slashing: handleVote, handleEvidence -/

/-- **`handleVote` preserves the invariant** (downtime: Active → Downgrade, power 0, out of the ranking;
    jailed until `now + downtimeJail ≥ now`) -/
theorem handleVote_tr (hash160 : Bytes → Bytes) {now : Int} {s t : State} {vi : VoteInfo}
    (h : Inv now s) (he : handleVote s now vi = .ok t) : Tr hash160 now s t := by
  obtain ⟨v, hv, hc⟩ := handleVote_ok he
  rcases hc with ⟨_, rfl⟩ | ⟨_, _, rfl⟩ | ⟨_, _, rfl⟩
  · exact Tr.refl hash160 h
  · exact tr_of_equiv hash160 h (equiv_vset hv ⟨rfl, rfl, rfl, rfl, rfl⟩)
  · obtain ⟨hsame, hmem⟩ := slashAll_spec (rankRemove s v.power vi.address) vi.address (voteCounted s.params vi.absent v)
      s.params.slashDowntime
    refine tr_exit hash160 h hv ((h.base_rankRemove hv).same hsame) hmem rfl rfl
      (fun hc => by rcases hc with hc | hc <;> cases hc) (fun _ => ?_)
    have := h.jail_nonneg
    show now ≤ now + s.params.downtimeJail
    omega

/-- **`handleEvidence` preserves the invariant** (→ Tombstoned, power 0, out of the ranking) -/
theorem handleEvidence_tr (hash160 : Bytes → Bytes) {now height : Int} {s t : State} {maxAge : Option (Int × Int)}
    {e : Evidence} (h : Inv now s) (he : handleEvidence s now height maxAge e = .ok t) : Tr hash160 now s t := by
  rcases handleEvidence_ok he with ⟨_, rfl⟩ | ⟨v, hv, _, _, _, rfl⟩
  · exact Tr.refl hash160 h
  · obtain ⟨hsame, hmem⟩ := slashAll_spec (rankRemove s v.power e.address) e.address v s.params.slashDoubleSign
    exact tr_exit hash160 h hv ((h.base_rankRemove hv).same hsame) hmem rfl rfl
      (fun hc => by rcases hc with hc | hc <;> cases hc) (fun hc => by cases hc)

/-! ### create -/

theorem create_new_case (hash160 : Bytes → Bytes) {now : Int} {s : State} {a : Bytes} (h : Inv now s) (hv : vget s a = none)
    (v' : Validator) (hp : v'.power = 0) (hk : hash160 v'.pubkey = a) :
    Tr hash160 now s (vset s a v') := by
  have hu := upd_vset (v' := v') (h.base_of_none hv) (fun hc => by rw [hp] at hc; exact absurd hc.1 (by omega))
  refine tr_of_upd hash160 h hu ?_ ?_ ?_ (fun w hw => ?_) (fun _ => hk)
  · intro ha
    obtain ⟨w, hw⟩ := h.valset_rec a ha
    rw [hv] at hw; cases hw
  · intro d b x _ hm
    exact hm
  · intro d x hm
    obtain ⟨w, hw, _⟩ := h.idx_ok d a x hm
    rw [hv] at hw; cases hw
  · rw [hv] at hw; cases hw

/-- **`create` preserves the invariant**: a new record (Pending or Inactive, power 0, empty holding)
    under a fresh address that is the hash of its key -/
theorem create_tr (hash160 : Bytes → Bytes) (hasAccount : Bytes → Bool) {now : Int} {s t : State} {reqs : List CreateReq}
    {accs : List Bytes} (h : Inv now s) (he : create hash160 hasAccount s reqs = .ok (t, accs)) : Tr hash160 now s t := by
  rw [create_eq] at he
  refine foldlM_inv (fun (acc : State × List Bytes) => Tr hash160 now s acc.1) _ ?_ _ _ _ (Tr.refl hash160 h) he
  intro acc r acc' hacc hstep
  obtain ⟨hk, hc⟩ := createStep_ok hstep
  rcases hc with rfl | ⟨hn, st, accs', rfl⟩
  · exact hacc
  · exact hacc.trans (create_new_case hash160 hacc.inv hn _ rfl hk)

/-! ### operations the invariant does not see -/

theorem updateRewardPool_equiv {s t : State} {height : Int} {gas grants : List Int}
    (he : updateRewardPool s height gas grants = .ok t) : Equiv s t := by
  obtain ⟨p, rfl⟩ := updateRewardPool_ok he
  exact equiv_of_fields rfl rfl rfl rfl rfl

theorem claim_equiv {s t : State} {reqs : List ClaimReq} (he : claim s reqs = .ok t) : Equiv s t := by
  rw [claim_eq] at he
  refine foldlM_inv (fun b => Equiv s b) _ ?_ _ _ _ (Equiv.refl s) he
  intro b r b' hb hstep
  obtain ⟨v, hv, rfl⟩ := claimStep_ok hstep
  exact hb.trans ((equiv_vset (w := { v with reward := 0, gasReward := 0 }) hv ⟨rfl, rfl, rfl, rfl, rfl⟩).trans
    (equiv_of_fields rfl rfl rfl rfl rfl))

theorem distributeReward_equiv {s t : State} {height : Int} {votes : List VoteInfo}
    (he : distributeReward s height votes = .ok t) : Equiv s t := by
  rcases distributeReward_ok he with rfl | ⟨total, s₂, rg, rr, hgo, rfl⟩
  · exact Equiv.refl _
  · have h2 : Equiv s s₂ := distributeReward_go_inv (Equiv s)
      (fun t a val g r ht hv => ht.trans (equiv_vset hv ⟨rfl, rfl, rfl, rfl, rfl⟩)) total votes s _ _ _ (Equiv.refl s) hgo
    exact h2.trans (equiv_of_fields rfl rfl rfl rfl rfl)

theorem dequeueMature_equiv (s : State) (now : Int) : Equiv s (dequeueMature s now) := by
  rw [dequeueMature_eq]
  exact equiv_of_fields rfl rfl rfl rfl rfl

theorem dequeue_equiv (s : State) : Equiv s (dequeue s).1 := by
  rw [dequeue_eq]
  exact equiv_of_fields rfl rfl rfl rfl rfl

theorem enqueueUnlock_equiv (s : State) (t : Int) (u : Unlock) : Equiv s (enqueueUnlock s t u) :=
  equiv_of_fields rfl rfl rfl rfl rfl

theorem tset_equiv (s : State) (d : String) (t : Token) : Equiv s (tset s d t) :=
  equiv_of_fields rfl rfl rfl rfl rfl

/-! ### composites -/

/-- **`lock` preserves the invariant** -/
theorem lock_tr (hash160 : Bytes → Bytes) {now : Int} {s t : State} {reqs : List LockReq}
    (h : Inv now s) (he : lock s now reqs = .ok t) : Tr hash160 now s t := by
  obtain ⟨_, agg, _, hf⟩ := lock_agg he
  exact tr_foldlM hash160 now _ (fun _ _ _ hb hstep => lockOne_tr hash160 hb hstep) _ s t h hf

/-- **`unlockOne` preserves the invariant** -/
theorem unlockOne_tr (hash160 : Bytes → Bytes) {now : Int} {s t : State} {r : UnlockReq}
    (h : Inv now s) (he : unlockOne s now r = .ok t) : Tr hash160 now s t := by
  obtain ⟨s3, ex, amt, hc, rfl⟩ := unlockOne_ok he
  exact (unlockCore_tr hash160 h hc).equiv (enqueueUnlock_equiv _ _ _)

/-- **`unlock` preserves the invariant** -/
theorem unlock_tr (hash160 : Bytes → Bytes) {now : Int} {s t : State} {reqs : List UnlockReq}
    (h : Inv now s) (he : unlock s now reqs = .ok t) : Tr hash160 now s t :=
  tr_foldlM hash160 now _ (fun _ _ _ hb hstep => unlockOne_tr hash160 hb hstep) _ s t h he

/-- **`updateTokens` preserves the invariant** (weight changes re-rank every holder; threshold changes
    touch neither validators nor ranking) -/
theorem updateTokens_tr (hash160 : Bytes → Bytes) {now : Int} {s t : State} {weights : List (String × Nat)}
    {thresholds : List (String × Int)} (h : Inv now s) (he : updateTokens s weights thresholds = .ok t) :
    Tr hash160 now s t := by
  obtain ⟨s₁, h1, h2⟩ := updateTokens_ok he
  have t1 : Tr hash160 now s s₁ := by
    refine tr_foldlM hash160 now _ (fun b u b' hb hstep => ?_) _ s s₁ h h1
    obtain ⟨tok, b₁, hw, rfl⟩ := weightSet_ok hstep
    exact (onWeightChanged_tr hash160 hb hw).equiv (tset_equiv _ _ _)
  refine t1.trans (tr_foldlM hash160 now _ (fun b u b' hb hstep => ?_) _ s₁ t t1.inv h2)
  rcases thresholdSet_ok hstep with rfl | ⟨tok, th, rfl⟩
  · exact Tr.refl hash160 hb
  · exact tr_of_equiv hash160 hb (equiv_of_fields rfl rfl rfl rfl rfl)

/-- **`processRequests` preserves the invariant** -/
theorem processRequests_tr (hash160 : Bytes → Bytes) (hasAccount : Bytes → Bool) {now height : Int} {s t : State}
    {R : Reqs} {accs : List Bytes} (h : Inv now s)
    (he : processRequests hash160 hasAccount s height now R = .ok (t, accs)) : Tr hash160 now s t := by
  obtain ⟨s1, s2, s3, s4, s5, h1, h2, h3, h4, h5, h6⟩ := processRequests_ok he
  have t1 := tr_of_equiv hash160 h (updateRewardPool_equiv h1)
  have t2 := t1.trans (updateTokens_tr hash160 t1.inv h2)
  have t3 := t2.trans (create_tr hash160 hasAccount t2.inv h3)
  have t4 := t3.trans (lock_tr hash160 t3.inv h4)
  have t5 := t4.trans (unlock_tr hash160 t4.inv h5)
  exact t5.equiv (claim_equiv h6)

/-- **`handleVotes` preserves the invariant** -/
theorem handleVotes_tr (hash160 : Bytes → Bytes) {now : Int} {s t : State} {votes : List VoteInfo}
    (h : Inv now s) (he : handleVotes s now votes = .ok t) : Tr hash160 now s t :=
  tr_foldlM hash160 now _ (fun _ _ _ hb hstep => handleVote_tr hash160 hb hstep) _ s t h he

/-- **`beginBlock` preserves the invariant** -/
theorem beginBlock_tr (hash160 : Bytes → Bytes) {now height : Int} {s t : State} {votes : List VoteInfo}
    {maxAge : Option (Int × Int)} {evs : List Evidence} (h : Inv now s)
    (he : beginBlock s height now votes maxAge evs = .ok t) : Tr hash160 now s t := by
  obtain ⟨s1, s3, h1, h3, h4⟩ := beginBlock_ok he
  have t2 := (tr_of_equiv hash160 h (distributeReward_equiv h1)).equiv (dequeueMature_equiv s1 now)
  have t3 := t2.trans (handleVotes_tr hash160 t2.inv h3)
  exact t3.trans (tr_foldlM hash160 now _ (fun _ _ _ hb hstep => handleEvidence_tr hash160 hb hstep) _ s3 t t3.inv h4)

end Goat.Ranking
