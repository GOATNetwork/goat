/-
  The relayer group of x/relayer: its association-list maps (`lookup` / `insert` / `erase`), the status
  of a record, and what a successful call of the membership and election operations did
  (`verifyNonProposal_ok`, `acceptProposer_ok`, `newVoter_ok`, `processRequest_frame`,
  `endBlocker_ok_iff`).  The vote check (`verifyProposal_ok`) is in Lemmas/Relayer.
-/
import GoatModel.Relayer
import GoatProofs.Lemmas.Outcome
namespace Goat

/-! facts about lists that the election and the queues need -/

theorem nodup_append_singleton {α} {l : List α} {a : α} (hl : l.Nodup) (ha : a ∉ l) : (l ++ [a]).Nodup :=
  List.nodup_append.mpr ⟨hl, List.pairwise_singleton _ a, fun _ hx _ hb hab => ha (List.mem_singleton.mp hb ▸ hab ▸ hx)⟩

theorem getElem_set_perm {α} (a : α) (l : List α) (i : Nat) (hi : i < l.length) :
    (l[i] :: l.set i a).Perm (a :: l) := by
  induction l generalizing i with
  | nil => simp at hi
  | cons b t ih =>
    cases i with
    | zero => simp only [List.getElem_cons_zero, List.set_cons_zero]; exact List.Perm.swap _ _ _
    | succ j =>
      simp only [List.getElem_cons_succ, List.set_cons_succ]
      have hj : j < t.length := by simpa using hi
      exact (List.Perm.swap _ _ _).trans (((ih j hj).cons b).trans (List.Perm.swap _ _ _))

/-- a duplicate-free list filtered by membership in `m` is no longer than `m` -/
theorem filter_contains_length_le (l m : List String) (hl : l.Nodup) :
    (l.filter (fun x => m.contains x)).length ≤ m.length := by
  induction l generalizing m with
  | nil => simp
  | cons b u ih =>
    have hu := (List.nodup_cons.mp hl).2
    have hb := (List.nodup_cons.mp hl).1
    by_cases hbm : b ∈ m
    · have h1 := ih (m.erase b) hu
      have h2 : u.filter (fun x => (m.erase b).contains x) = u.filter (fun x => m.contains x) := by
        apply List.filter_congr
        intro x hx
        have : x ≠ b := fun h => hb (h ▸ hx)
        simp [List.mem_erase_of_ne this]
      rw [h2, List.length_erase_of_mem hbm] at h1
      have hpos : 0 < m.length := List.length_pos_of_mem hbm
      have hc : m.contains b = true := by simpa using hbm
      rw [List.filter_cons, if_pos hc, List.length_cons]; omega
    · have h1 := ih m hu
      have hc : ¬ (m.contains b = true) := by simpa using hbm
      rw [List.filter_cons, if_neg hc]; exact h1

theorem exists_not_of_filter_length_lt {α} (p : α → Bool) (l : List α)
    (h : (l.filter p).length < l.length) : ∃ x ∈ l, p x = false := by
  induction l with
  | nil => simp at h
  | cons a t ih =>
    cases hp : p a with
    | false => exact ⟨a, List.mem_cons_self .., hp⟩
    | true =>
      rw [List.filter_cons, if_pos hp, List.length_cons, List.length_cons] at h
      obtain ⟨x, hx, hpx⟩ := ih (by omega)
      exact ⟨x, List.mem_cons_of_mem _ hx, hpx⟩

theorem filter_nil_contains (l : List String) : l.filter (fun m => ([] : List String).contains m) = [] :=
  List.filter_eq_nil_iff.mpr fun _ _ h => nomatch h

/-! The model's finite maps are association lists searched with `==`: `Relayer.lookup` / `insert` and
  `Bitcoin.nlookup` / `ninsert` are `alookup` / `ainsert` at `String` and at `Nat` keys. -/

section
variable {κ : Type} {α : Type _} [DecidableEq κ]

def alookup (m : List (κ × α)) (k : κ) : Option α := (m.find? (·.1 == k)).map (·.2)

def ainsert (m : List (κ × α)) (k : κ) (v : α) : List (κ × α) :=
  if m.any (·.1 == k) then m.map (fun e => if e.1 == k then (k, v) else e) else m ++ [(k, v)]

theorem alookup_cons (e : κ × α) (t : List (κ × α)) (k : κ) :
    alookup (e :: t) k = if e.1 = k then some e.2 else alookup t k := by
  unfold alookup
  rw [List.find?_cons]
  by_cases h : e.1 = k
  · rw [if_pos h, beq_iff_eq.mpr h]; rfl
  · rw [if_neg h, beq_eq_false_iff_ne.mpr h]

theorem any_key_iff (m : List (κ × α)) (k : κ) :
    m.any (·.1 == k) = (alookup m k).isSome := by
  induction m with
  | nil => rfl
  | cons e t ih =>
    rw [alookup_cons, List.any_cons, ih]
    by_cases h : e.1 = k
    · simp [h]
    · simp [h]

theorem alookup_mapRepl (m : List (κ × α)) (k k' : κ) (v : α) :
    alookup (m.map (fun e => if e.1 == k then (k, v) else e)) k'
      = if k' = k then (alookup m k').map (fun _ => v) else alookup m k' := by
  induction m with
  | nil => exact (ite_self _).symm
  | cons e t ih =>
    rw [List.map_cons, alookup_cons, alookup_cons, ih]
    by_cases hk : k' = k
    · subst hk
      by_cases he : e.1 = k'
      · simp [he]
      · simp [he]
    · by_cases he : e.1 = k
      · have hk2 : ¬ k = k' := fun h => hk h.symm
        simp [he, hk, hk2]
      · simp [he, hk]

theorem alookup_append_single (m : List (κ × α)) (k k' : κ) (v : α) :
    alookup (m ++ [(k, v)]) k' = (alookup m k').or (if k' = k then some v else none) := by
  induction m with
  | nil =>
    rw [List.nil_append, alookup_cons]
    by_cases h : k = k'
    · simp [h, alookup]
    · have : ¬ k' = k := fun h' => h h'.symm
      simp [h, this, alookup]
  | cons e t ih =>
    rw [List.cons_append, alookup_cons, alookup_cons, ih]
    by_cases he : e.1 = k'
    · simp [he]
    · simp [he]

/-- reading after writing -/
theorem alookup_ainsert (m : List (κ × α)) (k k' : κ) (v : α) :
    alookup (ainsert m k v) k' = if k' = k then some v else alookup m k' := by
  unfold ainsert
  rw [any_key_iff]
  cases hl : alookup m k with
  | none =>
    simp only [Option.isSome_none, Bool.false_eq_true, if_false]
    rw [alookup_append_single]
    by_cases hk : k' = k
    · subst hk; simp [hl]
    · simp [hk]
  | some r =>
    simp only [Option.isSome_some, if_true]
    rw [alookup_mapRepl]
    by_cases hk : k' = k
    · subst hk; simp [hl]
    · simp [hk]

end

namespace Relayer

theorem lookup_nil {α} (k : String) : lookup ([] : List (String × α)) k = none := rfl

theorem lookup_cons {α} (e : String × α) (t : List (String × α)) (k : String) :
    lookup (e :: t) k = if e.1 = k then some e.2 else lookup t k :=
  alookup_cons e t k

theorem lookup_insert {α} (m : List (String × α)) (k k' : String) (v : α) :
    lookup (insert m k v) k' = if k' = k then some v else lookup m k' :=
  alookup_ainsert m k k' v

theorem lookup_erase {α} (m : List (String × α)) (k k' : String) :
    lookup (erase m k) k' = if k' = k then none else lookup m k' := by
  induction m with
  | nil => exact (ite_self _).symm
  | cons e t ih =>
    unfold erase at ih ⊢
    rw [List.filter_cons]
    by_cases he : e.1 = k
    · rw [if_neg (by simp [he]), ih, lookup_cons]
      by_cases hk : k' = k
      · rw [if_pos hk, if_pos hk]
      · rw [if_neg hk, if_neg hk, if_neg (fun h => hk (h.symm.trans he))]
    · rw [if_pos (by simp [he]), lookup_cons, lookup_cons, ih]
      by_cases hk : k' = k
      · rw [if_pos hk, if_pos hk, if_neg (fun h => he (h.trans hk))]
      · rw [if_neg hk, if_neg hk]

/-- status of the record stored under key `k` (none: no record) -/
def stat (recs : List (String × Voter)) (k : String) : Option VStatus := (lookup recs k).map (·.status)

theorem stat_insert (recs : List (String × Voter)) (k k' : String) (v : Voter) :
    stat (insert recs k v) k' = if k' = k then some v.status else stat recs k' := by
  unfold stat
  rw [lookup_insert]
  by_cases h : k' = k
  · simp [h]
  · simp [h]

theorem stat_erase (recs : List (String × Voter)) (k k' : String) :
    stat (erase recs k) k' = if k' = k then none else stat recs k' := by
  unfold stat
  rw [lookup_erase]
  by_cases h : k' = k
  · simp [h]
  · simp [h]

theorem stat_eraseAll (l : List String) (recs : List (String × Voter)) (k : String) :
    stat (l.foldl erase recs) k = if k ∈ l then none else stat recs k := by
  induction l generalizing recs with
  | nil => simp
  | cons a t ih =>
    rw [List.foldl_cons, ih, stat_erase]
    by_cases h1 : k ∈ t
    · simp [h1]
    · by_cases h2 : k = a
      · simp [h2]
      · simp [h1, h2]

theorem stat_some_of_lookup {recs : List (String × Voter)} {k : String} {r : Voter}
    (h : lookup recs k = some r) : stat recs k = some r.status := by
  unfold stat; rw [h]; rfl

theorem lookup_of_stat_some {recs : List (String × Voter)} {k : String} {st : VStatus}
    (h : stat recs k = some st) : ∃ r, lookup recs k = some r ∧ r.status = st := by
  unfold stat at h
  cases hl : lookup recs k with
  | none => simp [hl] at h
  | some r => simp [hl] at h; exact ⟨r, rfl, h⟩

theorem stat_none_iff {recs : List (String × Voter)} {k : String} :
    stat recs k = none ↔ lookup recs k = none := by
  unfold stat; simp

theorem verifyNonProposal_ok {s s' : State} {p : String} (h : verifyNonProposal s p = .ok s') :
    s.proposer = p ∧ s' = { s with accepted := true } := by
  unfold verifyNonProposal at h
  obtain ⟨hp, h⟩ := Outcome.of_guard_err h
  cases h
  exact ⟨Classical.not_not.mp hp, rfl⟩

theorem acceptProposer_ok {s s' : State} {p : String} {e : Nat} {now : Int}
    (h : acceptProposer s p e now = .ok s') :
    s.proposer = p ∧ s.accepted = false ∧ s.epoch = e ∧
      now - s.lastElected ≤ s.params.acceptProposerTimeout ∧ s' = { s with accepted := true } := by
  unfold acceptProposer at h
  obtain ⟨hp, h⟩ := Outcome.of_guard_err h
  obtain ⟨ha, h⟩ := Outcome.of_guard_err h
  obtain ⟨he, h⟩ := Outcome.of_guard_err h
  obtain ⟨ht, h⟩ := Outcome.of_guard_err h
  cases h
  exact ⟨Classical.not_not.mp hp, Bool.eq_false_iff.mpr ha, Classical.not_not.mp he, Int.not_lt.mp ht, rfl⟩

/-- a successful `NewVoter` read backwards: well-formed message from the proposer for a registered, still
    pending address whose key hash matches; both proofs of possession verify over the document of
    that registration; the record takes the proved key and is queued, for removal if the address
    already has an account and for joining otherwise -/
theorem newVoter_ok {c : Crypto} {chain : String} {s s' : State} {m : NewVoterMsg} {has : String → Bool} {acc : Option String}
    (h : newVoter c chain s m has = .ok (s', acc)) :
    newVoterValidate m = true ∧ s.proposer = m.proposer ∧
    ∃ v, lookup s.recs (c.addrOf (c.hash160 m.txKey)) = some v ∧ v.status = .pending ∧ c.sha256 m.blsKey = v.voteKey ∧
      c.ecdsaVerify m.txKey (voteSignDoc c "Relayer/NewVoter" chain m.proposer 0 s.epoch
        (le64 v.height ++ c.hash160 m.txKey ++ v.voteKey)) m.txProof = true ∧
      c.blsVerify m.blsKey (voteSignDoc c "Relayer/NewVoter" chain m.proposer 0 s.epoch
        (le64 v.height ++ c.hash160 m.txKey ++ v.voteKey)) m.blsProof = true ∧
      ((has (c.addrOf (c.hash160 m.txKey)) = true ∧ acc = none ∧
          s' = { s with accepted := true,
                        recs := insert s.recs (c.addrOf (c.hash160 m.txKey)) { v with voteKey := m.blsKey, status := .offBoarding },
                        offBoarding := s.offBoarding ++ [c.addrOf (c.hash160 m.txKey)] }) ∨
       (has (c.addrOf (c.hash160 m.txKey)) = false ∧ acc = some (c.addrOf (c.hash160 m.txKey)) ∧
          s' = { s with accepted := true,
                        recs := insert s.recs (c.addrOf (c.hash160 m.txKey)) { v with voteKey := m.blsKey, status := .onBoarding },
                        onBoarding := s.onBoarding ++ [c.addrOf (c.hash160 m.txKey)] })) := by
  unfold newVoter at h
  obtain ⟨hval, h⟩ := Outcome.of_guard_err h
  split at h
  · cases h
  · cases h
  rename_i s1 hnp
  obtain ⟨hp, rfl⟩ := verifyNonProposal_ok hnp
  dsimp only at h
  split at h
  · cases h
  rename_i v hl
  obtain ⟨hpend, h⟩ := Outcome.of_guard_err h
  obtain ⟨hkey, h⟩ := Outcome.of_guard_err h
  obtain ⟨htx, h⟩ := Outcome.of_guard_err h
  obtain ⟨hbls, h⟩ := Outcome.of_guard_err h
  refine ⟨by simpa using hval, hp, v, hl, Classical.not_not.mp hpend, Classical.not_not.mp hkey, by simpa using htx,
    by simpa using hbls, ?_⟩
  split at h
  · cases h
    exact Or.inl ⟨‹_›, rfl, rfl⟩
  · cases h
    exact Or.inr ⟨Bool.eq_false_iff.mpr ‹_›, rfl, rfl⟩

/-- `ProcessRelayerRequest` writes only the records and the removal queue -/
theorem processRequest_frame (c : Crypto) (s : State) (height : Nat) (adds : List AddReq) (removes : List Bytes) :
    ∃ recs off, processRequest c s height adds removes = { s with recs := recs, offBoarding := off } := by
  have hgo : ∀ (l : List Bytes) (s : State) (a : Int),
      ∃ recs off, processRequest.go c l s a = { s with recs := recs, offBoarding := off } := by
    intro l
    induction l with
    | nil => intro s a; exact ⟨s.recs, s.offBoarding, rfl⟩
    | cons x xs ih =>
      intro s a
      unfold processRequest.go
      dsimp only
      cases lookup s.recs (c.addrOf x) with
      | none => exact ih s a
      | some v =>
        dsimp only
        by_cases hv : v.status ≠ .activated
        · rw [if_pos hv]; exact ih s a
        rw [if_neg hv]
        by_cases ha : a - 1 < 1
        · rw [if_pos ha]; exact ⟨s.recs, s.offBoarding, rfl⟩
        rw [if_neg ha]
        exact ih _ _
  unfold processRequest
  dsimp only
  generalize hs1 : List.foldl _ s adds = s1
  have h1 : ∃ recs, s1 = { s with recs := recs } := by
    rw [← hs1]
    refine List.foldlRecOn (motive := fun s1 : State => ∃ recs, s1 = { s with recs := recs }) adds _ ⟨s.recs, rfl⟩
      (fun s1 h1 a _ => ?_)
    obtain ⟨r, rfl⟩ := h1
    dsimp only
    by_cases hl : (lookup r (c.addrOf a.voter)).isSome = true
    · rw [if_pos hl]; exact ⟨r, rfl⟩
    · rw [if_neg hl]; exact ⟨_, rfl⟩
  obtain ⟨r, rfl⟩ := h1
  by_cases hr : removes.isEmpty = true
  · rw [if_pos hr]; exact ⟨r, s.offBoarding, rfl⟩
  · rw [if_neg hr]; exact hgo removes _ _

/-- the activation step of an election (the body of the first loop of `EndBlocker`): the record
    under `v` gets status `activated`; a missing record is an error -/
def activate (recs : List (String × Voter)) (v : String) : Option (List (String × Voter)) :=
  match lookup recs v with
  | some r => some (insert recs v { r with status := .activated })
  | none => none

/-- the activation pass succeeds when every entry has a record -/
theorem activate_fold_isSome (l : List String) (recs : List (String × Voter))
    (hall : ∀ k ∈ l, (stat recs k).isSome) : ∃ recs1, l.foldlM activate recs = some recs1 := by
  induction l generalizing recs with
  | nil => exact ⟨recs, rfl⟩
  | cons v t ih =>
    cases hl : lookup recs v with
    | none =>
      have hv := hall v (List.mem_cons_self ..)
      rw [stat_none_iff.mpr hl] at hv
      cases hv
    | some r =>
      rw [List.foldlM_cons, activate, hl]
      apply ih
      intro k hk
      rw [stat_insert]
      split
      · rfl
      · exact hall k (List.mem_cons_of_mem _ hk)

/-- when the activation pass succeeds, exactly the entries' statuses are set to `activated` -/
theorem activate_fold_some (l : List String) (recs recs1 : List (String × Voter))
    (h : l.foldlM activate recs = some recs1) :
    ∀ k, stat recs1 k = if k ∈ l ∧ (stat recs k).isSome then some .activated else stat recs k := by
  induction l generalizing recs with
  | nil => simp at h; subst h; simp
  | cons v t ih =>
    rw [List.foldlM_cons, activate] at h
    cases hl : lookup recs v with
    | none => simp [hl] at h
    | some r =>
      simp only [hl, Option.bind_eq_bind, Option.bind_some] at h
      intro k
      rw [ih _ h, stat_insert]
      have hsv : stat recs v = some r.status := stat_some_of_lookup hl
      by_cases hkv : k = v
      · subst hkv; simp [hsv]
      · simp [hkv]

/-! the emptiness tests of `EndBlocker` are redundant: appending or filtering by an empty queue changes nothing -/

private theorem ite_notEmpty_append {α} (a l : List α) :
    (if (!l.isEmpty) = true then a ++ l else a) = a ++ l := by
  cases l <;> simp

private theorem ite_notEmpty_filter (off v1 : List String) :
    (if (!off.isEmpty) = true then v1.filter (fun v => !off.contains v) else v1)
      = v1.filter (fun v => !off.contains v) := by
  cases off with
  | nil =>
    have : v1.filter (fun v => ![].contains v) = v1 := List.filter_eq_self.mpr (by intro x _; simp)
    rw [this]; simp
  | cons a t => simp

private theorem ite_clear_on {α} (on off : List α) :
    (if (!on.isEmpty) = true ∨ (!off.isEmpty) = true then [] else on) = [] := by
  cases on <;> cases off <;> simp

private theorem ite_clear_off {α} (on off : List α) :
    (if (!on.isEmpty) = true ∨ (!off.isEmpty) = true then [] else off) = [] := by
  cases on <;> cases off <;> simp

private theorem notEmpty_of_contains (l : List String) (x : String) (h : l.contains x = true) :
    (!l.isEmpty) = true := by
  cases l with
  | nil => simp at h
  | cons a t => rfl

/-- the voters and queued joiners that are not queued for removal, in order -/
def candidates (s : State) : List String :=
  (s.voters ++ s.onBoarding).filter (fun v => !s.offBoarding.contains v)

/-- the state after an election whose activation pass produced `recs1`.  The removal queue is erased
    from the records and both queues are emptied.  A removed proposer is replaced by the first
    candidate, who still has to accept; otherwise the proposer changes seats with the candidate drawn
    from the randao (and stays, already accepted, when there is no candidate). -/
def elect (c : Crypto) (s : State) (recs1 : List (String × Voter)) (now : Int) : State :=
  let removed := s.offBoarding.contains s.proposer
  let nv := candidates s
  let epoch := (s.epoch + 1) % two64
  let idx := if nv.length > 1 then beToNat (c.sha256 (s.randao ++ le64 epoch)) % nv.length else 0
  { s with recs := s.offBoarding.foldl erase recs1, epoch := epoch, lastElected := now,
           onBoarding := [], offBoarding := [],
           proposer := if removed then nv.head! else if nv.length = 0 then s.proposer else nv[idx]!,
           voters := if removed then nv.tail else nv.set idx s.proposer,
           accepted := !removed && nv.length = 0 }

/-- `EndBlocker` in phases: nothing unless an election is due; the activation pass; the "too many"
    check; the election proper. -/
theorem endBlocker_eq (c : Crypto) (s : State) (now : Int) :
    endBlocker c s now =
      if !electionDue s now then .ok s
      else match s.onBoarding.foldlM activate s.recs with
        | none => .err "not-found"
        | some recs1 =>
          if s.offBoarding.contains s.proposer ∧ (candidates s).isEmpty then .err "too-many"
          else .ok (elect c s recs1 now) := by
  unfold endBlocker
  cases electionDue s now
  · rfl
  · generalize hf : List.foldlM (m := Option) _ s.recs s.onBoarding = res
    have hf' : s.onBoarding.foldlM activate s.recs = res := hf
    rw [hf']
    cases res with
    | none => rfl
    | some recs1 =>
      unfold elect candidates
      cases hrem : s.offBoarding.contains s.proposer
      · -- the proposer stays: drop the emptiness tests, then both sides differ by `nv.length = 0` only
        simp only [Bool.not_true, Bool.false_eq_true, if_false, ite_notEmpty_append, ite_notEmpty_filter,
          ite_clear_on, ite_clear_off, and_false, false_and, Bool.not_false, Bool.true_and]
        generalize List.filter (fun v => !s.offBoarding.contains v) (s.voters ++ s.onBoarding) = nv
        cases nv with
        | nil => rfl
        | cons a t => rfl
      · -- the proposer is removed: the removal queue is not empty
        have hne := notEmpty_of_contains _ _ hrem
        simp only [Bool.not_true, Bool.false_eq_true, if_false, ite_notEmpty_append, hne, true_and, or_true,
          if_true, Bool.false_and]

/-- **shape of `EndBlocker`**: it succeeds either by doing nothing (no election due) or, when an
    election is due, the activation pass succeeds, the removal queue leaves a successor for a removed
    proposer, and the result is `elect`.  Every field of `elect c s recs1 now` other than proposer,
    voters and `accepted` is read off by `rfl`: `params`, `seq`, `randao`, `pubkeys` are those of `s`,
    `epoch` is `(s.epoch + 1) % two64`, `lastElected` is `now`, both queues are `[]`. -/
theorem endBlocker_ok_iff {c : Crypto} {s s' : State} {now : Int} :
    endBlocker c s now = .ok s' ↔
      (electionDue s now = false ∧ s' = s) ∨
      (electionDue s now = true ∧ ∃ recs1, s.onBoarding.foldlM activate s.recs = some recs1 ∧
        ¬ (s.offBoarding.contains s.proposer = true ∧ (candidates s).isEmpty = true) ∧
        s' = elect c s recs1 now) := by
  rw [endBlocker_eq]
  cases electionDue s now
  · constructor
    · intro h; cases h; exact Or.inl ⟨rfl, rfl⟩
    · rintro (⟨_, rfl⟩ | ⟨h, _⟩)
      · rfl
      · cases h
  · simp only [Bool.not_true, Bool.false_eq_true, if_false]
    cases s.onBoarding.foldlM activate s.recs with
    | none =>
      constructor
      · intro h; cases h
      · rintro (⟨h, _⟩ | ⟨_, _, h, _⟩) <;> cases h
    | some recs1 =>
      dsimp only
      constructor
      · intro h
        split at h
        · cases h
        · rename_i hc; cases h; exact Or.inr ⟨trivial, recs1, rfl, hc, rfl⟩
      · rintro (⟨h, _⟩ | ⟨_, r, hr, hc, rfl⟩)
        · cases h
        · cases hr; exact if_neg hc

/-- the group after an election is a rearrangement of the old proposer, the voters and the joiners,
    minus the removal queue -/
theorem elect_members_perm (c : Crypto) (s : State) (recs1 : List (String × Voter)) (now : Int)
    (h : ¬ (s.offBoarding.contains s.proposer = true ∧ (candidates s).isEmpty = true)) :
    ((elect c s recs1 now).proposer :: (elect c s recs1 now).voters).Perm
      ((s.proposer :: (s.voters ++ s.onBoarding)).filter (fun v => !s.offBoarding.contains v)) := by
  rw [List.filter_cons]
  unfold elect
  dsimp only
  change (_ :: _).Perm (if _ then s.proposer :: candidates s else candidates s)
  generalize candidates s = nv at h ⊢
  cases hrem : s.offBoarding.contains s.proposer
  · simp only [Bool.false_eq_true, if_false, Bool.not_false, if_true]
    cases nv with
    | nil => exact List.Perm.refl _
    | cons a t =>
      generalize hi : (if (a :: t).length > 1 then _ else 0) = idx
      have hidx : idx < (a :: t).length := by
        rw [← hi]
        split
        · exact Nat.mod_lt _ (Nat.succ_pos _)
        · exact Nat.succ_pos _
      have hne : ¬ (a :: t).length = 0 := Nat.succ_ne_zero _
      rw [if_neg hne, getElem!_pos (a :: t) idx hidx]
      exact getElem_set_perm _ _ _ hidx
  · simp only [if_true, Bool.not_true, Bool.false_eq_true, if_false]
    cases nv with
    | nil => exact absurd ⟨hrem, rfl⟩ h
    | cons a t => exact List.Perm.refl _

end Relayer
end Goat
