/-
  What each operation of the locking model does.

  Every operation is a composition of the primitive writers `rankRemove`, `rankSet`, `idxSet`,
  `idxRemove` (ranking / index entries of one address), `vset` (one record) and a few writers of global
  fields.  A lemma `…_ok` turns a successful call into the resulting state written with these writers,
  one disjunct per outcome (`lockOne`, `unlockCore`, `unlockOne`, `handleVote`, `handleEvidence`,
  `updateRewardPool`, `distributeReward`, the bodies of the loops of `onWeightChanged`,
  `updateTokens`, `create`, `claim`, and the two entry points); `lock` is read through `lock_agg`, a fold
  of `lockOne` over the aggregated requests; `dequeueMature` and `dequeue` are total and given as
  equations; `endBlocker` is read in `C07`, where the bodies of its two loops have names.
  `IdxWrites a s t` is the footprint of the index writers at `a`: `t` differs from `s` in ranking and
  index entries of `a` only; `…_writes` states that footprint for the operations on one validator.
-/
import GoatModel.Locking
import GoatProofs.Lemmas.Locking
namespace Goat.Locking

/-! ### the re-filing step `if p > 0 then rankSet … else …` -/

theorem rankSet_vset (s : State) (a : Bytes) (v : Validator) (p : Nat) (b : Bytes) :
    rankSet (vset s a v) p b = vset (rankSet s p b) a v := by
  unfold rankSet
  simp only [vset_ranking]
  split <;> rfl

theorem rank_ite_vset (s : State) (a : Bytes) (v : Validator) (p : Nat) (b : Bytes) :
    (if p > 0 then rankSet (vset s a v) p b else vset s a v) = vset (if p > 0 then rankSet s p b else s) a v := by
  split
  · exact rankSet_vset s a v p b
  · rfl

theorem rank_ite_lockingIdx (s : State) (p : Nat) (a : Bytes) :
    (if p > 0 then rankSet s p a else s).lockingIdx = s.lockingIdx := by
  split
  · exact rankSet_lockingIdx s p a
  · rfl

/-! ### ranking and index entries after a write -/

theorem mem_rankRemove_iff (s : State) (p : Nat) (a : Bytes) (e : Nat × Bytes) :
    e ∈ (rankRemove s p a).ranking ↔ e ∈ s.ranking ∧ e ≠ (p, a) := by
  unfold rankRemove
  simp only [List.mem_filter, Bool.not_eq_true', Bool.and_eq_false_imp, beq_iff_eq, beq_eq_false_iff_ne, ne_eq,
    Prod.ext_iff, not_and]

theorem mem_rankSet_iff (s : State) (p : Nat) (a : Bytes) (e : Nat × Bytes) :
    e ∈ (rankSet s p a).ranking ↔ e ∈ s.ranking ∨ e = (p, a) := by
  unfold rankSet
  split
  · rename_i h
    constructor
    · exact Or.inl
    · rintro (h1 | rfl)
      · exact h1
      · obtain ⟨x, hx, hx'⟩ := List.any_eq_true.mp h
        simp only [Bool.and_eq_true, beq_iff_eq] at hx'
        have : x = (p, a) := Prod.ext hx'.1 hx'.2
        exact this ▸ hx
  · simp only [List.mem_append, List.mem_singleton]

theorem mem_idxRemove_iff (s : State) (d : String) (a : Bytes) (e : (String × Bytes) × Int) :
    e ∈ (idxRemove s d a).lockingIdx ↔ e ∈ s.lockingIdx ∧ ¬ (e.1.1 = d ∧ e.1.2 = a) := by
  unfold idxRemove
  simp only [List.mem_filter, Bool.not_eq_true', Bool.and_eq_false_imp, beq_iff_eq, beq_eq_false_iff_ne, ne_eq, not_and]

theorem mem_idxSet_iff (s : State) (d : String) (a : Bytes) (x : Int) (e : (String × Bytes) × Int) :
    e ∈ (idxSet s d a x).lockingIdx ↔ (e ∈ s.lockingIdx ∧ ¬ (e.1.1 = d ∧ e.1.2 = a)) ∨ e = ((d, a), x) := by
  unfold idxSet
  simp only [List.mem_append, List.mem_filter, List.mem_singleton, Bool.not_eq_true', Bool.and_eq_false_imp, beq_iff_eq,
    beq_eq_false_iff_ne, ne_eq, not_and]

/-- the index after removing the entries of `a` for every denomination of `cs` -/
theorem mem_idxRemoves_iff (a : Bytes) (e : (String × Bytes) × Int) : ∀ (cs : Coins) (s : State),
    e ∈ (cs.foldl (fun t c => idxRemove t c.1 a) s).lockingIdx ↔
      e ∈ s.lockingIdx ∧ ¬ (e.1.2 = a ∧ e.1.1 ∈ cs.map (·.1)) := by
  intro cs
  induction cs with
  | nil => intro s; simp only [List.foldl_nil, List.map_nil, List.not_mem_nil, and_false, not_false_eq_true, and_true]
  | cons c cs ih =>
    intro s
    rw [List.foldl_cons, ih, mem_idxRemove_iff, List.map_cons, List.mem_cons]
    constructor
    · rintro ⟨⟨h1, h2⟩, h3⟩
      exact ⟨h1, fun ⟨k1, k2⟩ => k2.elim (fun k => h2 ⟨k, k1⟩) (fun k => h3 ⟨k1, k⟩)⟩
    · rintro ⟨h1, h2⟩
      exact ⟨⟨h1, fun k => h2 ⟨k.2, Or.inl k.1⟩⟩, fun k => h2 ⟨k.1, Or.inr k.2⟩⟩

/-- the index after writing an entry of `a` for every coin of `cs`: an entry is an old one that was
    not overwritten, or one of the writes -/
theorem mem_idxSets (a : Bytes) (X : String × Int → Int) (e : (String × Bytes) × Int) : ∀ (cs : Coins) (s : State),
    e ∈ (cs.foldl (fun t c => idxSet t c.1 a (X c)) s).lockingIdx →
      (e ∈ s.lockingIdx ∧ ¬ (e.1.2 = a ∧ e.1.1 ∈ cs.map (·.1))) ∨ ∃ c ∈ cs, e = ((c.1, a), X c) := by
  intro cs
  induction cs with
  | nil => intro s h; exact Or.inl ⟨h, fun k => by simp at k⟩
  | cons c cs ih =>
    intro s h
    rw [List.foldl_cons] at h
    rcases ih _ h with ⟨h1, h2⟩ | ⟨c', hc', rfl⟩
    · rcases (mem_idxSet_iff _ _ _ _ _).mp h1 with ⟨h3, h4⟩ | rfl
      · refine Or.inl ⟨h3, ?_⟩
        rw [List.map_cons, List.mem_cons]
        exact fun ⟨k1, k2⟩ => k2.elim (fun k => h4 ⟨k, k1⟩) (fun k => h2 ⟨k1, k⟩)
      · exact Or.inr ⟨c, List.mem_cons_self, rfl⟩
    · exact Or.inr ⟨c', List.mem_cons_of_mem _ hc', rfl⟩

theorem idxRemoves_ranking (a : Bytes) (cs : Coins) (s : State) :
    (cs.foldl (fun t c => idxRemove t c.1 a) s).ranking = s.ranking := by
  induction cs generalizing s with
  | nil => rfl
  | cons c cs ih => exact ih _

theorem idxSets_ranking (a : Bytes) (X : String × Int → Int) (cs : Coins) (s : State) :
    (cs.foldl (fun t c => idxSet t c.1 a (X c)) s).ranking = s.ranking := by
  induction cs generalizing s with
  | nil => rfl
  | cons c cs ih => exact ih _

/-! ### the footprint of ranking / index writes at one address -/

/-- `t` is `s` up to the ranking and index entries of address `a` -/
structure IdxWrites (a : Bytes) (s t : State) : Prop where
  params : t.params = s.params
  validators : t.validators = s.validators
  valset : t.valset = s.valset
  tokens : t.tokens = s.tokens
  threshold : t.threshold = s.threshold
  slashed : t.slashed = s.slashed
  nonce : t.nonce = s.nonce
  pool : t.pool = s.pool
  qRewards : t.qRewards = s.qRewards
  qUnlocks : t.qUnlocks = s.qUnlocks
  unlockQueue : t.unlockQueue = s.unlockQueue
  rank : ∀ e : Nat × Bytes, e.2 ≠ a → (e ∈ t.ranking ↔ e ∈ s.ranking)
  idx : ∀ e : (String × Bytes) × Int, e.1.2 ≠ a → (e ∈ t.lockingIdx ↔ e ∈ s.lockingIdx)

namespace IdxWrites

theorem refl (a : Bytes) (s : State) : IdxWrites a s s :=
  ⟨rfl, rfl, rfl, rfl, rfl, rfl, rfl, rfl, rfl, rfl, rfl, fun _ _ => Iff.rfl, fun _ _ => Iff.rfl⟩

theorem trans {a : Bytes} {s t u : State} (h1 : IdxWrites a s t) (h2 : IdxWrites a t u) : IdxWrites a s u :=
  ⟨h2.params.trans h1.params, h2.validators.trans h1.validators, h2.valset.trans h1.valset, h2.tokens.trans h1.tokens,
   h2.threshold.trans h1.threshold, h2.slashed.trans h1.slashed, h2.nonce.trans h1.nonce, h2.pool.trans h1.pool,
   h2.qRewards.trans h1.qRewards, h2.qUnlocks.trans h1.qUnlocks, h2.unlockQueue.trans h1.unlockQueue,
   fun e he => (h2.rank e he).trans (h1.rank e he), fun e he => (h2.idx e he).trans (h1.idx e he)⟩

theorem vget_eq {a : Bytes} {s t : State} (h : IdxWrites a s t) (b : Bytes) : vget t b = vget s b :=
  vget_congr t s h.validators b

end IdxWrites

theorem idxWrites_rankRemove (s : State) (p : Nat) (a : Bytes) : IdxWrites a s (rankRemove s p a) := by
  refine ⟨rfl, rfl, rfl, rfl, rfl, rfl, rfl, rfl, rfl, rfl, rfl, fun e he => ?_, fun _ _ => Iff.rfl⟩
  rw [mem_rankRemove_iff]
  exact ⟨fun h => h.1, fun h => ⟨h, fun k => he (congrArg Prod.snd k)⟩⟩

theorem idxWrites_rankSet (s : State) (p : Nat) (a : Bytes) : IdxWrites a s (rankSet s p a) := by
  unfold rankSet
  split
  · exact IdxWrites.refl a s
  · refine ⟨rfl, rfl, rfl, rfl, rfl, rfl, rfl, rfl, rfl, rfl, rfl, fun e he => ?_, fun _ _ => Iff.rfl⟩
    simp only [List.mem_append, List.mem_singleton, or_iff_left_iff_imp]
    exact fun h => absurd (congrArg Prod.snd h) he

theorem idxWrites_rank_ite (s : State) (p : Nat) (a : Bytes) : IdxWrites a s (if p > 0 then rankSet s p a else s) := by
  split
  · exact idxWrites_rankSet s p a
  · exact IdxWrites.refl a s

theorem idxWrites_idxRemove (s : State) (d : String) (a : Bytes) : IdxWrites a s (idxRemove s d a) := by
  refine ⟨rfl, rfl, rfl, rfl, rfl, rfl, rfl, rfl, rfl, rfl, rfl, fun _ _ => Iff.rfl, fun e he => ?_⟩
  rw [mem_idxRemove_iff]
  exact ⟨fun h => h.1, fun h => ⟨h, fun k => he k.2⟩⟩

theorem idxWrites_idxSet (s : State) (d : String) (a : Bytes) (x : Int) : IdxWrites a s (idxSet s d a x) := by
  refine ⟨rfl, rfl, rfl, rfl, rfl, rfl, rfl, rfl, rfl, rfl, rfl, fun _ _ => Iff.rfl, fun e he => ?_⟩
  rw [mem_idxSet_iff]
  exact ⟨fun h => h.elim (·.1) (fun k => absurd (congrArg (·.1.2) k) he), fun h => Or.inl ⟨h, fun k => he k.2⟩⟩

theorem idxWrites_foldl {α : Type} (a : Bytes) (g : State → α → State) (hg : ∀ t x, IdxWrites a t (g t x)) :
    ∀ (l : List α) (s : State), IdxWrites a s (l.foldl g s) := by
  intro l
  induction l with
  | nil => exact IdxWrites.refl a
  | cons x l ih => intro s; exact (hg s x).trans (ih (g s x))

theorem idxWrites_idxRemoves (a : Bytes) (cs : Coins) (s : State) :
    IdxWrites a s (cs.foldl (fun t c => idxRemove t c.1 a) s) := by
  apply idxWrites_foldl
  intro t c
  exact idxWrites_idxRemove t c.1 a

theorem idxWrites_idxSets (a : Bytes) (X : String × Int → Int) (cs : Coins) (s : State) :
    IdxWrites a s (cs.foldl (fun t c => idxSet t c.1 a (X c)) s) := by
  apply idxWrites_foldl
  intro t c
  exact idxWrites_idxSet t c.1 a (X c)

/-! ### slashing -/

theorem slashStep_fst (addr : Bytes) (frac : Nat) (acc : State × Coins) (c : String × Int) :
    ∃ x, (slashStep addr frac acc c).1 = slashedAdd (idxRemove acc.1 c.1 addr) c.1 x := by
  simp only [slashStep]
  split
  · exact ⟨_, rfl⟩
  · exact ⟨_, rfl⟩

/-- `slashAll` removes the index entries of the holding and books the slashed parts: apart from
    `slashed` the state is the one after the removals -/
theorem slashAll_fst (s : State) (a : Bytes) (v : Validator) (frac : Nat) :
    (slashAll s a v frac).1 =
      { v.locking.foldl (fun t c => idxRemove t c.1 a) s with slashed := (slashAll s a v frac).1.slashed } := by
  unfold slashAll
  generalize v.locking = cs
  have key : ∀ (cs : Coins) (acc : State × Coins) (t : State), acc.1 = { t with slashed := acc.1.slashed } →
      (cs.foldl (slashStep a frac) acc).1 =
        { cs.foldl (fun t c => idxRemove t c.1 a) t with slashed := (cs.foldl (slashStep a frac) acc).1.slashed } := by
    intro cs
    induction cs with
    | nil => intro acc t h; exact h
    | cons c cs ih =>
      intro acc t h
      rw [List.foldl_cons, List.foldl_cons]
      refine ih _ _ ?_
      obtain ⟨x, hx⟩ := slashStep_fst a frac acc c
      rw [hx, h]
      rfl
  exact key cs (s, []) s rfl

theorem mem_slashAll_idx_iff (s : State) (a : Bytes) (v : Validator) (frac : Nat) (e : (String × Bytes) × Int) :
    e ∈ (slashAll s a v frac).1.lockingIdx ↔ e ∈ s.lockingIdx ∧ ¬ (e.1.2 = a ∧ e.1.1 ∈ v.locking.map (·.1)) := by
  rw [slashAll_fst]
  exact mem_idxRemoves_iff a e v.locking s

/-- slashing touches neither the validator records nor the ranking / recorded set -/
theorem slashAll_frame (s : State) (a : Bytes) (v : Validator) (frac : Nat) :
    (slashAll s a v frac).1.validators = s.validators ∧ (slashAll s a v frac).1.ranking = s.ranking ∧
    (slashAll s a v frac).1.valset = s.valset := by
  rw [slashAll_fst]
  exact ⟨(idxWrites_idxRemoves a v.locking s).validators, idxRemoves_ranking a v.locking s,
    (idxWrites_idxRemoves a v.locking s).valset⟩

/-! ### record fields -/

/-- the fields of a record that `lockOne` and `unlockCore` never write: everything but holding, power
    and status -/
structure RecFrame (v v' : Validator) : Prop where
  pubkey : v'.pubkey = v.pubkey
  reward : v'.reward = v.reward
  gasReward : v'.gasReward = v.gasReward
  offset : v'.offset = v.offset
  missed : v'.missed = v.missed
  jailedUntil : v'.jailedUntil = v.jailedUntil

/-! ### lockOne -/

/-- **`lockOne`**: the coins are credited to the holding whatever the status; an Active / Pending
    validator gets its index entries for the denominations of the request and its ranking entry
    rewritten; a jailed validator whose jail time is over and whose holding meets every threshold
    re-joins as Pending with all its index entries written; otherwise nothing else happens. -/
theorem lockOne_ok {s s' : State} {now : Int} {a : Bytes} {coins : Coins} (h : lockOne s now a coins = .ok s') :
    ∃ v, vget s a = some v ∧
      (((v.status = .pending ∨ v.status = .active) ∧ ∃ pw s₂,
          s₂ = coins.foldl (fun t c => idxSet t c.1 a (amountOf (addCoins v.locking coins) c.1)) (rankRemove s v.power a) ∧
          s' = vset (if pw > 0 then rankSet s₂ pw a else s₂) a { v with locking := addCoins v.locking coins, power := pw }) ∨
       ((v.status = .downgrade ∧ now > v.jailedUntil ∧ isAllGTE (addCoins v.locking coins) s.threshold = true) ∧ ∃ pw s₂,
          s₂ = (addCoins v.locking coins).foldl (fun t c => idxSet t c.1 a c.2) s ∧
          s' = vset (if pw > 0 then rankSet s₂ pw a else s₂) a
            { v with locking := addCoins v.locking coins, power := pw, status := .pending }) ∨
       ((v.status = .tombstoned ∨ v.status = .inactive ∨
          (v.status = .downgrade ∧ ¬ (now > v.jailedUntil ∧ isAllGTE (addCoins v.locking coins) s.threshold = true))) ∧
          s' = vset s a { v with locking := addCoins v.locking coins })) := by
  unfold lockOne at h
  cases hv : vget s a with
  | none => rw [hv] at h; cases h
  | some v =>
    rw [hv] at h
    dsimp only at h
    refine ⟨v, rfl, ?_⟩
    split at h
    · cases h
    · split at h
      -- Pending and Active run the same code
      iterate 2
        · rename_i hst
          split at h
          · cases h
          · cases h
          · rename_i s2 pw heq
            cases h
            refine Or.inl ⟨by rw [hst]; simp, pw, s2, ?_, rfl⟩
            refine foldlM_fst_eq _ _ ?_ _ _ _ heq
            intro acc c acc' hstep
            obtain ⟨b0, pw0⟩ := acc
            dsimp only at hstep
            split at hstep
            · cases hstep
            · split at hstep
              · cases hstep; rfl
              · cases hstep
              · cases hstep
      · rename_i hst
        split at h
        · rename_i hcond
          split at h
          · cases h
          · cases h
          · rename_i s2 pw heq
            cases h
            refine Or.inr (Or.inl ⟨⟨hst, hcond⟩, pw, s2, ?_, rfl⟩)
            refine foldlM_fst_eq _ _ ?_ _ _ _ heq
            intro acc c acc' hstep
            obtain ⟨b0, pw0⟩ := acc
            dsimp only at hstep
            split at hstep
            · cases hstep
            · split at hstep
              · split at hstep
                · cases hstep
                · cases hstep
                · cases hstep
                · cases hstep; rfl
              · cases hstep; rfl
        · rename_i hcond
          cases h
          exact Or.inr (Or.inr ⟨Or.inr (Or.inr ⟨hst, hcond⟩), rfl⟩)
      · rename_i hst
        cases h
        exact Or.inr (Or.inr ⟨Or.inl hst, rfl⟩)
      · rename_i hst
        cases h
        exact Or.inr (Or.inr ⟨Or.inr (Or.inl hst), rfl⟩)

/-- `lockOne` writes ranking / index entries of `a` and the record of `a`, crediting the coins -/
theorem lockOne_writes {s s' : State} {now : Int} {a : Bytes} {coins : Coins} (h : lockOne s now a coins = .ok s') :
    ∃ v s₀ v', vget s a = some v ∧ IdxWrites a s s₀ ∧ s' = vset s₀ a v' ∧
      v'.locking = addCoins v.locking coins ∧ RecFrame v v' ∧ (v'.status = v.status ∨ v'.status = .pending) := by
  obtain ⟨v, hv, h⟩ := lockOne_ok h
  refine ⟨v, ?_⟩
  rcases h with ⟨_, pw, s₂, rfl, rfl⟩ | ⟨_, pw, s₂, rfl, rfl⟩ | ⟨_, rfl⟩
  · exact ⟨_, _, hv, ((idxWrites_rankRemove s v.power a).trans (idxWrites_idxSets a _ coins _)).trans (idxWrites_rank_ite _ pw a),
      rfl, rfl, ⟨rfl, rfl, rfl, rfl, rfl, rfl⟩, Or.inl rfl⟩
  · exact ⟨_, _, hv, (idxWrites_idxSets a _ _ s).trans (idxWrites_rank_ite _ pw a), rfl, rfl, ⟨rfl, rfl, rfl, rfl, rfl, rfl⟩,
      Or.inr rfl⟩
  · exact ⟨s, _, hv, IdxWrites.refl a s, rfl, rfl, ⟨rfl, rfl, rfl, rfl, rfl, rfl⟩, Or.inl rfl⟩

/-! ### unlock -/

/-- the released amount is never more than requested nor more than the holding -/
theorem unlockAmount_le (held requested : Int) :
    unlockAmount held requested ≤ requested ∧ unlockAmount held requested ≤ held := by
  unfold unlockAmount
  split
  · exact ⟨Int.le_of_lt ‹_›, Int.le_refl _⟩
  · exact ⟨Int.le_refl _, Int.not_lt.mp ‹_›⟩

/-- the status an exiting validator is left with -/
def exitStatus : Status → Status
  | .active | .pending | .downgrade => .inactive
  | x => x

theorem exitStatus_cases (st : Status) : exitStatus st = st ∨ exitStatus st = .inactive := by
  cases st <;> first | exact Or.inl rfl | exact Or.inr rfl

theorem exitStatus_ne (st : Status) : exitStatus st ≠ .active ∧ exitStatus st ≠ .pending ∧ exitStatus st ≠ .downgrade := by
  cases st <;> decide

/-- **`unlockCore`**: the released amount is the request clipped to the holding; the validator exits
    (all index entries removed, power 0) when the rest falls below the token's threshold or it is
    already Inactive / Tombstoned; otherwise an Active / Pending validator has the index entry of the
    token and its ranking entry rewritten for the reduced power, and a jailed one only its holding. -/
theorem unlockCore_ok {s s3 : State} {r : UnlockReq} {ex : Bool} {amt : Int} (h : unlockCore s r = .ok (s3, ex, amt)) :
    ∃ v tok, vget s r.validator = some v ∧ tget s r.token = some tok ∧
      amt = unlockAmount (amountOf v.locking r.token) r.amount ∧ 0 ≤ amt ∧
      ex = exitingOf v.status (amountOf v.locking r.token - amt) tok.threshold ∧
      ((ex = true ∧
          s3 = vset (v.locking.foldl (fun t c => idxRemove t c.1 r.validator) (rankRemove s v.power r.validator)) r.validator
            { v with power := 0, status := exitStatus v.status,
                     locking := setAmount v.locking r.token (amountOf v.locking r.token - amt) }) ∨
       (ex = false ∧ (v.status = .active ∨ v.status = .pending) ∧ ∃ pw s₂,
          (pw = v.power ∨ ∃ d, powerOf tok.weight amt = .ok (some d) ∧ pw = if v.power > d then v.power - d else 0) ∧
          s₂ = (if amountOf v.locking r.token - amt = 0 then idxRemove (rankRemove s v.power r.validator) r.token r.validator
                else idxSet (rankRemove s v.power r.validator) r.token r.validator (amountOf v.locking r.token - amt)) ∧
          s3 = vset (if pw > 0 then rankSet s₂ pw r.validator else s₂) r.validator
            { v with power := pw, locking := setAmount v.locking r.token (amountOf v.locking r.token - amt) }) ∨
       (ex = false ∧ v.status ≠ .active ∧ v.status ≠ .pending ∧
          s3 = vset (rankRemove s v.power r.validator) r.validator
            { v with locking := setAmount v.locking r.token (amountOf v.locking r.token - amt) })) := by
  unfold unlockCore at h
  cases hv : vget s r.validator with
  | none => rw [hv] at h; cases h
  | some v =>
    rw [hv] at h
    dsimp only at h
    split at h
    · cases h
    · rename_i tok ht
      split at h
      · cases h
      · rename_i hnn
        split at h
        · cases h
        · cases h
        · rename_i pw hpw
          simp only [Outcome.ok.injEq, Prod.mk.injEq] at h
          obtain ⟨h1, h2, h3⟩ := h
          subst h3 h2
          refine ⟨v, tok, rfl, ht, rfl, by omega, rfl, ?_⟩
          have hpw' : pw = v.power ∨ ((v.status == .active || v.status == .pending) = true ∧
              ∃ d, powerOf tok.weight (unlockAmount (amountOf v.locking r.token) r.amount) = .ok (some d) ∧
                pw = if v.power > d then v.power - d else 0) := by
            split at hpw
            · rename_i hc
              split at hpw
              · cases hpw
              · cases hpw
              · cases hpw
              · rename_i d hd
                cases hpw
                exact Or.inr ⟨hc.2.2.2, d, hd, rfl⟩
            · cases hpw; exact Or.inl rfl
          cases hex : exitingOf v.status (amountOf v.locking r.token - unlockAmount (amountOf v.locking r.token) r.amount) tok.threshold
          · rw [hex] at h1
            simp only [Bool.false_eq_true, if_false] at h1
            by_cases hap : (v.status == .active || v.status == .pending) = true
            · rw [if_pos hap] at h1
              refine Or.inr (Or.inl ⟨rfl, by simpa using hap, pw, _, ?_, rfl, h1.symm⟩)
              exact hpw'.imp_right (·.2)
            · rw [if_neg hap] at h1
              rcases hpw' with h4 | h4
              · rw [h4] at h1
                simp only [Bool.or_eq_true, beq_iff_eq, not_or] at hap
                exact Or.inr (Or.inr ⟨rfl, hap.1, hap.2, h1.symm⟩)
              · exact absurd h4.1 hap
          · rw [hex] at h1
            simp only [if_true] at h1
            exact Or.inl ⟨rfl, h1.symm⟩

/-- **an exiting `unlockCore` succeeds**: for a known token, a clipped amount that is not negative and an
    exiting validator, the call is the first case of `unlockCore_ok` -/
theorem unlockCore_exiting {s : State} {r : UnlockReq} {v : Validator} {tok : Token} (hv : vget s r.validator = some v)
    (ht : tget s r.token = some tok) (hnn : 0 ≤ unlockAmount (amountOf v.locking r.token) r.amount)
    (hex : exitingOf v.status (amountOf v.locking r.token - unlockAmount (amountOf v.locking r.token) r.amount) tok.threshold = true) :
    unlockCore s r = .ok
      (vset (v.locking.foldl (fun t c => idxRemove t c.1 r.validator) (rankRemove s v.power r.validator)) r.validator
        { v with power := 0, status := exitStatus v.status,
                 locking := setAmount v.locking r.token
                   (amountOf v.locking r.token - unlockAmount (amountOf v.locking r.token) r.amount) },
       true, unlockAmount (amountOf v.locking r.token) r.amount) := by
  have ht' : tget (rankRemove s v.power r.validator) r.token = some tok := ht
  unfold unlockCore
  rw [hv]
  dsimp only
  rw [ht']
  dsimp only
  rw [if_neg (Int.not_lt.mpr hnn), hex]
  simp only [Bool.not_true, Bool.false_eq_true, and_false, false_and, if_false, if_true]
  rfl

/-- `unlockCore` writes ranking / index entries and the record of the validator, debiting the
    released amount of the token -/
theorem unlockCore_writes {s s3 : State} {r : UnlockReq} {ex : Bool} {amt : Int} (h : unlockCore s r = .ok (s3, ex, amt)) :
    ∃ v s₀ v', vget s r.validator = some v ∧ IdxWrites r.validator s s₀ ∧ s3 = vset s₀ r.validator v' ∧
      v'.locking = setAmount v.locking r.token (amountOf v.locking r.token - amt) ∧ RecFrame v v' ∧
      (v'.status = v.status ∨ v'.status = .inactive) := by
  obtain ⟨v, tok, hv, _, _, _, _, h⟩ := unlockCore_ok h
  refine ⟨v, ?_⟩
  have k1 := idxWrites_rankRemove s v.power r.validator
  rcases h with ⟨_, rfl⟩ | ⟨_, _, pw, s₂, _, rfl, rfl⟩ | ⟨_, _, _, rfl⟩
  · exact ⟨_, _, hv, k1.trans (idxWrites_idxRemoves _ _ _), rfl, rfl, ⟨rfl, rfl, rfl, rfl, rfl, rfl⟩, exitStatus_cases v.status⟩
  · refine ⟨_, _, hv, (k1.trans ?_).trans (idxWrites_rank_ite _ pw _), rfl, rfl, ⟨rfl, rfl, rfl, rfl, rfl, rfl⟩, Or.inl rfl⟩
    split
    · exact idxWrites_idxRemove _ _ _
    · exact idxWrites_idxSet _ _ _ _
  · exact ⟨_, _, hv, k1, rfl, rfl, ⟨rfl, rfl, rfl, rfl, rfl, rfl⟩, Or.inl rfl⟩

/-- **`unlockOne`**: `unlockCore`, then the released amount is queued for the unlock or exit period -/
theorem unlockOne_ok {s s' : State} {now : Int} {r : UnlockReq} (h : unlockOne s now r = .ok s') :
    ∃ s3 ex amt, unlockCore s r = .ok (s3, ex, amt) ∧
      s' = enqueueUnlock s3 (unlockTime s.params now ex)
        { id := r.id, token := r.tokenAddr, recipient := r.recipient, amount := amt } := by
  unfold unlockOne at h
  split at h
  · cases h
  · cases h
  · rename_i s3 ex amt hcore
    cases h
    exact ⟨s3, ex, amt, hcore, rfl⟩

theorem unlockOne_of_core {s s3 : State} {r : UnlockReq} {ex : Bool} {amt : Int} (now : Int)
    (h : unlockCore s r = .ok (s3, ex, amt)) :
    unlockOne s now r = .ok (enqueueUnlock s3 (unlockTime s.params now ex)
      { id := r.id, token := r.tokenAddr, recipient := r.recipient, amount := amt }) := by
  unfold unlockOne
  rw [h]

/-! ### votes and evidence -/

/-- the record with one more block of its signing window counted (missed when `absent`); both
    counters start again when the window is full -/
def voteCounted (p : Params) (absent : Bool) (v : Validator) : Validator :=
  let missed := if absent then v.missed + 1 else v.missed
  let mo : Nat × Nat := if ((v.offset + 1 : Nat) : Int) ≥ p.signedBlocksWindow then (0, 0) else (missed, v.offset + 1)
  { v with missed := mo.1, offset := mo.2 }

@[simp] theorem voteCounted_status (p : Params) (absent : Bool) (v : Validator) : (voteCounted p absent v).status = v.status := rfl

theorem voteCounted_missed_le (p : Params) (absent : Bool) (v : Validator) :
    (voteCounted p absent v).missed ≤ if absent then v.missed + 1 else v.missed := by
  unfold voteCounted
  dsimp only
  split
  · exact Nat.zero_le _
  · exact Nat.le_refl _

/-- **`handleVote`**: only an Active validator is counted; when its missed blocks (before the window
    reset) reach the maximum it is slashed by the downtime fraction, jailed and demoted -/
theorem handleVote_ok {s s' : State} {now : Int} {vi : VoteInfo} (h : handleVote s now vi = .ok s') :
    ∃ v, vget s vi.address = some v ∧
      ((v.status ≠ .active ∧ s' = s) ∨
       (v.status = .active ∧ ¬ ((if vi.absent then v.missed + 1 else v.missed : Nat) : Int) ≥ s.params.maxMissed ∧
          s' = vset s vi.address (voteCounted s.params vi.absent v)) ∨
       (v.status = .active ∧ ((if vi.absent then v.missed + 1 else v.missed : Nat) : Int) ≥ s.params.maxMissed ∧
          s' = vset (slashAll (rankRemove s v.power vi.address) vi.address (voteCounted s.params vi.absent v)
                      s.params.slashDowntime).1 vi.address
            { voteCounted s.params vi.absent v with
              locking := (slashAll (rankRemove s v.power vi.address) vi.address (voteCounted s.params vi.absent v)
                            s.params.slashDowntime).2,
              status := .downgrade, power := 0, jailedUntil := now + s.params.downtimeJail })) := by
  unfold handleVote at h
  cases hv : vget s vi.address with
  | none => rw [hv] at h; cases h
  | some v =>
    rw [hv] at h
    dsimp only at h
    refine ⟨v, rfl, ?_⟩
    split at h
    · rename_i hst
      cases h
      exact Or.inl ⟨hst, rfl⟩
    · rename_i hst
      have hst' : v.status = .active := Classical.not_not.mp hst
      by_cases hd : ((if vi.absent then v.missed + 1 else v.missed : Nat) : Int) ≥ s.params.maxMissed
      · rw [if_pos hd] at h
        cases h
        exact Or.inr (Or.inr ⟨hst', hd, rfl⟩)
      · rw [if_neg hd] at h
        cases h
        exact Or.inr (Or.inl ⟨hst', hd, rfl⟩)

/-- **`handleEvidence`**: evidence of another kind, stale evidence and evidence against a tombstoned
    validator change nothing; otherwise the validator is slashed by the double-sign fraction and
    tombstoned -/
theorem handleEvidence_ok {s s' : State} {now height : Int} {maxAge : Option (Int × Int)} {e : Evidence}
    (h : handleEvidence s now height maxAge e = .ok s') :
    (((e.kind ≠ 1 ∧ e.kind ≠ 2) ∨ isStale now height maxAge e = true ∨
        ∃ v, vget s e.address = some v ∧ v.status = .tombstoned) ∧ s' = s) ∨
    ∃ v, vget s e.address = some v ∧ v.status ≠ .tombstoned ∧ (e.kind = 1 ∨ e.kind = 2) ∧
      isStale now height maxAge e = false ∧
      s' = vset (slashAll (rankRemove s v.power e.address) e.address v s.params.slashDoubleSign).1 e.address
        { v with locking := (slashAll (rankRemove s v.power e.address) e.address v s.params.slashDoubleSign).2,
                 status := .tombstoned, power := 0 } := by
  unfold handleEvidence at h
  split at h
  · rename_i hk
    cases h; exact Or.inl ⟨Or.inl hk, rfl⟩
  · rename_i hk
    split at h
    · rename_i hstale
      cases h; exact Or.inl ⟨Or.inr (Or.inl hstale), rfl⟩
    · rename_i hfresh
      cases hv : vget s e.address with
      | none => rw [hv] at h; cases h
      | some v =>
        rw [hv] at h
        dsimp only at h
        split at h
        · rename_i hst
          cases h; exact Or.inl ⟨Or.inr (Or.inr ⟨v, rfl, by simpa using hst⟩), rfl⟩
        · rename_i hst
          cases h
          refine Or.inr ⟨v, rfl, by simpa using hst, by omega, by simpa using hfresh, rfl⟩

/-! ### token weights and thresholds -/

theorem powerOf_zero {w : Nat} {d : Nat} (h : powerOf w 0 = .ok (some d)) : d = 0 := by
  unfold powerOf at h
  simp only [Int.mul_zero, Int.zero_ediv] at h
  split at h
  · cases h
  · split at h
    · cases h
    · cases h; rfl

/-- the body of the `onWeightChanged` loop: one index entry of the token -/
def weightStep (prev cur : Nat) (s : State) (e : (String × Bytes) × Int) : Outcome State :=
  match vget s e.1.2 with
  | none => Outcome.err "not-found"
  | some v =>
    let s1 := rankRemove s v.power e.1.2
    if cur > prev then
      match powerOf (cur - prev) e.2 with
      | .panic p => .panic p
      | .err x => .err x
      | .ok none => .err "power-too-large"
      | .ok (some d) =>
        let v' := { v with power := (v.power + d) % two64 }
        let s2 := vset s1 e.1.2 v'
        .ok (if v'.power > 0 then rankSet s2 v'.power e.1.2 else s2)
    else
      match powerOf (prev - cur) e.2 with
      | .panic p => .panic p
      | .err x => .err x
      | .ok none => .panic "uint64"
      | .ok (some d) =>
        let v' := { v with power := if v.power > d then v.power - d else 0 }
        let s2 := vset s1 e.1.2 v'
        .ok (if v'.power > 0 then rankSet s2 v'.power e.1.2 else s2)

/-- the index entries of a token, in key order -/
def weightEntries (s : State) (token : String) : List ((String × Bytes) × Int) :=
  (s.lockingIdx.filter (·.1.1 == token)).mergeSort (fun a b => !bytesLt b.1.2 a.1.2)

theorem onWeightChanged_eq (s : State) (token : String) (prev cur : Nat) :
    onWeightChanged s token prev cur =
      if prev = cur then .ok s else (weightEntries s token).foldlM (weightStep prev cur) s := rfl

theorem mem_weightEntries {s : State} {token : String} {e : (String × Bytes) × Int} (h : e ∈ weightEntries s token) :
    e ∈ s.lockingIdx ∧ e.1.1 = token := by
  have := List.mem_filter.mp ((List.mergeSort_perm _ _).mem_iff.mp h)
  exact ⟨this.1, by simpa using this.2⟩

/-- **one step of `onWeightChanged`**: the power of the holder moves by the power of the entry's
    amount at the weight difference; its ranking entry is rewritten -/
theorem weightStep_ok {prev cur : Nat} {s s' : State} {e : (String × Bytes) × Int} (h : weightStep prev cur s e = .ok s') :
    ∃ v d p', vget s e.1.2 = some v ∧
      ((cur > prev ∧ powerOf (cur - prev) e.2 = .ok (some d) ∧ p' = (v.power + d) % two64) ∨
       (¬ cur > prev ∧ powerOf (prev - cur) e.2 = .ok (some d) ∧ p' = if v.power > d then v.power - d else 0)) ∧
      s' = (if p' > 0 then rankSet (vset (rankRemove s v.power e.1.2) e.1.2 { v with power := p' }) p' e.1.2
            else vset (rankRemove s v.power e.1.2) e.1.2 { v with power := p' }) := by
  unfold weightStep at h
  cases hv : vget s e.1.2 with
  | none => rw [hv] at h; cases h
  | some v =>
    rw [hv] at h
    dsimp only at h
    split at h
    · rename_i hc
      split at h
      · cases h
      · cases h
      · cases h
      · rename_i d hd
        cases h
        exact ⟨v, d, _, rfl, Or.inl ⟨hc, hd, rfl⟩, rfl⟩
    · rename_i hc
      split at h
      · cases h
      · cases h
      · cases h
      · rename_i d hd
        cases h
        exact ⟨v, d, _, rfl, Or.inr ⟨hc, hd, rfl⟩, rfl⟩

/-- a step of `onWeightChanged` writes the ranking entries and the power of one holder -/
theorem weightStep_writes {prev cur : Nat} {s s' : State} {e : (String × Bytes) × Int} (h : weightStep prev cur s e = .ok s') :
    ∃ v s₀ p', vget s e.1.2 = some v ∧ IdxWrites e.1.2 s s₀ ∧ s' = vset s₀ e.1.2 { v with power := p' } ∧
      s₀ = if p' > 0 then rankSet (rankRemove s v.power e.1.2) p' e.1.2 else rankRemove s v.power e.1.2 := by
  obtain ⟨v, d, p', hv, _, rfl⟩ := weightStep_ok h
  refine ⟨v, _, p', hv, (idxWrites_rankRemove s v.power e.1.2).trans (idxWrites_rank_ite _ p' _), ?_, rfl⟩
  split
  · exact rankSet_vset _ _ _ _ _
  · rfl

/-- the steps of `onWeightChanged` leave the index alone, so every entry visited is an entry of the
    state it is visited in: what the steps at such entries keep, `onWeightChanged` keeps -/
theorem onWeightChanged_inv (P : State → Prop) {prev cur : Nat}
    (hP : ∀ t e t', e ∈ t.lockingIdx → P t → weightStep prev cur t e = .ok t' → P t')
    {s s' : State} {token : String} (h : onWeightChanged s token prev cur = .ok s') (hs : P s) : P s' := by
  rw [onWeightChanged_eq] at h
  split at h
  · cases h; exact hs
  · refine (foldlM_inv_mem (fun b => P b ∧ b.lockingIdx = s.lockingIdx) _ _ ?_ s s' ⟨hs, rfl⟩ h).1
    intro b e b' he hb hstep
    refine ⟨hP b e b' (hb.2 ▸ (mem_weightEntries he).1) hb.1 hstep, ?_⟩
    obtain ⟨_, _, _, _, _, rfl, rfl⟩ := weightStep_writes hstep
    exact (rank_ite_lockingIdx _ _ _).trans hb.2

/-- the body of the weight loop of `updateTokens` -/
def weightSet (s : State) (u : String × Nat) : Outcome State :=
  let tok := (tget s u.1).getD { weight := u.2, threshold := 0 }
  match onWeightChanged s u.1 tok.weight u.2 with
  | .ok s' => Outcome.ok (tset s' u.1 { tok with weight := u.2 })
  | .err e => .err e
  | .panic e => .panic e

/-- the body of the threshold loop of `updateTokens` -/
def thresholdSet (s : State) (u : String × Int) : Outcome State :=
  match tget s u.1 with
  | none => Outcome.err "not-found"
  | some tok =>
    let sub := u.2 - tok.threshold
    if sub = 0 then .ok s
    else
      let cur := amountOf s.threshold u.1
      if cur + sub < 0 then .panic "negative-coin"
      else .ok (tset { s with threshold := setAmount s.threshold u.1 (cur + sub) } u.1 { tok with threshold := u.2 })

theorem weightSet_ok {s s' : State} {u : String × Nat} (h : weightSet s u = .ok s') :
    ∃ (tok : Token) (s₁ : State), onWeightChanged s u.1 tok.weight u.2 = .ok s₁ ∧ s' = tset s₁ u.1 { tok with weight := u.2 } := by
  unfold weightSet at h
  dsimp only at h
  split at h
  · rename_i s₁ h1
    cases h
    exact ⟨_, s₁, h1, rfl⟩
  · cases h
  · cases h

theorem thresholdSet_ok {s s' : State} {u : String × Int} (h : thresholdSet s u = .ok s') :
    s' = s ∨ ∃ tok th, s' = tset { s with threshold := th } u.1 tok := by
  unfold thresholdSet at h
  split at h
  · cases h
  · dsimp only at h
    split at h
    · cases h; exact Or.inl rfl
    · split at h
      · cases h
      · cases h; exact Or.inr ⟨_, _, rfl⟩

theorem updateTokens_ok {s s' : State} {weights : List (String × Nat)} {thresholds : List (String × Int)}
    (h : updateTokens s weights thresholds = .ok s') :
    ∃ s₁, weights.foldlM weightSet s = .ok s₁ ∧ thresholds.foldlM thresholdSet s₁ = .ok s' := by
  obtain ⟨s₁, h1, h2⟩ := (bind_eq_ok _ _ _).mp h
  refine ⟨s₁, h1, ?_⟩
  split at h2
  · rename_i he
    rw [List.isEmpty_iff.mp he]
    exact h2
  · exact h2

/-! ### create, claim -/

/-- the body of the `create` loop -/
def createStep (hash160 : Bytes → Bytes) (hasAccount : Bytes → Bool) (acc : State × List Bytes) (r : CreateReq) :
    Outcome (State × List Bytes) :=
  let address := hash160 r.compressed
  if address ≠ r.validator then Outcome.err "address-mismatch"
  else if (vget acc.1 address).isSome then .ok (acc.1, acc.2)
  else
    let has := hasAccount address || acc.2.contains address
    let v : Validator := { pubkey := r.compressed, power := 0, locking := [], reward := 0, gasReward := 0,
                           status := if has then .inactive else .pending, offset := 0, missed := 0, jailedUntil := 0 }
    .ok (vset acc.1 address v, if has then acc.2 else acc.2 ++ [address])

theorem create_eq (hash160 : Bytes → Bytes) (hasAccount : Bytes → Bool) (s : State) (reqs : List CreateReq) :
    create hash160 hasAccount s reqs = reqs.foldlM (createStep hash160 hasAccount) (s, []) := rfl

/-- **one `create` request**: a request for an existing validator is ignored; a new validator starts
    with an empty record, Inactive when the address already has an account -/
theorem createStep_ok {hash160 : Bytes → Bytes} {hasAccount : Bytes → Bool} {acc acc' : State × List Bytes} {r : CreateReq}
    (h : createStep hash160 hasAccount acc r = .ok acc') :
    hash160 r.compressed = r.validator ∧
      (acc' = acc ∨ (vget acc.1 r.validator = none ∧ ∃ st accs,
        acc' = (vset acc.1 r.validator { pubkey := r.compressed, power := 0, locking := [], reward := 0, gasReward := 0,
                                         status := st, offset := 0, missed := 0, jailedUntil := 0 }, accs))) := by
  unfold createStep at h
  dsimp only at h
  split at h
  · cases h
  · rename_i ha
    have ha' : hash160 r.compressed = r.validator := Classical.not_not.mp ha
    rw [ha'] at h
    refine ⟨ha', ?_⟩
    split at h
    · cases h; exact Or.inl rfl
    · rename_i hn
      cases h
      refine Or.inr ⟨?_, _, _, rfl⟩
      cases hx : vget acc.1 r.validator with
      | none => rfl
      | some w => rw [hx] at hn; exact absurd rfl hn

/-- the body of the `claim` loop -/
def claimStep (s : State) (r : ClaimReq) : Outcome State :=
  match vget s r.validator with
  | none => Outcome.err "not-found"
  | some v =>
    let s1 := { s with qRewards := s.qRewards ++ [{ id := r.id, recipient := r.recipient, goat := v.reward, gas := v.gasReward }] }
    .ok (vset s1 r.validator { v with reward := 0, gasReward := 0 })

theorem claim_eq (s : State) (reqs : List ClaimReq) : claim s reqs = reqs.foldlM claimStep s := rfl

theorem claimStep_ok {s s' : State} {r : ClaimReq} (h : claimStep s r = .ok s') :
    ∃ v, vget s r.validator = some v ∧
      s' = vset { s with qRewards := s.qRewards ++ [{ id := r.id, recipient := r.recipient, goat := v.reward, gas := v.gasReward }] }
             r.validator { v with reward := 0, gasReward := 0 } := by
  unfold claimStep at h
  cases hv : vget s r.validator with
  | none => rw [hv] at h; cases h
  | some v => rw [hv] at h; cases h; exact ⟨v, rfl, rfl⟩

/-! ### reward pool and distribution -/

/-- **`updateRewardPool`**: exactly one gas-revenue request; income, then emission of the scheduled reward;
    the goat pool must still fit 256 bits -/
theorem updateRewardPool_ok_iff {s s' : State} {height : Int} {gas grants : List Int} :
    updateRewardPool s height gas grants = .ok s' ↔
      ∃ g p1, gas = [g] ∧ addIncome s.pool gas grants = some p1 ∧
        fits256 (emit p1 (scheduledReward s.params height)).goat = true ∧
        s' = { s with pool := emit p1 (scheduledReward s.params height) } := by
  unfold updateRewardPool
  constructor
  · intro h
    split at h
    · cases h
    · rename_i hlen
      obtain ⟨g, hg⟩ := List.length_eq_one_iff.mp (Classical.not_not.mp hlen)
      split at h
      · cases h
      · rename_i p1 hp1
        dsimp only at h
        split at h
        · cases h
        · rename_i hfit
          cases h
          exact ⟨g, p1, hg, hp1, by simpa using hfit, rfl⟩
  · rintro ⟨g, p1, rfl, hp1, hfit, rfl⟩
    rw [if_neg (fun h => h rfl), hp1]
    dsimp only
    rw [hfit]
    rfl

/-- `updateRewardPool` writes the pool only -/
theorem updateRewardPool_ok {s s' : State} {height : Int} {gas grants : List Int}
    (h : updateRewardPool s height gas grants = .ok s') : ∃ p, s' = { s with pool := p } := by
  obtain ⟨_, _, _, _, _, rfl⟩ := updateRewardPool_ok_iff.mp h
  exact ⟨_, rfl⟩

theorem distributeReward_go_nil (total : Int) (s : State) (rg rr : Int) :
    distributeReward.go total [] s rg rr = .ok (s, rg, rr) := by
  unfold distributeReward.go
  rfl

/-- **one round of the distribution loop**: the record of the voter is credited with its shares `g`, `r` of
    the gas and goat pools, which leave the running remainders -/
theorem distributeReward_go_cons {total : Int} {x : VoteInfo} {rest : List VoteInfo} {s : State} {rg rr : Int}
    {res : State × Int × Int} (h : distributeReward.go total (x :: rest) s rg rr = .ok res) :
    ∃ val g r, vget s x.address = some val ∧
      g = (if s.pool.gas ≠ 0 then (mulTruncInt s.pool.gas.toNat (decQuoTruncate x.power.toNat total.toNat) : Int) else 0) ∧
      r = (if s.pool.goat ≠ 0 then (mulTruncInt s.pool.goat.toNat (decQuoTruncate x.power.toNat total.toNat) : Int) else 0) ∧
      distributeReward.go total rest (vset s x.address { val with gasReward := val.gasReward + g, reward := val.reward + r })
        (rg - g) (rr - r) = .ok res := by
  unfold distributeReward.go at h
  cases hv : vget s x.address with
  | none => rw [hv] at h; cases h
  | some val => rw [hv] at h; exact ⟨val, _, _, rfl, rfl, rfl, h⟩

/-- an invariant of crediting rewards to a record is an invariant of the distribution loop -/
theorem distributeReward_go_inv (P : State → Prop)
    (hP : ∀ t a val g r, P t → vget t a = some val → P (vset t a { val with gasReward := val.gasReward + g, reward := val.reward + r }))
    (total : Int) : ∀ (votes : List VoteInfo) (s : State) (rg rr : Int) (res : State × Int × Int),
      P s → distributeReward.go total votes s rg rr = .ok res → P res.1 := by
  intro votes
  induction votes with
  | nil =>
    intro s rg rr res hs h
    rw [distributeReward_go_nil] at h
    cases h; exact hs
  | cons x rest ih =>
    intro s rg rr res hs h
    obtain ⟨val, g, r, hv, _, _, h'⟩ := distributeReward_go_cons h
    exact ih _ _ _ res (hP s x.address val g r hs hv) h'

/-- **`distributeReward`**: nothing below height 2 or without votes; otherwise the total power is not 0,
    the loop runs from the two pools, and they keep what it leaves -/
theorem distributeReward_cases {s s' : State} {height : Int} {votes : List VoteInfo}
    (h : distributeReward s height votes = .ok s') :
    ((height < 2 ∨ votes.isEmpty = true) ∧ s' = s) ∨
    (¬ height < 2 ∧ votes.isEmpty = false ∧ votes.foldl (fun acc v => acc + v.power) 0 ≠ 0 ∧ ∃ s₂ rg rr,
      distributeReward.go (votes.foldl (fun acc v => acc + v.power) 0) votes s s.pool.gas s.pool.goat = .ok (s₂, rg, rr) ∧
      s' = { s₂ with pool := { s₂.pool with gas := rg, goat := rr } }) := by
  unfold distributeReward at h
  split at h
  · rename_i hlt
    cases h; exact Or.inl ⟨Or.inl hlt, rfl⟩
  · rename_i hlt
    split at h
    · rename_i hemp
      cases h; exact Or.inl ⟨Or.inr hemp, rfl⟩
    · rename_i hemp
      dsimp only at h
      split at h
      · cases h
      · rename_i htot
        split at h
        · cases h
        · cases h
        · rename_i s₂ rg rr heq
          cases h
          exact Or.inr ⟨hlt, by simpa using hemp, htot, s₂, rg, rr, heq, rfl⟩

/-- `distributeReward` is the identity or the loop followed by a write to the pool -/
theorem distributeReward_ok {s s' : State} {height : Int} {votes : List VoteInfo} (h : distributeReward s height votes = .ok s') :
    s' = s ∨ ∃ total s₂ rg rr, distributeReward.go total votes s s.pool.gas s.pool.goat = .ok (s₂, rg, rr) ∧
      s' = { s₂ with pool := { s₂.pool with gas := rg, goat := rr } } :=
  (distributeReward_cases h).imp (·.2) (fun ⟨_, _, _, k⟩ => ⟨_, k⟩)

/-! ### queues -/

theorem mem_dueUnlocks {s : State} {now : Int} {e : Int × List Unlock} :
    e ∈ dueUnlocks s now ↔ e ∈ s.unlockQueue ∧ e.1 ≤ now := by
  unfold dueUnlocks
  rw [(List.mergeSort_perm _ _).mem_iff, List.mem_filter, decide_eq_true_iff]

theorem dueUnlocks_nil {s : State} {now : Int} (h : (dueUnlocks s now).isEmpty = true) :
    s.unlockQueue.filter (fun e => !decide (e.1 ≤ now)) = s.unlockQueue ∧ dueUnlocks s now = [] := by
  have h0 := List.isEmpty_iff.mp h
  refine ⟨List.filter_eq_self.mpr fun e he => ?_, h0⟩
  have : ¬ (e ∈ s.unlockQueue ∧ e.1 ≤ now) := fun k => by
    have := mem_dueUnlocks.mpr k
    rw [h0] at this
    cases this
  simpa using fun k => this ⟨he, k⟩

/-- **`dequeueMature`** without its case distinction (with nothing due both expressions are the old queues):
    the entries with key ≤ `now` leave the time queue and are appended, in key order, to the matured queue -/
theorem dequeueMature_eq (s : State) (now : Int) :
    dequeueMature s now =
      { s with unlockQueue := s.unlockQueue.filter (fun e => !decide (e.1 ≤ now)),
               qUnlocks := s.qUnlocks ++ ((dueUnlocks s now).map (·.2)).flatten } := by
  unfold dequeueMature
  split
  · rename_i h
    rw [(dueUnlocks_nil h).1, (dueUnlocks_nil h).2]
    exact congrArg (fun q => { s with qUnlocks := q }) (List.append_nil _).symm
  · rfl

theorem dequeueMature_unlockQueue (s : State) (now : Int) :
    (dequeueMature s now).unlockQueue = s.unlockQueue.filter (fun e => !decide (e.1 ≤ now)) :=
  congrArg State.unlockQueue (dequeueMature_eq s now)

theorem dequeueMature_qUnlocks (s : State) (now : Int) :
    (dequeueMature s now).qUnlocks = s.qUnlocks ++ ((dueUnlocks s now).map (·.2)).flatten :=
  congrArg State.qUnlocks (dequeueMature_eq s now)

theorem mem_dequeueMature_unlockQueue {s : State} {now : Int} {e : Int × List Unlock} :
    e ∈ (dequeueMature s now).unlockQueue ↔ e ∈ s.unlockQueue ∧ now < e.1 := by
  rw [dequeueMature_unlockQueue, List.mem_filter, Bool.not_eq_true', decide_eq_false_iff_not, Int.not_le]

/-- a matured unlock was already matured, or sat in the time queue under a key that is due -/
theorem mem_dequeueMature_qUnlocks {s : State} {now : Int} {u : Unlock} :
    u ∈ (dequeueMature s now).qUnlocks ↔ u ∈ s.qUnlocks ∨ ∃ e ∈ s.unlockQueue, e.1 ≤ now ∧ u ∈ e.2 := by
  rw [dequeueMature_qUnlocks, List.mem_append, List.mem_flatten]
  refine or_congr Iff.rfl ⟨?_, ?_⟩
  · rintro ⟨us, hus, hu⟩
    obtain ⟨e, he, rfl⟩ := List.mem_map.mp hus
    exact ⟨e, (mem_dueUnlocks.mp he).1, (mem_dueUnlocks.mp he).2, hu⟩
  · rintro ⟨e, he, hle, hu⟩
    exact ⟨e.2, List.mem_map.mpr ⟨e, mem_dueUnlocks.mpr ⟨he, hle⟩, rfl⟩, hu⟩

/-- **`dequeue`**: the first ≤ 16 rewards and the first ≤ 16 unlocks leave their queues, the returned nonce
    is the stored one, and the stored nonce advances by the number handed over (modulo 2^64) -/
theorem dequeue_eq (s : State) :
    dequeue s =
      ({ s with qRewards := s.qRewards.drop 16, qUnlocks := s.qUnlocks.drop 16,
                nonce := if s.qRewards = [] ∧ s.qUnlocks = [] then s.nonce
                         else (s.nonce + (s.qRewards.take 16).length + (s.qUnlocks.take 16).length) % two64 },
       s.qRewards.take 16, s.qUnlocks.take 16, s.nonce) := by
  unfold dequeue
  simp only [List.isEmpty_iff]
  split
  · rename_i h
    have e1 : ∀ k, s.qRewards.drop k = s.qRewards ∧ s.qRewards.take k = [] := fun k => by
      rw [h.1]; exact ⟨List.drop_nil, List.take_nil⟩
    have e2 : ∀ k, s.qUnlocks.drop k = s.qUnlocks ∧ s.qUnlocks.take k = [] := fun k => by
      rw [h.2]; exact ⟨List.drop_nil, List.take_nil⟩
    rw [(e1 16).1, (e1 16).2, (e2 16).1, (e2 16).2]
  · rw [drop_min_length, drop_min_length, take_min_length, take_min_length, List.length_take, List.length_take,
      Nat.min_comm 16, Nat.min_comm 16]

/-! ### lock, and the two entry points -/

/-- **`lock`** runs `lockOne` over the aggregated requests, none of which is negative -/
theorem lock_agg {s s' : State} {now : Int} {reqs : List LockReq} (h : lock s now reqs = .ok s') :
    (∀ r ∈ reqs, 0 ≤ r.amount) ∧ ∃ agg, aggregateLocks reqs = .ok agg ∧
      agg.foldlM (fun s e => lockOne s now e.1 e.2) s = .ok s' := by
  unfold lock at h
  split at h
  · rename_i he
    rw [List.isEmpty_iff.mp he]
    exact ⟨fun _ hr => (nomatch hr), [], rfl, h⟩
  · split at h
    · cases h
    · rename_i hneg
      split at h
      · cases h
      · cases h
      · rename_i agg hagg
        refine ⟨fun r hr => ?_, agg, hagg, h⟩
        have := mt (fun hlt : r.amount < 0 => List.any_eq_true.mpr ⟨r, hr, decide_eq_true hlt⟩) hneg
        omega

theorem processRequests_ok {hash160 : Bytes → Bytes} {hasAccount : Bytes → Bool} {s s' : State} {height now : Int}
    {R : Reqs} {accs : List Bytes} (h : processRequests hash160 hasAccount s height now R = .ok (s', accs)) :
    ∃ s1 s2 s3 s4 s5, updateRewardPool s height R.gas R.grants = .ok s1 ∧ updateTokens s1 R.weights R.thresholds = .ok s2 ∧
      create hash160 hasAccount s2 R.creates = .ok (s3, accs) ∧ lock s3 now R.locks = .ok s4 ∧
      unlock s4 now R.unlocks = .ok s5 ∧ claim s5 R.claims = .ok s' := by
  unfold processRequests at h
  obtain ⟨s1, h1, h⟩ := (bind_eq_ok _ _ _).mp h
  obtain ⟨s2, h2, h⟩ := (bind_eq_ok _ _ _).mp h
  obtain ⟨⟨s3, accs3⟩, h3, h⟩ := (bind_eq_ok _ _ _).mp h
  dsimp only at h
  obtain ⟨s4, h4, h⟩ := (bind_eq_ok _ _ _).mp h
  obtain ⟨s5, h5, h⟩ := (bind_eq_ok _ _ _).mp h
  obtain ⟨s6, h6, h⟩ := (bind_eq_ok _ _ _).mp h
  have h : (Outcome.ok (s6, accs3) : Outcome (State × List Bytes)) = .ok (s', accs) := h
  simp only [Outcome.ok.injEq, Prod.mk.injEq] at h
  obtain ⟨rfl, rfl⟩ := h
  exact ⟨s1, s2, s3, s4, s5, h1, h2, h3, h4, h5, h6⟩

theorem beginBlock_ok {s s' : State} {height now : Int} {votes : List VoteInfo} {maxAge : Option (Int × Int)}
    {evs : List Evidence} (h : beginBlock s height now votes maxAge evs = .ok s') :
    ∃ s1 s2, distributeReward s height votes = .ok s1 ∧ handleVotes (dequeueMature s1 now) now votes = .ok s2 ∧
      evs.foldlM (fun s e => handleEvidence s now height maxAge e) s2 = .ok s' := by
  unfold beginBlock at h
  obtain ⟨s1, h1, h⟩ := (bind_eq_ok _ _ _).mp h
  obtain ⟨s2, h2, h⟩ := (bind_eq_ok _ _ _).mp h
  exact ⟨s1, s2, h1, h2, h⟩

end Goat.Locking
