/-
  The vote check of x/relayer (`VerifyProposal`): the signer bitmap counted and read position by
  position, the keys collected for the marked voters, and what a successful `verifyProposal` says about
  its arguments (`verifyProposal_ok`).  Elections, membership and the other handlers are in
  Lemmas/RelayerGroup.
-/
import GoatModel.Relayer
import GoatProofs.Lemmas.Outcome
namespace Goat

theorem mapM_option_length {α β} (f : α → Option β) (l : List α) (r : List β) (h : l.mapM f = some r) :
    r.length = l.length := by
  induction l generalizing r with
  | nil => simp at h; subst h; rfl
  | cons a as ih =>
    rw [List.mapM_cons] at h
    cases hf : f a with
    | none => simp [hf] at h
    | some b =>
      cases hm : as.mapM f with
      | none => simp [hf, hm] at h
      | some bs =>
        simp [hf, hm] at h
        subst h
        simp [ih bs hm]

namespace Relayer

theorem bit_ite (n : Nat) : (if (n % 2 == 1) = true then 1 else 0) = n % 2 := by
  rcases Nat.mod_two_eq_zero_or_one n with h | h
  · rw [h]; rfl
  · rw [h]; rfl

/-- the low eight bits, counted -/
theorem popByte_eq (x : Nat) : popByte x = ((List.range 8).filter (fun i => (x / 2 ^ i) % 2 == 1)).length := by
  have hr : List.range 8 = [0, 1, 2, 3, 4, 5, 6, 7] := rfl
  rw [← List.countP_eq_length_filter, hr]
  simp only [List.countP_cons, List.countP_nil, bit_ite]
  unfold popByte
  simp only [Nat.reducePow, Nat.div_one, Nat.zero_add]
  ac_rfl

theorem bitmapContains_cons (x : UInt8) (xs : Bytes) (i : Nat) :
    bitmapContains (x :: xs) i = if i < 8 then ((x.toNat / 2 ^ i) % 2 == 1) else bitmapContains xs (i - 8) := by
  unfold bitmapContains
  by_cases h : i < 8
  · rw [if_pos h, Nat.div_eq_of_lt h, Nat.mod_eq_of_lt h]
    rfl
  · have h8 : 8 ≤ i := Nat.le_of_not_lt h
    rw [if_neg h, Nat.div_eq_sub_div (by decide) h8, Nat.mod_eq_sub_mod h8, List.getElem?_cons_succ]

/-- `Count()` is the number of positions below `8·len` that are contained -/
theorem bitmapCount_eq (b : Bytes) :
    bitmapCount b = ((List.range (8 * b.length)).filter (bitmapContains b)).length := by
  induction b with
  | nil => simp [bitmapCount]
  | cons x xs ih =>
    have hsplit : List.range (8 * (x :: xs).length) = List.range 8 ++ (List.range (8 * xs.length)).map (· + 8) := by
      have : 8 * (x :: xs).length = 8 + 8 * xs.length := by simp [Nat.mul_succ, Nat.add_comm]
      rw [this, List.range_add]
      congr 1
      apply List.map_congr_left
      intro a _; omega
    rw [hsplit, List.filter_append, List.length_append]
    unfold bitmapCount at ih ⊢
    simp only [List.map_cons, List.sum_cons]
    rw [ih, popByte_eq x.toNat]
    have e1 : (List.range 8).filter (fun i => (x.toNat / 2 ^ i) % 2 == 1) = (List.range 8).filter (bitmapContains (x :: xs)) := by
      apply List.filter_congr
      intro i hi
      have : i < 8 := List.mem_range.mp hi
      rw [bitmapContains_cons]; simp [this]
    have e2 : ((List.range (8 * xs.length)).filter (bitmapContains xs)).length
        = (((List.range (8 * xs.length)).map (· + 8)).filter (bitmapContains (x :: xs))).length := by
      rw [List.filter_map, List.length_map]
      apply congrArg
      apply List.filter_congr
      intro i _
      simp only [Function.comp]
      rw [bitmapContains_cons]
      have : ¬ (i + 8 < 8) := by omega
      simp [this]
    rw [e1, e2]

theorem bitmapContains_lt (b : Bytes) (i : Nat) (h : bitmapContains b i = true) : i < 8 * b.length := by
  unfold bitmapContains at h
  cases hb : b[i / 8]? with
  | none => simp [hb] at h
  | some x =>
    have := (List.getElem?_eq_some_iff.mp hb).1
    omega

/-- if the marks below `n` are all the marks, every mark is below `n` -/
theorem marks_below (b : Bytes) (n : Nat) (h : bitmapMarksBelow b n = bitmapCount b) :
    ∀ i, bitmapContains b i = true → i < n := by
  intro i hi
  rw [bitmapCount_eq] at h
  unfold bitmapMarksBelow at h
  have hlt := bitmapContains_lt b i hi
  apply Classical.byContradiction
  intro hn
  -- otherwise `i` is a mark counted among the positions from `n` on
  have hsub : List.range (8 * b.length) = List.range n ++ (List.range (8 * b.length - n)).map (n + ·) := by
    rw [← List.range_add, Nat.add_sub_cancel' (by omega)]
  rw [hsub, List.filter_append, List.length_append] at h
  have hmem : i ∈ ((List.range (8 * b.length - n)).map (n + ·)).filter (bitmapContains b) :=
    List.mem_filter.mpr ⟨List.mem_map.mpr ⟨i - n, List.mem_range.mpr (by omega), by omega⟩, hi⟩
  have := List.length_pos_of_mem hmem
  omega

/-- the marked voters, in list order -/
def markedFrom (bitmap : Bytes) : List String → Nat → List String
  | [], _ => []
  | v :: rest, i => if bitmapContains bitmap i then v :: markedFrom bitmap rest (i + 1) else markedFrom bitmap rest (i + 1)

def markedVoters (s : State) (bitmap : Bytes) : List String := markedFrom bitmap s.voters 0

theorem collectKeys_go_spec (s : State) (bitmap : Bytes) (vs : List String) (i : Nat) (acc : List Bytes) (ks : List Bytes)
    (h : collectKeys.go s bitmap vs i acc = some ks) :
    ∃ ks', ks = acc.reverse ++ ks' ∧
      (markedFrom bitmap vs i).mapM (fun v => (lookup s.recs v).map (·.voteKey)) = some ks' := by
  induction vs generalizing i acc ks with
  | nil =>
    simp [collectKeys.go] at h
    exact ⟨[], by simp [h], by simp [markedFrom]⟩
  | cons v rest ih =>
    unfold collectKeys.go at h
    by_cases hb : bitmapContains bitmap i = true
    · simp only [hb, if_true] at h
      cases hl : lookup s.recs v with
      | none => simp [hl] at h
      | some r =>
        simp only [hl] at h
        obtain ⟨ks', h1, h2⟩ := ih (i + 1) (r.voteKey :: acc) ks h
        refine ⟨r.voteKey :: ks', by simp [h1], ?_⟩
        simp [markedFrom, hb, hl, h2]
    · simp only [hb] at h
      obtain ⟨ks', h1, h2⟩ := ih (i + 1) acc ks h
      refine ⟨ks', h1, ?_⟩
      simp [markedFrom, hb, h2]

theorem markedFrom_length (bitmap : Bytes) (vs : List String) (i : Nat) :
    (markedFrom bitmap vs i).length = ((List.range vs.length).filter (fun j => bitmapContains bitmap (i + j))).length := by
  induction vs generalizing i with
  | nil => simp [markedFrom]
  | cons v rest ih =>
    have hr : List.range (v :: rest).length = 0 :: (List.range rest.length).map (· + 1) := by
      simp [List.range_succ_eq_map]
    rw [hr, List.filter_cons]
    unfold markedFrom
    have hshift : (List.filter (fun j => bitmapContains bitmap (i + j)) (List.map (fun x => x + 1) (List.range rest.length))).length
        = (List.filter (fun j => bitmapContains bitmap (i + 1 + j)) (List.range rest.length)).length := by
      rw [List.filter_map, List.length_map]
      apply congrArg; apply List.filter_congr; intro a _
      simp only [Function.comp]; congr 1; omega
    by_cases hb : bitmapContains bitmap i = true
    · simp [hb, ih, hshift]
    · simp [hb, ih, hshift]

theorem markedVoters_length (s : State) (bitmap : Bytes) :
    (markedVoters s bitmap).length = bitmapMarksBelow bitmap s.voters.length := by
  unfold markedVoters bitmapMarksBelow
  rw [markedFrom_length]
  simp

theorem threshold_spec (n : Nat) : 3 * threshold n ≥ 2 * (n + 1) ∧ 3 * (threshold n - 1) < 2 * (n + 1) := by
  unfold threshold; omega

theorem collectKeys_ok {s : State} {bitmap : Bytes} {keys : List Bytes} (h : collectKeys s bitmap = some keys) :
    ∃ pk ks, lookup s.recs s.proposer = some pk ∧
      (markedVoters s bitmap).mapM (fun v => (lookup s.recs v).map (·.voteKey)) = some ks ∧ keys = pk.voteKey :: ks := by
  unfold collectKeys at h
  cases hpk : lookup s.recs s.proposer with
  | none => simp [hpk] at h
  | some pk =>
    cases hgo : collectKeys.go s bitmap s.voters 0 [] with
    | none => simp [hpk, hgo] at h
    | some ks =>
      obtain ⟨ks', hks, hmap⟩ := collectKeys_go_spec s bitmap s.voters 0 [] ks hgo
      simp only [hpk, hgo, Option.bind_eq_bind, Option.bind_some, Option.pure_def, Option.some.injEq] at h
      exact ⟨pk, ks', rfl, hmap, by rw [← h, hks]; rfl⟩

theorem verifyProposal_ok {c : Crypto} {chainId : String} {s : State} {m : VoteMsg} {s' : State} {q : Nat}
    (h : verifyProposal c chainId s m = .ok (s', q)) :
    s.proposer = m.proposer ∧ m.seq = s.seq ∧ m.epoch = s.epoch ∧ bitmapOk m.bitmap = true ∧
    threshold s.voters.length ≤ bitmapCount m.bitmap + 1 ∧ bitmapCount m.bitmap ≤ s.voters.length ∧
    ∃ keys, collectKeys s m.bitmap = some keys ∧ keys.length = bitmapCount m.bitmap + 1 ∧
      c.aggVerify keys (voteSignDoc c m.method chainId s.proposer s.seq s.epoch m.sigDoc) m.signature = true ∧
      s' = { s with accepted := true } ∧ q = s.seq := by
  unfold verifyProposal at h
  obtain ⟨h1, h⟩ := Outcome.of_guard_err h
  obtain ⟨h2, h⟩ := Outcome.of_guard_err h
  obtain ⟨h3, h⟩ := Outcome.of_guard_err h
  obtain ⟨h4, h⟩ := Outcome.of_guard_panic h
  obtain ⟨h5, h⟩ := Outcome.of_guard_err h
  split at h
  · cases h
  rename_i keys hk
  obtain ⟨h6, h⟩ := Outcome.of_guard_err h
  obtain ⟨h7, h⟩ := Outcome.of_guard_err h
  cases h
  exact ⟨Classical.not_not.mp h1, Classical.not_not.mp h2, Classical.not_not.mp h3, by simpa using h4, by omega, by omega,
    keys, hk, Classical.not_not.mp h6, by simpa using h7, rfl, rfl⟩

/-- an accepted vote changes nothing but the proposer-accepted flag, and returns the current sequence -/
theorem verifyProposal_frame {c : Crypto} {chainId : String} {s : State} {m : VoteMsg} {s' : State} {q : Nat}
    (h : verifyProposal c chainId s m = .ok (s', q)) : s' = { s with accepted := true } ∧ q = s.seq := by
  obtain ⟨_, _, _, _, _, _, _, _, _, _, h1, h2⟩ := verifyProposal_ok h
  exact ⟨h1, h2⟩

end Relayer
end Goat
