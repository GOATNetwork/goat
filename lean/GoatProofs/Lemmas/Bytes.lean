import GoatModel.Prelude
/-
  The fixed-width little-endian writer `leBytes` and the two readers `leToNat`, `beToNat` of the prelude:
  lengths, bounds, and that reading undoes writing (and conversely, at the list's own length), whence the
  pigeonhole `exists_collision_of_length_lt` on strings of a fixed length; then equality tests on byte
  strings and `ByteArray.toList`.
-/
namespace Goat

theorem leBytes_length (k n : Nat) : (leBytes k n).length = k := by
  induction k generalizing n with
  | zero => rfl
  | succ k ih => exact congrArg (· + 1) (ih _)

theorem le64_length (n : Nat) : (le64 n).length = 8 := leBytes_length 8 n

theorem leToNat_leBytes (k n : Nat) : leToNat (leBytes k n) = n % 256 ^ k := by
  induction k generalizing n with
  | zero => exact (Nat.mod_one n).symm
  | succ k ih =>
    have hb : (UInt8.ofNat (n % 256)).toNat = n % 256 := UInt8.toNat_ofNat'.trans (Nat.mod_mod n 256)
    rw [leBytes, leToNat, ih, hb, Nat.pow_succ, Nat.mul_comm (256 ^ k) 256, Nat.mod_mul]

/-- the last byte written is the most significant one -/
theorem leBytes_succ_last (k n : Nat) : leBytes (k + 1) n = leBytes k n ++ [UInt8.ofNat (n / 256 ^ k % 256)] := by
  induction k generalizing n with
  | zero => rw [Nat.pow_zero, Nat.div_one]; rfl
  | succ k ih => rw [leBytes, ih, leBytes, Nat.div_div_eq_div_mul, Nat.pow_succ, Nat.mul_comm (256 ^ k)]; rfl

theorem leToNat_lt (l : Bytes) : leToNat l < 256 ^ l.length := by
  induction l with
  | nil => exact Nat.one_pos
  | cons b t ih =>
    have hb : b.toNat < 256 := b.toNat_lt
    rw [leToNat, List.length_cons, Nat.pow_succ]
    omega

theorem leBytes_leToNat (l : Bytes) : leBytes l.length (leToNat l) = l := by
  induction l with
  | nil => rfl
  | cons b t ih =>
    have hb : b.toNat < 256 := b.toNat_lt
    rw [List.length_cons, leToNat, leBytes, Nat.add_mul_mod_self_left, Nat.mod_eq_of_lt hb, UInt8.ofNat_toNat,
      Nat.add_mul_div_left _ _ (by decide), Nat.div_eq_of_lt hb, Nat.zero_add, ih]

theorem leToNat_leBytes_of_lt {k n : Nat} (h : n < 256 ^ k) : leToNat (leBytes k n) = n := by
  rw [leToNat_leBytes, Nat.mod_eq_of_lt h]

theorem leBytes_injective {k a b : Nat} (ha : a < 256 ^ k) (hb : b < 256 ^ k)
    (h : leBytes k a = leBytes k b) : a = b := by
  rw [← leToNat_leBytes_of_lt ha, h, leToNat_leBytes_of_lt hb]

theorem leToNat_append (a b : Bytes) : leToNat (a ++ b) = leToNat a + 256 ^ a.length * leToNat b := by
  induction a with
  | nil => rw [List.nil_append, leToNat, List.length_nil, Nat.pow_zero, Nat.one_mul, Nat.zero_add]
  | cons x t ih =>
    rw [List.cons_append, leToNat, ih, leToNat, List.length_cons, Nat.pow_succ, Nat.mul_add,
      Nat.mul_comm (256 ^ t.length) 256, Nat.mul_assoc, Nat.add_assoc]

theorem beToNat_append_singleton (l : Bytes) (b : UInt8) : beToNat (l ++ [b]) = beToNat l * 256 + b.toNat := by
  rw [beToNat, List.foldl_append]
  rfl

/-- big-endian reading is little-endian reading of the reversed bytes -/
theorem beToNat_reverse (l : Bytes) : beToNat l.reverse = leToNat l := by
  induction l with
  | nil => rfl
  | cons b t ih =>
    rw [List.reverse_cons, beToNat_append_singleton, ih, leToNat]
    omega

/-- the fixed-width big-endian writers of the model (`Requests.beBytes`, `SysTxBytes.beFixed`) are `(leBytes k n).reverse` -/
theorem beToNat_reverse_leBytes (k n : Nat) : beToNat (leBytes k n).reverse = n % 256 ^ k := by
  rw [beToNat_reverse, leToNat_leBytes]

theorem beToNat_cons (a : UInt8) (rest : Bytes) :
    beToNat (a :: rest) = a.toNat * 256 ^ rest.length + beToNat rest := by
  have h := leToNat_append rest.reverse [a]
  rw [← List.reverse_cons, ← beToNat_reverse, ← beToNat_reverse, List.reverse_reverse, List.reverse_reverse,
    List.length_reverse] at h
  rw [h, Nat.add_comm, Nat.mul_comm]
  rfl

theorem beToNat_lt (l : Bytes) : beToNat l < 256 ^ l.length := by
  have h := leToNat_lt l.reverse
  rwa [← beToNat_reverse, List.reverse_reverse, List.length_reverse] at h

theorem leToNat_lt_pow {l : Bytes} {k : Nat} (h : l.length ≤ k) : leToNat l < 256 ^ k :=
  Nat.lt_of_lt_of_le (leToNat_lt l) (Nat.pow_le_pow_right (by decide) h)

theorem beToNat_lt_pow {l : Bytes} {k : Nat} (h : l.length ≤ k) : beToNat l < 256 ^ k :=
  Nat.lt_of_lt_of_le (beToNat_lt l) (Nat.pow_le_pow_right (by decide) h)

/-- pigeonhole on byte strings: a function that maps the `256 ^ k` strings of length `k` to strings of one
    length `n < k` takes some value twice -/
theorem exists_collision_of_length_lt {n k : Nat} (hnk : n < k) (f : Bytes → Bytes)
    (hlen : ∀ x, x.length = k → (f x).length = n) :
    ∃ x y, x.length = k ∧ y.length = k ∧ x ≠ y ∧ f x = f y := by
  apply Classical.byContradiction
  intro hno
  -- without a collision the images of the strings `leBytes k i`, `i < 256 ^ k`, are pairwise different …
  have hnd : ((List.range (256 ^ k)).map fun i => f (leBytes k i)).Nodup := by
    refine List.pairwise_map.mpr (List.nodup_range.imp_of_mem fun hi hj hne e => hno ?_)
    exact ⟨_, _, leBytes_length k _, leBytes_length k _,
      fun he => hne (leBytes_injective (List.mem_range.mp hi) (List.mem_range.mp hj) he), e⟩
  -- … and all among the `256 ^ n` strings `leBytes n j`
  have hsub : ((List.range (256 ^ k)).map fun i => f (leBytes k i)) ⊆ (List.range (256 ^ n)).map (leBytes n) := by
    intro y hy
    obtain ⟨i, _, rfl⟩ := List.mem_map.mp hy
    have hl := hlen _ (leBytes_length k i)
    exact List.mem_map.mpr ⟨_, List.mem_range.mpr (hl ▸ leToNat_lt _), hl ▸ leBytes_leToNat _⟩
  have := hnd.length_le_of_subset hsub
  rw [List.length_map, List.length_map, List.length_range, List.length_range] at this
  exact Nat.not_le.mpr (Nat.pow_lt_pow_right (by decide) hnk) this

/-! `2 ^ 64` and `2 ^ 256` as powers of 256, the form in which the bounds above come. -/

theorem p64 : (256 : Nat) ^ 8 = 2 ^ 64 := by decide
theorem p256 : (256 : Nat) ^ 32 = 2 ^ 256 := by decide

/-! Equality tests on byte strings, stated once: finding `LawfulBEq Bytes` is slow, and these spare
    every user of `beq_iff_eq` the search. -/

theorem bytes_beq_iff {a b : Bytes} : (a == b) = true ↔ a = b := beq_iff_eq
theorem bytes_beq_false_iff {a b : Bytes} : (a == b) = false ↔ a ≠ b := beq_eq_false_iff_ne
theorem bytes_bne_iff {a b : Bytes} : (a != b) = true ↔ a ≠ b := bne_iff_ne

/-! `ByteArray.toList` (through which `strBytes` reads a string) is the list of the underlying array. -/

theorem byteArray_toList_loop (bs : ByteArray) (i : Nat) (r : List UInt8) :
    ByteArray.toList.loop bs i r = r.reverse ++ bs.data.toList.drop i := by
  have hsz : bs.size = bs.data.toList.length := by rw [Array.length_toList]; rfl
  fun_induction ByteArray.toList.loop bs i r with
  | case1 i r h ih =>
    rw [ih]
    have h' : i < bs.data.toList.length := by omega
    rw [List.drop_eq_getElem_cons h']
    have : bs.get! i = bs.data.toList[i] := by
      cases bs with | mk d =>
      show d[i]! = _
      simp at h'
      simp [h']
    simp [this]
  | case2 i r h =>
    have h' : bs.data.toList.length ≤ i := by omega
    simp [List.drop_eq_nil_of_le h']

theorem byteArray_toList (bs : ByteArray) : bs.toList = bs.data.toList := by
  simp [ByteArray.toList, byteArray_toList_loop]

theorem byteArray_toList_length (bs : ByteArray) : bs.toList.length = bs.size := by
  rw [byteArray_toList, Array.length_toList]
  rfl

end Goat
