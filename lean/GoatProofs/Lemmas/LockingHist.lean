/-
  What the operations of the locking model do to one validator address, for the history-level theorems
  C14H / C15H: a validator that is out (neither Active nor Pending, no power, not ranked, not indexed)
  stays out unless `lockOne` lets it re-join after its jail time (`OutRec`, `Stays`, `RejoinAt`,
  `runS_out`); every writer but `unlockOne`, `dequeueMature`, `dequeue` leaves the unlock queues alone and
  no writer changes the parameters (`QFrame`, `step_params`); what each writer does to the window counters
  and the status of a record (`Quiet`, `VoteRel`, `ERel`); and the ranking / index entries of an address
  are the ones its record accounts for, at every state reachable from the empty one (`Link`, `LA`,
  `reachable_linked`).  `step` / `runS` are the state component of `C11H.apply` / `C11H.run`.
  The request batch and BeginBlock are walked once (`processRequests_inv`, `beginBlock_inv`): a property
  kept by the writes to validator records is kept by the entry point; the facts above are instances.
  `C07` is imported for what a successful EndBlocker did (`C07.endBlocker_ok`, `rankStep_inv`, `removeStep`, `endBlocker_inv`).
-/
import GoatModel.Locking
import GoatProofs.Lemmas.Locking
import GoatProofs.Lemmas.LockingOps
import GoatProofs.Lemmas.LockingConserve
import GoatProofs.C11H
import GoatProofs.C07
namespace Goat.Locking
open Goat.C11H (Op)

/-! ## histories: the state component of `C11H.apply` -/

/-- one entry point; a failing operation leaves the state unchanged -/
def step (s : State) : Op → State
  | .process hash160 hasAccount height now r =>
    match processRequests hash160 hasAccount s height now r with
    | .ok (s', _) => s'
    | _ => s
  | .beginBlock height now votes maxAge evs =>
    match beginBlock s height now votes maxAge evs with
    | .ok s' => s'
    | _ => s
  | .endBlocker =>
    match endBlocker s with
    | .ok (s', _) => s'
    | _ => s
  | .dequeue => (dequeue s).1

def runS (s : State) (ops : List Op) : State := ops.foldl step s

@[simp] theorem runS_nil (s : State) : runS s [] = s := rfl
@[simp] theorem runS_cons (s : State) (op : Op) (ops : List Op) : runS s (op :: ops) = runS (step s op) ops := rfl
theorem runS_append (s : State) (xs ys : List Op) : runS s (xs ++ ys) = runS (runS s xs) ys := by
  unfold runS; rw [List.foldl_append]

theorem step_eq_apply (denomOf : Bytes → String) (s : State) (op : Op) : (C11H.apply denomOf s op).1 = step s op := by
  cases op with
  | process hash160 hasAccount height now r =>
    simp only [C11H.apply, C11H.applyProcess, step]
    cases processRequests hash160 hasAccount s height now r with
    | ok p => obtain ⟨s', accs⟩ := p; rfl
    | err e => rfl
    | panic e => rfl
  | beginBlock height now votes maxAge evs =>
    simp only [C11H.apply, C11H.applyBeginBlock, step]
    cases beginBlock s height now votes maxAge evs <;> rfl
  | endBlocker =>
    simp only [C11H.apply, C11H.applyEndBlocker, step]
    cases endBlocker s with
    | ok p => obtain ⟨s', ups⟩ := p; rfl
    | err e => rfl
    | panic e => rfl
  | dequeue => rfl

theorem runS_eq_run (denomOf : Bytes → String) (ops : List Op) : ∀ (s : State) (L : C11H.Ledger),
    (C11H.run denomOf (s, L) ops).1 = runS s ops := by
  induction ops with
  | nil => intro s L; rfl
  | cons op ops ih =>
    intro s L
    rw [C11H.run_cons, ih, runS_cons, step_eq_apply]

/-- an operation leaves the state alone, or it is one of the four entry points gone through -/
theorem step_cases (s : State) (op : Op) :
    step s op = s ∨
    (∃ hash160 hasAccount height now r accs, op = .process hash160 hasAccount height now r ∧
      processRequests hash160 hasAccount s height now r = .ok (step s op, accs)) ∨
    (∃ height now votes maxAge evs, op = .beginBlock height now votes maxAge evs ∧
      beginBlock s height now votes maxAge evs = .ok (step s op)) ∨
    (∃ ups, op = .endBlocker ∧ endBlocker s = .ok (step s op, ups)) ∨
    (op = .dequeue ∧ step s op = (dequeue s).1) := by
  cases op with
  | process hash160 hasAccount height now r =>
    cases hp : processRequests hash160 hasAccount s height now r with
    | ok p => exact Or.inr (Or.inl ⟨_, _, _, _, _, p.2, rfl, by simp only [step, hp]⟩)
    | err e => exact Or.inl (by simp only [step, hp])
    | panic e => exact Or.inl (by simp only [step, hp])
  | beginBlock height now votes maxAge evs =>
    cases hp : beginBlock s height now votes maxAge evs with
    | ok s' => exact Or.inr (Or.inr (Or.inl ⟨_, _, _, _, _, rfl, by simp only [step, hp]⟩))
    | err e => exact Or.inl (by simp only [step, hp])
    | panic e => exact Or.inl (by simp only [step, hp])
  | endBlocker =>
    cases hp : endBlocker s with
    | ok p => exact Or.inr (Or.inr (Or.inr (Or.inl ⟨p.2, rfl, by simp only [step, hp]⟩)))
    | err e => exact Or.inl (by simp only [step, hp])
    | panic e => exact Or.inl (by simp only [step, hp])
  | dequeue => exact Or.inr (Or.inr (Or.inr (Or.inr ⟨rfl, rfl⟩)))

/-- the block time carried by an operation (end block and hand-over carry none) -/
def opTime : Op → Option Int
  | .process _ _ _ now _ => some now
  | .beginBlock _ now _ _ _ => some now
  | _ => none

/-! ## footprint of an operation at one address -/

def Unranked (s : State) (a : Bytes) : Prop := ∀ p, (p, a) ∉ s.ranking
def Unindexed (s : State) (a : Bytes) : Prop := ∀ d x, ((d, a), x) ∉ s.lockingIdx

/-- `t` has no ranking / index entry for `a` that `s` has not; recorded set and parameters equal -/
structure Env (a : Bytes) (s t : State) : Prop where
  rank : ∀ p, (p, a) ∈ t.ranking → (p, a) ∈ s.ranking
  idx : ∀ d x, ((d, a), x) ∈ t.lockingIdx → ((d, a), x) ∈ s.lockingIdx
  valset : t.valset = s.valset
  params : t.params = s.params

/-- `Env` and the record of `a` is the same -/
structure Keep (a : Bytes) (s t : State) : Prop where
  env : Env a s t
  vrec : vget t a = vget s a

theorem Env.refl (a : Bytes) (s : State) : Env a s s := ⟨fun _ h => h, fun _ _ h => h, rfl, rfl⟩
theorem Env.trans {a : Bytes} {s t u : State} (h1 : Env a s t) (h2 : Env a t u) : Env a s u :=
  ⟨fun p h => h1.rank p (h2.rank p h), fun d x h => h1.idx d x (h2.idx d x h), h2.valset.trans h1.valset,
   h2.params.trans h1.params⟩
theorem Keep.refl (a : Bytes) (s : State) : Keep a s s := ⟨Env.refl a s, rfl⟩
theorem Keep.trans {a : Bytes} {s t u : State} (h1 : Keep a s t) (h2 : Keep a t u) : Keep a s u :=
  ⟨h1.env.trans h2.env, h2.vrec.trans h1.vrec⟩

theorem env_of_eq {a : Bytes} {s t : State} (h1 : t.ranking = s.ranking) (h2 : t.lockingIdx = s.lockingIdx)
    (h3 : t.valset = s.valset) (h4 : t.params = s.params) : Env a s t :=
  ⟨fun _ h => h1 ▸ h, fun _ _ h => h2 ▸ h, h3, h4⟩

theorem keep_of_eq {a : Bytes} {s t : State} (h0 : t.validators = s.validators) (h1 : t.ranking = s.ranking)
    (h2 : t.lockingIdx = s.lockingIdx) (h3 : t.valset = s.valset) (h4 : t.params = s.params) : Keep a s t :=
  ⟨env_of_eq h1 h2 h3 h4, vget_congr t s h0 a⟩

theorem env_rankRemove (a : Bytes) (s : State) (p : Nat) (b : Bytes) : Env a s (rankRemove s p b) :=
  ⟨fun _ h => mem_rankRemove s p b _ h, fun _ _ h => h, rfl, rfl⟩
theorem keep_rankRemove (a : Bytes) (s : State) (p : Nat) (b : Bytes) : Keep a s (rankRemove s p b) :=
  ⟨env_rankRemove a s p b, rfl⟩

theorem env_idxRemove (a : Bytes) (s : State) (d : String) (b : Bytes) : Env a s (idxRemove s d b) :=
  ⟨fun _ h => h, fun _ _ h => (List.mem_filter.mp h).1, rfl, rfl⟩
theorem keep_idxRemove (a : Bytes) (s : State) (d : String) (b : Bytes) : Keep a s (idxRemove s d b) :=
  ⟨env_idxRemove a s d b, rfl⟩

theorem env_vset (a : Bytes) (s : State) (b : Bytes) (w : Validator) : Env a s (vset s b w) :=
  env_of_eq (vset_ranking s b w) (by unfold vset; rfl) (vset_valset s b w) (vset_params s b w)
theorem keep_vset_other (a : Bytes) (s : State) (b : Bytes) (w : Validator) (hab : b ≠ a) : Keep a s (vset s b w) :=
  ⟨env_vset a s b w, vget_vset_other s b a w hab⟩

theorem keep_tset (a : Bytes) (s : State) (d : String) (t : Token) : Keep a s (tset s d t) :=
  keep_of_eq rfl rfl rfl rfl rfl

theorem keep_foldl_idxRemove (a b : Bytes) (cs : Coins) (st : State) :
    Keep a st (cs.foldl (fun s c => idxRemove s c.1 b) st) := by
  induction cs generalizing st with
  | nil => exact Keep.refl a st
  | cons c cs ih => rw [List.foldl_cons]; exact (keep_idxRemove a st c.1 b).trans (ih _)

theorem keep_slashAll (a : Bytes) (s : State) (addr : Bytes) (v : Validator) (frac : Nat) :
    Keep a s (slashAll s addr v frac).1 := by
  rw [slashAll_fst]
  exact (keep_foldl_idxRemove a addr v.locking s).trans (keep_of_eq rfl rfl rfl rfl rfl)

/-- the slash of `handleVote` / `handleEvidence`, before the record is rewritten -/
theorem keep_slash (a : Bytes) (s : State) (p : Nat) (addr : Bytes) (v : Validator) (frac : Nat) :
    Keep a s (slashAll (rankRemove s p addr) addr v frac).1 :=
  (keep_rankRemove a s p addr).trans (keep_slashAll a _ addr v frac)

theorem keep_enqueueUnlock (a : Bytes) (s : State) (t : Int) (u : Unlock) : Keep a s (enqueueUnlock s t u) :=
  keep_of_eq rfl rfl rfl rfl rfl

/-! ## writers acting on another address -/

theorem IdxWrites.keep {a b : Bytes} {s t : State} (h : IdxWrites b s t) (hab : b ≠ a) : Keep a s t :=
  ⟨⟨fun p hp => (h.rank (p, a) (Ne.symm hab)).mp hp, fun d x hp => (h.idx ((d, a), x) (Ne.symm hab)).mp hp,
    h.valset, h.params⟩, h.vget_eq a⟩

theorem IdxWrites.keep_vset {a b : Bytes} {s t : State} (h : IdxWrites b s t) (hab : b ≠ a) (w : Validator) :
    Keep a s (vset t b w) :=
  (h.keep hab).trans (keep_vset_other a t b w hab)

theorem lockOne_other (s s' : State) (now : Int) (a b : Bytes) (coins : Coins) (hab : b ≠ a)
    (h : lockOne s now b coins = .ok s') : Keep a s s' := by
  obtain ⟨_, _, w, _, hw, rfl, _⟩ := lockOne_writes h
  exact hw.keep_vset hab w

theorem unlockCore_other (s s3 : State) (r : UnlockReq) (ex : Bool) (amt : Int) (a : Bytes) (hab : r.validator ≠ a)
    (h : unlockCore s r = .ok (s3, ex, amt)) : Keep a s s3 := by
  obtain ⟨_, _, w, _, hw, rfl, _⟩ := unlockCore_writes h
  exact hw.keep_vset hab w

theorem handleVote_other (s s' : State) (now : Int) (vi : VoteInfo) (a : Bytes) (hab : vi.address ≠ a)
    (h : handleVote s now vi = .ok s') : Keep a s s' := by
  obtain ⟨v, _, h⟩ := handleVote_ok h
  rcases h with ⟨_, rfl⟩ | ⟨_, _, rfl⟩ | ⟨_, _, rfl⟩
  · exact Keep.refl a _
  · exact keep_vset_other a _ _ _ hab
  · exact (keep_slash a s _ _ _ _).trans (keep_vset_other a _ _ _ hab)

theorem handleEvidence_other (s s' : State) (now height : Int) (maxAge : Option (Int × Int)) (e : Evidence) (a : Bytes)
    (hab : e.address ≠ a) (h : handleEvidence s now height maxAge e = .ok s') : Keep a s s' := by
  rcases handleEvidence_ok h with ⟨_, rfl⟩ | ⟨v, _, _, _, _, rfl⟩
  · exact Keep.refl a _
  · exact (keep_slash a s _ _ _ _).trans (keep_vset_other a _ _ _ hab)

theorem weightStep_other (a : Bytes) {prev cur : Nat} {b b' : State} {e : (String × Bytes) × Int} (hab : e.1.2 ≠ a)
    (h : weightStep prev cur b e = .ok b') : Keep a b b' := by
  obtain ⟨_, _, _, _, hw, rfl, _⟩ := weightStep_writes h
  exact hw.keep_vset hab _

theorem thresholdSet_keep (a : Bytes) {s s' : State} {u : String × Int} (h : thresholdSet s u = .ok s') : Keep a s s' := by
  rcases thresholdSet_ok h with rfl | ⟨tok, th, rfl⟩
  · exact Keep.refl a _
  · exact keep_of_eq rfl rfl rfl rfl rfl

theorem dequeueMature_keep (s : State) (now : Int) (a : Bytes) : Keep a s (dequeueMature s now) := by
  rw [dequeueMature_eq]
  exact keep_of_eq rfl rfl rfl rfl rfl

theorem dequeue_keep (s : State) (a : Bytes) : Keep a s (dequeue s).1 := by
  rw [dequeue_eq]
  exact keep_of_eq rfl rfl rfl rfl rfl

/-! ## one walk through each entry point

  A property of states that does not read the pool, the tokens, the thresholds and the queues (`hk`) is
  kept by a request batch / by BeginBlock once the writes to validator records keep it. -/

theorem processRequests_inv (P : State → Prop) {now : Int}
    (hk : ∀ t t', (∀ a, Keep a t t') → P t → P t')
    (hweight : ∀ prev cur t e t', e ∈ t.lockingIdx → P t → weightStep prev cur t e = .ok t' → P t')
    (hcreate : ∀ t b w, vget t b = none → w.locking = [] → P t → P (vset t b w))
    (hlock : ∀ t b coins t', Pos coins → P t → lockOne t now b coins = .ok t' → P t')
    (hunlock : ∀ t r t' ex amt, P t → unlockCore t r = .ok (t', ex, amt) → P t')
    (hreward : ∀ t b u r g, vget t b = some u → P t → P (vset t b { u with reward := r, gasReward := g }))
    {hash160 : Bytes → Bytes} {hasAccount : Bytes → Bool} {s s' : State} {height : Int} {R : Reqs} {accs : List Bytes}
    (h : processRequests hash160 hasAccount s height now R = .ok (s', accs)) (hs : P s) : P s' := by
  obtain ⟨s1, s2, s3, s4, s5, h1, h2, h3, h4, h5, h6⟩ := processRequests_ok h
  obtain ⟨p, rfl⟩ := updateRewardPool_ok h1
  have p1 : P { s with pool := p } := hk s _ (fun a => keep_of_eq rfl rfl rfl rfl rfl) hs
  obtain ⟨s₁, hw, ht⟩ := updateTokens_ok h2
  have p2 : P s2 := by
    refine foldlM_inv P _ (fun b u b' hb hstep => hk _ _ (fun a => thresholdSet_keep a hstep) hb) _ _ _ ?_ ht
    refine foldlM_inv P _ ?_ _ _ _ p1 hw
    intro b u b' hb hstep
    obtain ⟨tok, b2, heq, rfl⟩ := weightSet_ok hstep
    exact hk _ _ (fun a => keep_tset a _ _ _) (onWeightChanged_inv P (hweight _ _) heq hb)
  have p3 : P s3 := by
    rw [create_eq] at h3
    refine foldlM_inv (fun acc : State × List Bytes => P acc.1) _ ?_ _ _ _ p2 h3
    intro acc r acc' hacc hstep
    rcases (createStep_ok hstep).2 with rfl | ⟨hn, st, accs, rfl⟩
    · exact hacc
    · exact hcreate _ _ _ hn rfl hacc
  have p4 : P s4 := by
    obtain ⟨hpos, agg, hagg, h4⟩ := lock_agg h4
    have hap := aggregateLocks_pos R.locks agg hagg hpos
    exact foldlM_inv_mem P _ agg (fun b e b' he hb hstep => hlock b e.1 e.2 b' (hap e he) hb hstep) s3 s4 p3 h4
  have p5 : P s5 := by
    unfold unlock at h5
    refine foldlM_inv P _ ?_ _ _ _ p4 h5
    intro b r b' hb hstep
    obtain ⟨t3, ex, amt, hcore, rfl⟩ := unlockOne_ok hstep
    exact hk _ _ (fun a => keep_enqueueUnlock a _ _ _) (hunlock b r t3 ex amt hb hcore)
  rw [claim_eq] at h6
  refine foldlM_inv P _ ?_ _ _ _ p5 h6
  intro b r b' hb hstep
  obtain ⟨u, hu, rfl⟩ := claimStep_ok hstep
  exact hreward _ _ u 0 0 hu (hk b _ (fun a => keep_of_eq rfl rfl rfl rfl rfl) hb)

theorem beginBlock_inv (P : State → Prop) {height now : Int} {maxAge : Option (Int × Int)}
    (hk : ∀ t t', (∀ a, Keep a t t') → P t → P t')
    (hreward : ∀ t b u r g, vget t b = some u → P t → P (vset t b { u with reward := r, gasReward := g }))
    (hvote : ∀ t vi t', P t → handleVote t now vi = .ok t' → P t')
    (hev : ∀ t e t', P t → handleEvidence t now height maxAge e = .ok t' → P t')
    {s s' : State} {votes : List VoteInfo} {evs : List Evidence}
    (h : beginBlock s height now votes maxAge evs = .ok s') (hs : P s) : P s' := by
  obtain ⟨s1, s3, h1, h3, h⟩ := beginBlock_ok h
  have p1 : P s1 := by
    rcases distributeReward_ok h1 with rfl | ⟨total, s₂, rg, rr, hgo, rfl⟩
    · exact hs
    · exact hk s₂ _ (fun a => keep_of_eq rfl rfl rfl rfl rfl)
        (distributeReward_go_inv P (fun t b u g r ht hu => hreward t b u _ _ hu ht) total votes s _ _ _ hs hgo)
  unfold handleVotes at h3
  exact foldlM_inv P _ hev evs s3 s' (foldlM_inv P _ hvote votes _ s3 (hk _ _ (dequeueMature_keep s1 now) p1) h3) h

/-! ## validators that are out: neither Active nor Pending, no power, not ranked, not indexed -/

/-- how far out a status is: Active / Pending are in; a jailed validator can become inactive, any
    validator can be tombstoned; nothing leads back except `lockOne` on a jailed validator -/
def outLevel : Status → Nat
  | .pending => 0 | .active => 0 | .downgrade => 1 | .inactive => 2 | .tombstoned => 3

structure OutRec (s : State) (a : Bytes) (v : Validator) : Prop where
  vrec : vget s a = some v
  out : 0 < outLevel v.status
  power : v.power = 0
  unranked : Unranked s a
  unindexed : Unindexed s a

/-- the record of an out validator later on: same jail time, status the same or further out -/
structure Later (v v' : Validator) : Prop where
  jail : v'.jailedUntil = v.jailedUntil
  level : outLevel v.status ≤ outLevel v'.status
  pubkey : v'.pubkey = v.pubkey

theorem Later.refl (v : Validator) : Later v v := ⟨rfl, Nat.le_refl _, rfl⟩
theorem Later.trans {u v w : Validator} (h1 : Later u v) (h2 : Later v w) : Later u w :=
  ⟨h2.jail.trans h1.jail, Nat.le_trans h1.level h2.level, h2.pubkey.trans h1.pubkey⟩

theorem Later.tombstoned {v v' : Validator} (h : Later v v') (hs : v.status = .tombstoned) : v'.status = .tombstoned := by
  have := h.level
  rw [hs] at this
  cases hs' : v'.status <;> rw [hs'] at this <;> simp [outLevel] at this

theorem Later.inactive {v v' : Validator} (h : Later v v') (hs : v.status = .inactive) :
    v'.status = .inactive ∨ v'.status = .tombstoned := by
  have := h.level
  rw [hs] at this
  cases hs' : v'.status <;> rw [hs'] at this <;> simp [outLevel] at this
  · exact Or.inr rfl
  · exact Or.inl rfl

theorem out_ne_active {st : Status} (h : 0 < outLevel st) : st ≠ .active := by
  rintro rfl
  exact Nat.lt_irrefl 0 h

theorem out_ne_pending {st : Status} (h : 0 < outLevel st) : st ≠ .pending := by
  rintro rfl
  exact Nat.lt_irrefl 0 h

theorem Env.unranked {a : Bytes} {s t : State} (h : Env a s t) (hu : Unranked s a) : Unranked t a :=
  fun p hp => hu p (h.rank p hp)
theorem Env.unindexed {a : Bytes} {s t : State} (h : Env a s t) (hu : Unindexed s a) : Unindexed t a :=
  fun d x hp => hu d x (h.idx d x hp)

theorem OutRec.keep {s t : State} {a : Bytes} {v : Validator} (h : OutRec s a v) (k : Keep a s t) : OutRec t a v :=
  ⟨k.vrec.trans h.vrec, h.out, h.power, k.env.unranked h.unranked, k.env.unindexed h.unindexed⟩

/-- the out validator `a` (record `v` in `s`) is still out in `s'`; recorded set and parameters are the same -/
def Stays (a : Bytes) (v : Validator) (s s' : State) : Prop :=
  ∃ v', OutRec s' a v' ∧ Later v v' ∧ s'.valset = s.valset ∧ s'.params = s.params

theorem Stays.refl {s : State} {a : Bytes} {v : Validator} (h : OutRec s a v) : Stays a v s s :=
  ⟨v, h, Later.refl v, rfl, rfl⟩

theorem Stays.of_keep {s t : State} {a : Bytes} {v : Validator} (h : OutRec s a v) (k : Keep a s t) : Stays a v s t :=
  ⟨v, h.keep k, Later.refl v, k.env.valset, k.env.params⟩

theorem Stays.trans {s t u : State} {a : Bytes} {v : Validator} (h1 : Stays a v s t)
    (h2 : ∀ v', OutRec t a v' → Stays a v' t u) : Stays a v s u := by
  obtain ⟨v', o1, l1, e1, p1⟩ := h1
  obtain ⟨v'', o2, l2, e2, p2⟩ := h2 v' o1
  exact ⟨v'', o2, l1.trans l2, e2.trans e1, p2.trans p1⟩

theorem Stays.then_keep {s t u : State} {a : Bytes} {v : Validator} (h1 : Stays a v s t) (k : Keep a t u) : Stays a v s u :=
  h1.trans (fun _ o => Stays.of_keep o k)

/-- rewriting the record of the out validator itself -/
theorem Stays.mk_self {s t : State} {a : Bytes} {v : Validator} (ho : OutRec s a v) (he : Env a s t) (w : Validator)
    (hw1 : outLevel v.status ≤ outLevel w.status) (hw2 : w.power = 0) (hw3 : w.jailedUntil = v.jailedUntil)
    (hw4 : w.pubkey = v.pubkey) : Stays a v s (vset t a w) := by
  have he' : Env a s (vset t a w) := he.trans (env_vset a t a w)
  exact ⟨w, ⟨vget_vset_same t a w, Nat.lt_of_lt_of_le ho.out hw1, hw2, he'.unranked ho.unranked,
    he'.unindexed ho.unindexed⟩, ⟨hw3, hw1, hw4⟩, he'.valset, he'.params⟩

/-- a successful fold of steps that keep the validator out keeps it out -/
theorem stays_foldlM {α : Type} (a : Bytes) (v : Validator) (s : State) (f : State → α → Outcome State)
    (hf : ∀ b x b' w, OutRec b a w → f b x = .ok b' → Stays a w b b') :
    ∀ (l : List α) (b b' : State), Stays a v s b → l.foldlM f b = .ok b' → Stays a v s b' := by
  intro l
  refine foldlM_inv (fun b => Stays a v s b) f ?_ l
  intro b x b' hb hstep
  exact hb.trans (fun w ow => hf b x b' w ow hstep)

/-- the one way back: `lockOne` on a jailed (Downgrade) validator after its jail time, with holdings
    that meet every token threshold -/
def RejoinAt (now : Int) (a : Bytes) (v : Validator) : Prop :=
  v.status = .downgrade ∧ now > v.jailedUntil ∧
  ∃ si coins sj vj, lockOne si now a coins = .ok sj ∧ vget sj a = some vj ∧ vj.status = .pending ∧
    isAllGTE vj.locking si.threshold = true

theorem RejoinAt.of_later {now : Int} {a : Bytes} {v w : Validator} (hv : 0 < outLevel v.status) (hl : Later v w)
    (h : RejoinAt now a w) : RejoinAt now a v := by
  obtain ⟨h1, h2, h3⟩ := h
  refine ⟨?_, by rw [← hl.jail]; exact h2, h3⟩
  have := hl.level
  rw [h1] at this
  cases hs : v.status <;> rw [hs] at this hv <;> simp [outLevel] at this hv

theorem outLevel_le_exitStatus {st : Status} (h : 0 < outLevel st) : outLevel st ≤ outLevel (exitStatus st) := by
  cases st <;> revert h <;> decide

theorem outLevel_le_tombstoned (st : Status) : outLevel st ≤ outLevel .tombstoned := by
  cases st <;> decide

/-- a step that keeps the validator out or lets it re-join, after steps of that kind -/
theorem stays_or_rejoin {now : Int} {s t u : State} {a : Bytes} {v : Validator} (hv : 0 < outLevel v.status)
    (h1 : Stays a v s t ∨ RejoinAt now a v) (h2 : ∀ w, OutRec t a w → Stays a w t u ∨ RejoinAt now a w) :
    Stays a v s u ∨ RejoinAt now a v := by
  rcases h1 with ⟨w, ow, lw, ew, pw⟩ | hr
  · rcases h2 w ow with ⟨w', ow', lw', ew', pw'⟩ | hr
    · exact Or.inl ⟨w', ow', lw.trans lw', ew'.trans ew, pw'.trans pw⟩
    · exact Or.inr (RejoinAt.of_later hv lw hr)
  · exact Or.inr hr

theorem lockOne_self (s s' : State) (now : Int) (a : Bytes) (coins : Coins) (v : Validator) (ho : OutRec s a v)
    (h : lockOne s now a coins = .ok s') : Stays a v s s' ∨ RejoinAt now a v := by
  obtain ⟨w, hw, hc⟩ := lockOne_ok h
  obtain rfl : w = v := Option.some.inj (hw.symm.trans ho.vrec)
  rcases hc with ⟨hst | hst, _⟩ | ⟨⟨hst, hj, hg⟩, pw, s₂, rfl, rfl⟩ | ⟨_, rfl⟩
  · exact absurd hst (out_ne_pending ho.out)
  · exact absurd hst (out_ne_active ho.out)
  · exact Or.inr ⟨hst, hj, s, coins, _, _, h, vget_vset_same _ _ _, rfl, hg⟩
  · exact Or.inl (Stays.mk_self ho (Env.refl a s) _ (Nat.le_refl _) ho.power rfl rfl)

theorem lockOne_out (s s' : State) (now : Int) (a b : Bytes) (coins : Coins) (v : Validator) (ho : OutRec s a v)
    (h : lockOne s now b coins = .ok s') : Stays a v s s' ∨ RejoinAt now a v := by
  by_cases hab : b = a
  · subst hab; exact lockOne_self s s' now b coins v ho h
  · exact Or.inl (Stays.of_keep ho (lockOne_other s s' now a b coins hab h))

theorem unlockCore_self (s s3 : State) (r : UnlockReq) (ex : Bool) (amt : Int) (v : Validator) (ho : OutRec s r.validator v)
    (h : unlockCore s r = .ok (s3, ex, amt)) : Stays r.validator v s s3 := by
  obtain ⟨w, tok, hw, _, _, _, _, hc⟩ := unlockCore_ok h
  obtain rfl : w = v := Option.some.inj (hw.symm.trans ho.vrec)
  have e1 := env_rankRemove r.validator s w.power r.validator
  rcases hc with ⟨_, rfl⟩ | ⟨_, hst | hst, _⟩ | ⟨_, _, _, rfl⟩
  · exact Stays.mk_self ho (e1.trans (keep_foldl_idxRemove _ r.validator w.locking _).env) _
      (outLevel_le_exitStatus ho.out) rfl rfl rfl
  · exact absurd hst (out_ne_active ho.out)
  · exact absurd hst (out_ne_pending ho.out)
  · exact Stays.mk_self ho e1 _ (Nat.le_refl _) ho.power rfl rfl

theorem unlockCore_out (s s3 : State) (r : UnlockReq) (ex : Bool) (amt : Int) (a : Bytes) (v : Validator) (ho : OutRec s a v)
    (h : unlockCore s r = .ok (s3, ex, amt)) : Stays a v s s3 := by
  by_cases hab : r.validator = a
  · subst hab; exact unlockCore_self s s3 r ex amt v ho h
  · exact Stays.of_keep ho (unlockCore_other s s3 r ex amt a hab h)

theorem handleVote_out (s s' : State) (now : Int) (vi : VoteInfo) (a : Bytes) (v : Validator) (ho : OutRec s a v)
    (h : handleVote s now vi = .ok s') : Stays a v s s' := by
  by_cases hab : vi.address = a
  · subst hab
    obtain ⟨w, hw, hc⟩ := handleVote_ok h
    obtain rfl : w = v := Option.some.inj (hw.symm.trans ho.vrec)
    rcases hc with ⟨_, rfl⟩ | ⟨hst, _⟩ | ⟨hst, _⟩
    · exact Stays.refl ho
    · exact absurd hst (out_ne_active ho.out)
    · exact absurd hst (out_ne_active ho.out)
  · exact Stays.of_keep ho (handleVote_other s s' now vi a hab h)

theorem handleEvidence_out (s s' : State) (now height : Int) (maxAge : Option (Int × Int)) (e : Evidence) (a : Bytes)
    (v : Validator) (ho : OutRec s a v) (h : handleEvidence s now height maxAge e = .ok s') : Stays a v s s' := by
  by_cases hab : e.address = a
  · subst hab
    rcases handleEvidence_ok h with ⟨_, rfl⟩ | ⟨w, hw, _, _, _, rfl⟩
    · exact Stays.refl ho
    · obtain rfl : w = v := Option.some.inj (hw.symm.trans ho.vrec)
      exact Stays.mk_self ho (keep_slash _ s _ _ _ _).env _ (outLevel_le_tombstoned _) rfl rfl rfl
  · exact Stays.of_keep ho (handleEvidence_other s s' now height maxAge e a hab h)

/-- rewriting a record without touching status, power, jail time and key keeps an out validator out -/
theorem Stays.vset {s t : State} {a : Bytes} {v : Validator} (hs : Stays a v s t) (b : Bytes) (u u' : Validator)
    (hu : vget t b = some u) (h1 : u'.status = u.status) (h2 : u'.power = u.power) (h3 : u'.jailedUntil = u.jailedUntil)
    (h4 : u'.pubkey = u.pubkey) : Stays a v s (vset t b u') := by
  refine hs.trans (fun w ow => ?_)
  by_cases hab : b = a
  · subst hab
    obtain rfl : u = w := Option.some.inj (hu.symm.trans ow.vrec)
    exact Stays.mk_self ow (Env.refl _ t) _ (Nat.le_of_eq (congrArg outLevel h1.symm)) (h2.trans ow.power) h3 h4
  · exact Stays.of_keep ow (keep_vset_other a _ _ _ hab)

/-- a request batch: the validator stays out, or it re-joins through a `lockOne` after its jail time -/
theorem processRequests_out (hash160 : Bytes → Bytes) (hasAccount : Bytes → Bool) (s s' : State) (height now : Int)
    (R : Reqs) (accs : List Bytes) (a : Bytes) (v : Validator) (ho : OutRec s a v)
    (h : processRequests hash160 hasAccount s height now R = .ok (s', accs)) : Stays a v s s' ∨ RejoinAt now a v := by
  refine processRequests_inv (fun b => Stays a v s b ∨ RejoinAt now a v) ?_ ?_ ?_ ?_ ?_ ?_ h (Or.inl (Stays.refl ho))
  · exact fun t t' k ht => stays_or_rejoin ho.out ht (fun w ow => Or.inl (Stays.of_keep ow (k a)))
  · intro prev cur t e t' he ht hstep
    -- a validator without index entries is not visited
    refine stays_or_rejoin ho.out ht (fun w ow => Or.inl (Stays.of_keep ow (weightStep_other a ?_ hstep)))
    exact fun heq => ow.unindexed e.1.1 e.2 (heq ▸ he)
  · intro t b u hn _ ht
    refine stays_or_rejoin ho.out ht (fun w ow => Or.inl (Stays.of_keep ow (keep_vset_other a _ _ _ ?_)))
    rintro rfl
    rw [ow.vrec] at hn
    cases hn
  · exact fun t b coins t' _ ht hstep => stays_or_rejoin ho.out ht (fun w ow => lockOne_out t t' now a b coins w ow hstep)
  · exact fun t r t' ex amt ht hstep =>
      stays_or_rejoin ho.out ht (fun w ow => Or.inl (unlockCore_out t t' r ex amt a w ow hstep))
  · exact fun t b u r g hu ht =>
      stays_or_rejoin ho.out ht (fun w ow => Or.inl ((Stays.refl ow).vset b u _ hu rfl rfl rfl rfl))

theorem beginBlock_out (s s' : State) (height now : Int) (votes : List VoteInfo) (maxAge : Option (Int × Int))
    (evs : List Evidence) (a : Bytes) (v : Validator) (ho : OutRec s a v)
    (h : beginBlock s height now votes maxAge evs = .ok s') : Stays a v s s' := by
  refine beginBlock_inv (fun b => Stays a v s b) ?_ ?_ ?_ ?_ h (Stays.refl ho)
  · exact fun t t' k ht => ht.then_keep (k a)
  · exact fun t b u r g hu ht => ht.vset b u _ hu rfl rfl rfl rfl
  · exact fun t vi t' ht hstep => ht.trans (fun w ow => handleVote_out t t' now vi a w ow hstep)
  · exact fun t e t' ht hstep => ht.trans (fun w ow => handleEvidence_out t t' now height maxAge e a w ow hstep)

/-! ## EndBlocker and an out validator -/

/-- what EndBlocker keeps (everything about `a` but the recorded set) -/
structure EKeep (a : Bytes) (s t : State) : Prop where
  vrec : vget t a = vget s a
  ranking : t.ranking = s.ranking
  lockingIdx : t.lockingIdx = s.lockingIdx
  params : t.params = s.params

theorem EKeep.refl (a : Bytes) (s : State) : EKeep a s s := ⟨rfl, rfl, rfl, rfl⟩
theorem EKeep.trans {a : Bytes} {s t u : State} (h1 : EKeep a s t) (h2 : EKeep a t u) : EKeep a s u :=
  ⟨h2.vrec.trans h1.vrec, h2.ranking.trans h1.ranking, h2.lockingIdx.trans h1.lockingIdx, h2.params.trans h1.params⟩

theorem ekeep_vset_other (a : Bytes) (s : State) (b : Bytes) (w : Validator) (hab : b ≠ a) : EKeep a s (vset s b w) :=
  ⟨vget_vset_other s b a w hab, vset_ranking s b w, by unfold vset; rfl, vset_params s b w⟩

theorem ekeep_valset (a : Bytes) (s : State) (x : List (Bytes × Nat)) : EKeep a s { s with valset := x } :=
  ⟨rfl, rfl, rfl, rfl⟩

/-- one removal keeps everything about `a` but the recorded set, unless it demotes `a` itself -/
theorem ekeep_rmState (a : Bytes) (st : State) (e : Bytes) (u : Validator) (h : e = a → u.status ≠ .active) :
    EKeep a st (C07.rmState st e u) := by
  unfold C07.rmState
  split
  · exact (ekeep_vset_other a st e _ fun hae => h hae (eq_of_beq ‹_›)).trans (ekeep_valset a _ _)
  · exact ekeep_valset a st _

/-- the removal loop of EndBlocker: every leftover address is removed from the recorded set -/
theorem endBlocker_loop2 (a : Bytes) (v : Validator) (hout : v.status ≠ .active) (s0 : State) :
    ∀ (l : List (Bytes × Nat)) (st : State) (ups : List Update) (st' : State) (ups' : List Update),
      EKeep a s0 st → vget s0 a = some v → (a ∈ st.valset.map (·.1) → a ∈ l.map (·.1)) →
      l.foldlM C07.removeStep (st, ups) = .ok (st', ups') →
      EKeep a s0 st' ∧ a ∉ st'.valset.map (·.1) := by
  intro l
  induction l with
  | nil =>
    intro st ups st' ups' hk _ hmem h
    cases foldlM_nil_ok _ _ _ h
    exact ⟨hk, fun hm => nomatch hmem hm⟩
  | cons e l ih =>
    intro st ups st' ups' hk hv hmem h
    obtain ⟨⟨st1, ups1⟩, h1, h2⟩ := foldlM_cons_ok _ e l _ _ h
    rw [C07.removeStep_eq] at h1
    cases hu : vget st e.1 with
    | none => rw [hu] at h1; cases h1
    | some u =>
      rw [hu] at h1
      cases h1
      have hk1 : EKeep a st (C07.rmState st e.1 u) := ekeep_rmState a st e.1 u fun hae => by
        have hua : u = v := by rw [hae, hk.vrec, hv] at hu; cases hu; rfl
        rw [hua]; exact hout
      refine ih _ _ st' ups' (hk.trans hk1) hv (fun hm => ?_) h2
      -- `a` is still recorded after the removal of `e.1`, so it is another leftover
      have hvs : (C07.rmState st e.1 u).valset = st.valset.filter (·.1 != e.1) := by
        unfold C07.rmState; split <;> rfl
      rw [hvs] at hm
      have hae : a ≠ e.1 := by
        rintro rfl
        obtain ⟨y, hy, hya⟩ := List.mem_map.mp hm
        exact bne_iff_ne.mp (List.mem_filter.mp hy).2 hya
      exact (List.mem_cons.mp (hmem ((mem_keys_filter_ne st.valset a e.1 hae).mp hm))).resolve_left hae

/-- **EndBlocker and an out validator**: its record, (non-)ranking and (non-)indexing are untouched,
    and after a successful EndBlocker it is not in the recorded set. -/
theorem endBlocker_out (s s' : State) (ups : List Update) (a : Bytes) (v : Validator) (ho : OutRec s a v)
    (h : endBlocker s = .ok (s', ups)) : OutRec s' a v ∧ a ∉ s'.valset.map (·.1) ∧ s'.params = s.params := by
  obtain ⟨s1, leftovers, ups1, heq, h⟩ := C07.endBlocker_ok h
  have h1 : EKeep a s s1 ∧ (a ∈ s1.valset.map (·.1) → a ∈ leftovers.map (·.1)) := by
    refine foldlM_inv (fun (acc : State × List (Bytes × Nat) × List Update) =>
      EKeep a s acc.1 ∧ (a ∈ acc.1.valset.map (·.1) → a ∈ acc.2.1.map (·.1))) _ ?_ _ _ _ ⟨EKeep.refl a s, id⟩ heq
    intro ⟨b, last, ups0⟩ e ⟨b', last', ups'⟩ ⟨hk, hm⟩ hstep
    obtain ⟨u, hu, hcase⟩ := C07.rankStep_inv hstep
    -- the entry is Active or Pending, the out validator is neither
    have hae : e.2 ≠ a := by
      intro heq
      have hua : u = v := by rw [heq, hk.vrec, ho.vrec] at hu; cases hu; rfl
      rw [hua] at hcase
      rcases hcase with ⟨hst, _⟩ | ⟨hst, _⟩
      · exact out_ne_active ho.out hst
      · exact out_ne_pending ho.out hst
    have hnew : a ∉ [(e.2, u.power)].map (·.1) := fun h3 => hae (List.mem_singleton.mp h3).symm
    dsimp only at hcase ⊢
    rcases hcase with ⟨_, rfl, hb⟩ | ⟨_, rfl, rfl⟩
    · have hfil : a ∈ last.map (·.1) → a ∈ (last.filter (·.1 != e.2)).map (·.1) :=
        (mem_keys_filter_ne last a e.2 (fun x => hae x.symm)).mpr
      rcases hb with rfl | rfl
      · exact ⟨hk, fun hmem => hfil (hm hmem)⟩
      · refine ⟨hk.trans (ekeep_valset a b _), fun hmem => ?_⟩
        rw [List.map_append, List.mem_append] at hmem
        exact hfil (hm ((mem_keys_filter_ne b.valset a e.2 (fun x => hae x.symm)).mp (hmem.resolve_right hnew)))
    · refine ⟨(hk.trans (ekeep_vset_other a b e.2 _ hae)).trans (ekeep_valset a _ _), fun hmem => ?_⟩
      rw [List.map_append, List.mem_append] at hmem
      exact hm (hmem.resolve_right hnew)
  have hperm : a ∈ leftovers.map (·.1) → a ∈ (leftovers.mergeSort (fun a b => !bytesLt b.1 a.1)).map (·.1) := by
    intro hm
    exact ((List.mergeSort_perm leftovers _).map (·.1)).mem_iff.mpr hm
  obtain ⟨k2, hout⟩ := endBlocker_loop2 a v (out_ne_active ho.out) s _ s1 ups1 s' ups h1.1 ho.vrec
    (fun hm => hperm (h1.2 hm)) h
  refine ⟨⟨k2.vrec.trans ho.vrec, ho.out, ho.power, ?_, ?_⟩, hout, k2.params⟩
  · intro p hp; rw [k2.ranking] at hp; exact ho.unranked p hp
  · intro d x hp; rw [k2.lockingIdx] at hp; exact ho.unindexed d x hp

/-! ## one entry point and an out validator -/

/-- the out validator is still out after the operation -/
def StillOut (a : Bytes) (v : Validator) (s : State) (op : Op) : Prop :=
  ∃ v', OutRec (step s op) a v' ∧ Later v v' ∧ (step s op).params = s.params ∧
    (a ∉ s.valset.map (·.1) → a ∉ (step s op).valset.map (·.1)) ∧
    (∀ s' ups, op = .endBlocker → endBlocker s = .ok (s', ups) → a ∉ (step s op).valset.map (·.1))

theorem StillOut.of_stays {a : Bytes} {v : Validator} {s : State} {op : Op} (hne : op ≠ .endBlocker)
    (h : Stays a v s (step s op)) : StillOut a v s op := by
  obtain ⟨v', o, l, e, p⟩ := h
  exact ⟨v', o, l, p, fun hn => by rw [e]; exact hn, fun _ _ he => absurd he hne⟩

theorem StillOut.same {a : Bytes} {v : Validator} {s : State} {op : Op} (ho : OutRec s a v) (hs : step s op = s)
    (hf : ∀ s' ups, op = .endBlocker → endBlocker s = .ok (s', ups) → False) : StillOut a v s op := by
  refine ⟨v, by rw [hs]; exact ho, Later.refl v, by rw [hs], fun hn => by rw [hs]; exact hn, ?_⟩
  intro s' ups he hok
  exact (hf s' ups he hok).elim

/-- **One operation and an out validator**: it stays out (record only moves further out, jail time
    kept; it does not enter the recorded set and a successful EndBlocker removes it from the recorded
    set), unless the operation is a request batch whose `lock` lets a jailed validator back in after its
    jail time (`RejoinAt`). -/
theorem step_out (s : State) (op : Op) (a : Bytes) (v : Validator) (ho : OutRec s a v) :
    StillOut a v s op ∨ ∃ now, opTime op = some now ∧ RejoinAt now a v := by
  cases op with
  | process hash160 hasAccount height now r =>
    cases hp : processRequests hash160 hasAccount s height now r with
    | ok p =>
      obtain ⟨s', accs⟩ := p
      have hs : step s (.process hash160 hasAccount height now r) = s' := by simp only [step, hp]
      rcases processRequests_out hash160 hasAccount s s' height now r accs a v ho hp with h | h
      · left; exact StillOut.of_stays (by intro h; cases h) (by rw [hs]; exact h)
      · right; exact ⟨now, rfl, h⟩
    | err e =>
      left; exact StillOut.same ho (by simp only [step, hp]) (fun _ _ he _ => by cases he)
    | panic e =>
      left; exact StillOut.same ho (by simp only [step, hp]) (fun _ _ he _ => by cases he)
  | beginBlock height now votes maxAge evs =>
    left
    cases hp : beginBlock s height now votes maxAge evs with
    | ok s' =>
      have hs : step s (.beginBlock height now votes maxAge evs) = s' := by simp only [step, hp]
      exact StillOut.of_stays (by intro h; cases h) (by rw [hs]; exact beginBlock_out s s' height now votes maxAge evs a v ho hp)
    | err e => exact StillOut.same ho (by simp only [step, hp]) (fun _ _ he _ => by cases he)
    | panic e => exact StillOut.same ho (by simp only [step, hp]) (fun _ _ he _ => by cases he)
  | endBlocker =>
    left
    cases hp : endBlocker s with
    | ok p =>
      obtain ⟨s', ups⟩ := p
      have hs : step s .endBlocker = s' := by simp only [step, hp]
      obtain ⟨o, hn, hpar⟩ := endBlocker_out s s' ups a v ho hp
      exact ⟨v, by rw [hs]; exact o, Later.refl v, by rw [hs]; exact hpar, fun _ => by rw [hs]; exact hn,
        fun _ _ _ _ => by rw [hs]; exact hn⟩
    | err e => exact StillOut.same ho (by simp only [step, hp]) (fun _ _ _ hok => by rw [hp] at hok; cases hok)
    | panic e => exact StillOut.same ho (by simp only [step, hp]) (fun _ _ _ hok => by rw [hp] at hok; cases hok)
  | dequeue =>
    left
    exact StillOut.of_stays (by intro h; cases h) (Stays.of_keep ho (dequeue_keep s a))

/-! ## becoming out: double-sign evidence and downtime -/

/-- the ranking and index entries of `a` are the ones its record accounts for: ranked (if at all)
    with its current power, indexed (if at all) for denominations it holds.  A consequence of `C18.Derived`
    for distinct addresses (`C14H.link_of_derived`) and an invariant of the model (`reachable_linked` below). -/
structure Link (s : State) (a : Bytes) (v : Validator) : Prop where
  rank : ∀ p, (p, a) ∈ s.ranking → p = v.power
  idx : ∀ d x, ((d, a), x) ∈ s.lockingIdx → d ∈ v.locking.map (·.1)

/-- after the slash of a linked validator (ranking entry removed, holding slashed, power set to 0) it is out -/
theorem slash_out {s : State} {a : Bytes} {v : Validator} (hl : Link s a v) (v1 : Validator) (hv1 : v1.locking = v.locking)
    (frac : Nat) (w : Validator) (hw : 0 < outLevel w.status) (hp : w.power = 0) :
    OutRec (vset (slashAll (rankRemove s v.power a) a v1 frac).1 a w) a w := by
  refine ⟨vget_vset_same _ _ _, hw, hp, fun p hp => ?_, fun d x hp => ?_⟩
  · rw [vset_ranking, (slashAll_frame _ _ _ _).2.1, mem_rankRemove_iff] at hp
    exact hp.2 (by rw [hl.rank p hp.1])
  · obtain ⟨h1, h2⟩ := (mem_slashAll_idx_iff _ _ _ _ _).mp hp
    exact h2 ⟨rfl, hv1 ▸ hl.idx d x h1⟩

/-- **Double-sign evidence puts the validator out for good**: fresh evidence against a validator that
    is not yet tombstoned (ranking and index entries as its record accounts for, `Link`) leaves it
    tombstoned, with power 0, not ranked and not indexed; its holding is what the slash left. -/
theorem handleEvidence_establishes (s s' : State) (now height : Int) (maxAge : Option (Int × Int)) (e : Evidence)
    (v : Validator) (hk : e.kind = 1 ∨ e.kind = 2) (hfresh : isStale now height maxAge e = false)
    (hv : vget s e.address = some v) (hs : v.status ≠ .tombstoned) (hl : Link s e.address v)
    (hok : handleEvidence s now height maxAge e = .ok s') :
    ∃ v', OutRec s' e.address v' ∧ v'.status = .tombstoned ∧ v'.pubkey = v.pubkey ∧
      v'.locking = (slashAll (rankRemove s v.power e.address) e.address v s.params.slashDoubleSign).2 ∧
      s'.valset = s.valset ∧ s'.params = s.params := by
  rcases handleEvidence_ok hok with ⟨hc, _⟩ | ⟨w, hw, _, _, _, rfl⟩
  · rcases hc with hc | hc | ⟨w, hw, hc⟩
    · omega
    · rw [hfresh] at hc; cases hc
    · rw [hv] at hw; cases hw; exact absurd hc hs
  · obtain rfl : w = v := Option.some.inj (hw.symm.trans hv)
    have k := keep_slash e.address s w.power e.address w s.params.slashDoubleSign
    exact ⟨_, slash_out hl w rfl _ _ (Nat.zero_lt_succ _) rfl, rfl, rfl, rfl, k.env.valset, k.env.params⟩

/-- **Downtime puts the validator out**: the vote record that brings an active validator's absences
    to the maximum leaves it Downgrade, jailed until `now + downtimeJail`, with power 0, not ranked, not
    indexed, its holding slashed by the downtime fraction, its window counters as the model sets them. -/
theorem handleVote_establishes (s s' : State) (now : Int) (vi : VoteInfo) (v : Validator)
    (hv : vget s vi.address = some v) (hs : v.status = .active) (hl : Link s vi.address v)
    (hdown : ((if vi.absent then v.missed + 1 else v.missed : Nat) : Int) ≥ s.params.maxMissed)
    (hok : handleVote s now vi = .ok s') :
    ∃ v', OutRec s' vi.address v' ∧ v'.status = .downgrade ∧ v'.jailedUntil = now + s.params.downtimeJail ∧
      v'.pubkey = v.pubkey ∧ s'.valset = s.valset ∧ s'.params = s.params ∧
      (v'.missed, v'.offset) = (if ((v.offset + 1 : Nat) : Int) ≥ s.params.signedBlocksWindow then (0, 0)
                                 else ((if vi.absent then v.missed + 1 else v.missed), v.offset + 1)) ∧
      ∃ v1 : Validator, v1.locking = v.locking ∧
        v'.locking = (slashAll (rankRemove s v.power vi.address) vi.address v1 s.params.slashDowntime).2 := by
  obtain ⟨w, hw, hc⟩ := handleVote_ok hok
  obtain rfl : w = v := Option.some.inj (hw.symm.trans hv)
  rcases hc with ⟨hn, _⟩ | ⟨_, hn, _⟩ | ⟨_, _, rfl⟩
  · exact absurd hs hn
  · exact absurd hdown hn
  · have k := keep_slash vi.address s w.power vi.address (voteCounted s.params vi.absent w) s.params.slashDowntime
    exact ⟨_, slash_out hl _ rfl _ _ (Nat.zero_lt_succ _) rfl, rfl, rfl, rfl, k.env.valset, k.env.params, rfl, _, rfl, rfl⟩

/-! ## histories and an out validator -/

/-- no operation of the history can let `v` back in: it is not jailed (inactive / tombstoned), or every
    block time of the history is within its jail time -/
def NoRejoin (v : Validator) (ops : List Op) : Prop :=
  v.status ≠ .downgrade ∨ ∀ op ∈ ops, ∀ now, opTime op = some now → now ≤ v.jailedUntil

theorem NoRejoin.later {v v' : Validator} {ops ops' : List Op} (hv : 0 < outLevel v.status) (hl : Later v v')
    (hsub : ∀ op ∈ ops', op ∈ ops) (h : NoRejoin v ops) : NoRejoin v' ops' := by
  rcases h with h | h
  · left
    have := hl.level
    intro hd
    rw [hd] at this
    cases hs : v.status <;> rw [hs] at this hv h <;> simp [outLevel] at this hv h
  · right
    intro o ho now hn
    rw [hl.jail]
    exact h o (hsub o ho) now hn

theorem NoRejoin.head {v : Validator} {op : Op} {ops : List Op} (h : NoRejoin v (op :: ops)) (a : Bytes) :
    ¬ ∃ now, opTime op = some now ∧ RejoinAt now a v := by
  rintro ⟨now, hn, hr⟩
  rcases h with h | h
  · exact h hr.1
  · have := h op List.mem_cons_self now hn
    have := hr.2.1
    omega

/-- **History theorem for an out validator.**  Over any list of operations none of which can bring it
    back, an out validator stays out: its record only moves further out (jail time and key kept), it has
    power 0, is neither ranked nor indexed, the parameters are unchanged and it does not enter the
    recorded set. -/
theorem runS_out (a : Bytes) (ops : List Op) : ∀ (s : State) (v : Validator), OutRec s a v → NoRejoin v ops →
    ∃ v', OutRec (runS s ops) a v' ∧ Later v v' ∧ (runS s ops).params = s.params ∧
      (a ∉ s.valset.map (·.1) → a ∉ (runS s ops).valset.map (·.1)) := by
  induction ops with
  | nil => intro s v ho _; exact ⟨v, ho, Later.refl v, rfl, id⟩
  | cons op ops ih =>
    intro s v ho hn
    rcases step_out s op a v ho with h | h
    · obtain ⟨v1, o1, l1, p1, m1, _⟩ := h
      obtain ⟨v2, o2, l2, p2, m2⟩ := ih (step s op) v1 o1 (hn.later ho.out l1 (fun _ => List.mem_cons_of_mem _))
      exact ⟨v2, o2, l1.trans l2, p2.trans p1, fun hm => m2 (m1 hm)⟩
    · exact absurd h (hn.head a)

/-- … and once an EndBlocker has succeeded it is out of the recorded set, for the rest of the history -/
theorem runS_out_valset (a : Bytes) (xs ys : List Op) (s : State) (v : Validator) (ho : OutRec s a v)
    (hn : NoRejoin v (xs ++ .endBlocker :: ys)) (s1 : State) (ups : List Update)
    (hend : endBlocker (runS s xs) = .ok (s1, ups)) :
    a ∉ (runS s (xs ++ .endBlocker :: ys)).valset.map (·.1) := by
  have hn1 : NoRejoin v xs := hn.later ho.out (Later.refl v) (fun _ => List.mem_append_left _)
  obtain ⟨v1, o1, l1, _, _⟩ := runS_out a xs s v ho hn1
  have hn2 : NoRejoin v1 (.endBlocker :: ys) := hn.later ho.out l1 (fun _ => List.mem_append_right _)
  rw [runS_append, runS_cons]
  rcases step_out (runS s xs) .endBlocker a v1 o1 with h | h
  · obtain ⟨v2, o2, l2, _, _, m2⟩ := h
    obtain ⟨_, _, _, _, m3⟩ := runS_out a ys _ v2 o2 (hn2.later o1.out l2 (fun _ => List.mem_cons_of_mem _))
    exact m3 (m2 s1 ups rfl hend)
  · exact absurd h (hn2.head a)

/-! ## frames for the unlock queues: everything but `unlockOne`, `dequeueMature`, `dequeue` leaves them alone -/

/-- time queue, matured queue and parameters are the same -/
structure QFrame (s t : State) : Prop where
  unlockQueue : t.unlockQueue = s.unlockQueue
  qUnlocks : t.qUnlocks = s.qUnlocks
  params : t.params = s.params

theorem QFrame.refl (s : State) : QFrame s s := ⟨rfl, rfl, rfl⟩
theorem QFrame.trans {s t u : State} (h1 : QFrame s t) (h2 : QFrame t u) : QFrame s u :=
  ⟨h2.unlockQueue.trans h1.unlockQueue, h2.qUnlocks.trans h1.qUnlocks, h2.params.trans h1.params⟩

theorem qf_vset (s : State) (a : Bytes) (v : Validator) : QFrame s (vset s a v) :=
  ⟨vset_unlockQueue s a v, vset_qUnlocks s a v, vset_params s a v⟩
theorem qf_tset (s : State) (d : String) (t : Token) : QFrame s (tset s d t) := ⟨rfl, rfl, rfl⟩

theorem IdxWrites.qframe {a : Bytes} {s t : State} (h : IdxWrites a s t) : QFrame s t :=
  ⟨h.unlockQueue, h.qUnlocks, h.params⟩

theorem IdxWrites.qf_vset {a : Bytes} {s t : State} (h : IdxWrites a s t) (b : Bytes) (w : Validator) :
    QFrame s (vset t b w) :=
  h.qframe.trans (Locking.qf_vset t b w)

theorem qf_foldl_idxRemove (b : Bytes) (cs : Coins) (st : State) :
    QFrame st (cs.foldl (fun s c => idxRemove s c.1 b) st) :=
  (idxWrites_idxRemoves b cs st).qframe

theorem qf_slashAll (s : State) (addr : Bytes) (v : Validator) (frac : Nat) : QFrame s (slashAll s addr v frac).1 := by
  have h := qf_foldl_idxRemove addr v.locking s
  rw [slashAll_fst]
  exact ⟨h.unlockQueue, h.qUnlocks, h.params⟩

theorem qf_slash (s : State) (p : Nat) (addr : Bytes) (v : Validator) (frac : Nat) (w : Validator) :
    QFrame s (vset (slashAll (rankRemove s p addr) addr v frac).1 addr w) :=
  ((idxWrites_rankRemove s p addr).qframe.trans (qf_slashAll _ addr v frac)).trans (qf_vset _ addr w)

theorem lockOne_qf (s s' : State) (now : Int) (b : Bytes) (coins : Coins) (h : lockOne s now b coins = .ok s') : QFrame s s' := by
  obtain ⟨_, _, w, _, hw, rfl, _⟩ := lockOne_writes h
  exact hw.qf_vset b w

theorem lock_qf (s s' : State) (now : Int) (reqs : List LockReq) (h : lock s now reqs = .ok s') : QFrame s s' := by
  obtain ⟨_, agg, _, h⟩ := lock_agg h
  exact foldlM_inv (fun b => QFrame s b) _ (fun b e b' hb hstep => hb.trans (lockOne_qf b b' now e.1 e.2 hstep)) _ _ _
    (QFrame.refl s) h

theorem unlockCore_qf (s s3 : State) (r : UnlockReq) (ex : Bool) (amt : Int) (h : unlockCore s r = .ok (s3, ex, amt)) :
    QFrame s s3 := by
  obtain ⟨_, _, w, _, hw, rfl, _⟩ := unlockCore_writes h
  exact hw.qf_vset _ w

theorem handleVote_qf (s s' : State) (now : Int) (vi : VoteInfo) (h : handleVote s now vi = .ok s') : QFrame s s' := by
  obtain ⟨v, _, h⟩ := handleVote_ok h
  rcases h with ⟨_, rfl⟩ | ⟨_, _, rfl⟩ | ⟨_, _, rfl⟩
  · exact QFrame.refl _
  · exact qf_vset _ _ _
  · exact qf_slash _ _ _ _ _ _

theorem handleVotes_qf (s s' : State) (now : Int) (votes : List VoteInfo) (h : handleVotes s now votes = .ok s') : QFrame s s' := by
  unfold handleVotes at h
  exact foldlM_inv (fun b => QFrame s b) _ (fun b x b' hb hstep => hb.trans (handleVote_qf b b' now x hstep)) _ _ _
    (QFrame.refl s) h

theorem handleEvidence_qf (s s' : State) (now height : Int) (maxAge : Option (Int × Int)) (e : Evidence)
    (h : handleEvidence s now height maxAge e = .ok s') : QFrame s s' := by
  rcases handleEvidence_ok h with ⟨_, rfl⟩ | ⟨v, _, _, _, _, rfl⟩
  · exact QFrame.refl _
  · exact qf_slash _ _ _ _ _ _

theorem onWeightChanged_qf (s s' : State) (token : String) (prev cur : Nat) (h : onWeightChanged s token prev cur = .ok s') :
    QFrame s s' := by
  refine onWeightChanged_inv (fun b => QFrame s b) ?_ h (QFrame.refl s)
  intro b e b' _ hb hstep
  obtain ⟨_, _, _, _, hw, rfl, _⟩ := weightStep_writes hstep
  exact hb.trans (hw.qf_vset _ _)

theorem updateTokens_qf (s s' : State) (weights : List (String × Nat)) (thresholds : List (String × Int))
    (h : updateTokens s weights thresholds = .ok s') : QFrame s s' := by
  obtain ⟨s1, h1, h2⟩ := updateTokens_ok h
  have hs1 : QFrame s s1 := by
    refine foldlM_inv (fun b => QFrame s b) _ ?_ _ _ _ (QFrame.refl s) h1
    intro b u b' hb hstep
    obtain ⟨tok, b2, heq, rfl⟩ := weightSet_ok hstep
    exact hb.trans ((onWeightChanged_qf b b2 _ _ _ heq).trans (qf_tset _ _ _))
  refine foldlM_inv (fun b => QFrame s b) _ ?_ _ _ _ hs1 h2
  intro b u b' hb hstep
  rcases thresholdSet_ok hstep with rfl | ⟨tok, th, rfl⟩
  · exact hb
  · exact hb.trans ⟨rfl, rfl, rfl⟩

theorem create_qf (hash160 : Bytes → Bytes) (hasAccount : Bytes → Bool) (s s' : State) (reqs : List CreateReq)
    (accs : List Bytes) (h : create hash160 hasAccount s reqs = .ok (s', accs)) : QFrame s s' := by
  rw [create_eq] at h
  refine foldlM_inv (fun (acc : State × List Bytes) => QFrame s acc.1) _ ?_ _ _ _ (QFrame.refl s) h
  intro acc r acc' hacc hstep
  rcases (createStep_ok hstep).2 with rfl | ⟨_, st, accs, rfl⟩
  · exact hacc
  · exact hacc.trans (qf_vset _ _ _)

theorem claim_qf (s s' : State) (reqs : List ClaimReq) (h : claim s reqs = .ok s') : QFrame s s' := by
  rw [claim_eq] at h
  refine foldlM_inv (fun b => QFrame s b) _ ?_ reqs s s' (QFrame.refl s) h
  intro b r b' hb hstep
  obtain ⟨u, _, rfl⟩ := claimStep_ok hstep
  exact hb.trans ⟨vset_unlockQueue _ _ _, vset_qUnlocks _ _ _, vset_params _ _ _⟩

theorem distributeReward_qf (s s' : State) (height : Int) (votes : List VoteInfo)
    (h : distributeReward s height votes = .ok s') : QFrame s s' := by
  rcases distributeReward_ok h with rfl | ⟨total, s₂, rg, rr, hgo, rfl⟩
  · exact QFrame.refl _
  · exact (distributeReward_go_inv (fun b => QFrame s b) (fun t b u g r ht _ => ht.trans (qf_vset t b _))
      total votes s _ _ _ (QFrame.refl s) hgo).trans ⟨rfl, rfl, rfl⟩

theorem updateRewardPool_qf (s s' : State) (height : Int) (gas grants : List Int)
    (h : updateRewardPool s height gas grants = .ok s') : QFrame s s' := by
  obtain ⟨p, rfl⟩ := updateRewardPool_ok h
  exact ⟨rfl, rfl, rfl⟩

theorem endBlocker_qf (s s' : State) (ups : List Update) (h : endBlocker s = .ok (s', ups)) : QFrame s s' :=
  C07.endBlocker_inv (fun b => QFrame s b) (fun _ _ ht => ht.trans ⟨rfl, rfl, rfl⟩)
    (fun t a _ ht _ _ => ht.trans (qf_vset t a _)) (fun t a _ ht _ _ => ht.trans (qf_vset t a _)) h (QFrame.refl s)

/-! ## record-level transitions: window counters and status of one validator -/

/-- what every writer except `handleVote` and EndBlocker does to a record: the window counters are
    kept, the validator does not become Active and does not become Downgrade -/
structure Quiet (v v' : Validator) : Prop where
  missed : v'.missed = v.missed
  offset : v'.offset = v.offset
  active : v'.status = .active → v.status = .active
  downgrade : v'.status = .downgrade → v.status = .downgrade

theorem Quiet.refl (v : Validator) : Quiet v v := ⟨rfl, rfl, id, id⟩
theorem Quiet.trans {u v w : Validator} (h1 : Quiet u v) (h2 : Quiet v w) : Quiet u w :=
  ⟨h2.missed.trans h1.missed, h2.offset.trans h1.offset, fun h => h1.active (h2.active h), fun h => h1.downgrade (h2.downgrade h)⟩

theorem quiet_of {v v' : Validator} (hm : v'.missed = v.missed) (ho : v'.offset = v.offset)
    (hs : v'.status = v.status ∨ v'.status = .pending ∨ v'.status = .inactive ∨ v'.status = .tombstoned) : Quiet v v' := by
  refine ⟨hm, ho, ?_, ?_⟩
  all_goals
    intro h
    rcases hs with h1 | h1 | h1 | h1
    · rw [← h1]; exact h
    · rw [h1] at h; cases h
    · rw [h1] at h; cases h
    · rw [h1] at h; cases h

/-- the record of `a` exists after the step and is related to the one before -/
def RecStep (R : Validator → Validator → Prop) (a : Bytes) (s s' : State) : Prop :=
  ∀ v, vget s a = some v → ∃ v', vget s' a = some v' ∧ R v v'

theorem RecStep.of_keep {R : Validator → Validator → Prop} (hR : ∀ v, R v v) {a : Bytes} {s s' : State} (k : Keep a s s') :
    RecStep R a s s' := fun v hv => ⟨v, k.vrec.trans hv, hR v⟩

theorem RecStep.trans {R : Validator → Validator → Prop} (hR : ∀ u v w, R u v → R v w → R u w) {a : Bytes} {s t u : State}
    (h1 : RecStep R a s t) (h2 : RecStep R a t u) : RecStep R a s u := by
  intro v hv
  obtain ⟨v1, hv1, r1⟩ := h1 v hv
  obtain ⟨v2, hv2, r2⟩ := h2 v1 hv1
  exact ⟨v2, hv2, hR _ _ _ r1 r2⟩

theorem quiet_refl_step (a : Bytes) (s : State) : RecStep Quiet a s s := fun v hv => ⟨v, hv, Quiet.refl v⟩

theorem quiet_trans {a : Bytes} {s t u : State} (h1 : RecStep Quiet a s t) (h2 : RecStep Quiet a t u) : RecStep Quiet a s u :=
  RecStep.trans (R := Quiet) (fun _ _ _ q1 q2 => q1.trans q2) h1 h2

theorem quiet_keep {a : Bytes} {s t : State} (k : Keep a s t) : RecStep Quiet a s t := RecStep.of_keep Quiet.refl k

/-- rewriting one record: related at that address, untouched elsewhere -/
theorem RecStep.vset {R : Validator → Validator → Prop} (hR : ∀ v, R v v) (a : Bytes) {t : State} {b : Bytes}
    {u u' : Validator} (hu : vget t b = some u) (r : R u u') : RecStep R a t (vset t b u') := by
  intro w hw
  by_cases hab : b = a
  · subst hab
    obtain rfl : u = w := Option.some.inj (hu.symm.trans hw)
    exact ⟨u', vget_vset_same t b u', r⟩
  · exact ⟨w, (vget_vset_other t b a u' hab).trans hw, hR w⟩

/-- index writes at `b`, then its record rewritten -/
theorem IdxWrites.quiet {b : Bytes} {s t : State} (hw : IdxWrites b s t) {v w : Validator}
    (hv : vget s b = some v) (q : Quiet v w) (a : Bytes) : RecStep Quiet a s (vset t b w) :=
  fun u hu => RecStep.vset Quiet.refl a ((hw.vget_eq b).trans hv) q u ((hw.vget_eq a).trans hu)

theorem lockOne_quiet (s s' : State) (now : Int) (a b : Bytes) (coins : Coins) (h : lockOne s now b coins = .ok s') :
    RecStep Quiet a s s' := by
  obtain ⟨v, _, w, hv, hw, rfl, _, hr, hst⟩ := lockOne_writes h
  exact hw.quiet hv (quiet_of hr.missed hr.offset (hst.elim Or.inl (fun k => Or.inr (Or.inl k)))) a

theorem unlockCore_quiet (s s3 : State) (r : UnlockReq) (ex : Bool) (amt : Int) (a : Bytes)
    (h : unlockCore s r = .ok (s3, ex, amt)) : RecStep Quiet a s s3 := by
  obtain ⟨v, _, w, hv, hw, rfl, _, hr, hst⟩ := unlockCore_writes h
  exact hw.quiet hv (quiet_of hr.missed hr.offset (hst.elim Or.inl (fun k => Or.inr (Or.inr (Or.inl k))))) a

theorem handleEvidence_quiet (s s' : State) (now height : Int) (maxAge : Option (Int × Int)) (e : Evidence) (a : Bytes)
    (h : handleEvidence s now height maxAge e = .ok s') : RecStep Quiet a s s' := by
  rcases handleEvidence_ok h with ⟨_, rfl⟩ | ⟨v, hv, _, _, _, rfl⟩
  · exact quiet_refl_step a _
  · exact quiet_trans (quiet_keep (keep_slash a s _ _ _ _))
      (RecStep.vset Quiet.refl a (((keep_slash e.address s _ _ _ _).vrec).trans hv)
        (quiet_of rfl rfl (Or.inr (Or.inr (Or.inr rfl)))))

theorem distributeReward_quiet (s s' : State) (height : Int) (votes : List VoteInfo) (a : Bytes)
    (h : distributeReward s height votes = .ok s') : RecStep Quiet a s s' := by
  rcases distributeReward_ok h with rfl | ⟨total, s₂, rg, rr, hgo, rfl⟩
  · exact quiet_refl_step a _
  · exact quiet_trans (distributeReward_go_inv (fun b => RecStep Quiet a s b)
        (fun t b u g r ht hu => quiet_trans ht (RecStep.vset Quiet.refl a hu (quiet_of rfl rfl (Or.inl rfl))))
        total votes s _ _ _ (quiet_refl_step a s) hgo)
      (quiet_keep (keep_of_eq rfl rfl rfl rfl rfl))

/-- **Request batches never touch the window counters, never activate and never demote** -/
theorem processRequests_quiet (hash160 : Bytes → Bytes) (hasAccount : Bytes → Bool) (s s' : State) (height now : Int)
    (R : Reqs) (accs : List Bytes) (a : Bytes)
    (h : processRequests hash160 hasAccount s height now R = .ok (s', accs)) : RecStep Quiet a s s' := by
  refine processRequests_inv (fun b => RecStep Quiet a s b) ?_ ?_ ?_ ?_ ?_ ?_ h (quiet_refl_step a s)
  · exact fun t t' k ht => quiet_trans ht (quiet_keep (k a))
  · intro prev cur t e t' _ ht hstep
    obtain ⟨v, _, _, hv, hw, rfl, _⟩ := weightStep_writes hstep
    refine quiet_trans ht (hw.quiet hv ?_ a)
    exact quiet_of rfl rfl (Or.inl rfl)
  · intro t b w hn _ ht
    refine quiet_trans ht (fun u hu => ⟨u, (vget_vset_other t b a w ?_).trans hu, Quiet.refl u⟩)
    rintro rfl
    rw [hu] at hn
    cases hn
  · exact fun t b coins t' _ ht hstep => quiet_trans ht (lockOne_quiet t t' now a b coins hstep)
  · exact fun t r t' ex amt ht hstep => quiet_trans ht (unlockCore_quiet t t' r ex amt a hstep)
  · exact fun t b u r g hu ht => quiet_trans ht (RecStep.vset Quiet.refl a hu (quiet_of rfl rfl (Or.inl rfl)))

/-! ## votes and EndBlocker: the window counters -/

/-- the vote records of a commit that report `a` absent -/
def absCount (a : Bytes) (votes : List VoteInfo) : Nat := (votes.filter (fun vi => vi.address == a && vi.absent)).length

theorem absCount_cons (a : Bytes) (vi : VoteInfo) (votes : List VoteInfo) :
    absCount a (vi :: votes) = absCount a [vi] + absCount a votes := by
  unfold absCount
  rw [List.filter_cons, List.filter_cons]
  split <;> simp <;> omega

/-- what vote handling does to a record, `n` absences of the validator being reported meanwhile: it
    stays Active only with at most `n` more missed blocks on its counter; it becomes Downgrade only from
    Active and only if the counter plus those absences reach the maximum `M` -/
structure VoteRel (M : Int) (n : Nat) (v v' : Validator) : Prop where
  active : v'.status = .active → v.status = .active ∧ v'.missed ≤ v.missed + n
  downgrade : v'.status = .downgrade → v.status = .downgrade ∨ (v.status = .active ∧ M ≤ ((v.missed + n : Nat) : Int))

theorem VoteRel.of_quiet {M : Int} {v v' : Validator} (q : Quiet v v') : VoteRel M 0 v v' :=
  ⟨fun h => ⟨q.active h, by rw [q.missed]; omega⟩, fun h => Or.inl (q.downgrade h)⟩

theorem VoteRel.same (M : Int) (n : Nat) (v : Validator) : VoteRel M n v v :=
  ⟨fun h => ⟨h, by omega⟩, fun h => Or.inl h⟩

theorem VoteRel.trans {M : Int} {n1 n2 : Nat} {u v w : Validator} (h1 : VoteRel M n1 u v) (h2 : VoteRel M n2 v w) :
    VoteRel M (n1 + n2) u w := by
  constructor
  · intro h
    obtain ⟨a1, a2⟩ := h2.active h
    obtain ⟨b1, b2⟩ := h1.active a1
    exact ⟨b1, by omega⟩
  · intro h
    rcases h2.downgrade h with d | ⟨d1, d2⟩
    · rcases h1.downgrade d with e | ⟨e1, e2⟩
      · exact Or.inl e
      · exact Or.inr ⟨e1, by push_cast at e2 ⊢; omega⟩
    · obtain ⟨b1, b2⟩ := h1.active d1
      exact Or.inr ⟨b1, by push_cast at d2 ⊢; omega⟩

theorem handleVote_rel (s s' : State) (now : Int) (vi : VoteInfo) (a : Bytes) (h : handleVote s now vi = .ok s') :
    RecStep (VoteRel s.params.maxMissed (absCount a [vi])) a s s' := by
  by_cases hab : vi.address = a
  · subst hab
    intro v hv
    have hn : (if vi.absent = true then v.missed + 1 else v.missed) = v.missed + absCount vi.address [vi] := by
      unfold absCount
      rw [List.filter_cons]
      cases hb : vi.absent <;> simp
    obtain ⟨w, hw, hc⟩ := handleVote_ok h
    obtain rfl : w = v := Option.some.inj (hw.symm.trans hv)
    rcases hc with ⟨_, rfl⟩ | ⟨hs, _, rfl⟩ | ⟨hs, hd, rfl⟩
    · exact ⟨w, hv, VoteRel.same _ _ w⟩
    · refine ⟨_, vget_vset_same _ _ _, ⟨fun _ => ⟨hs, ?_⟩, fun hdg => ?_⟩⟩
      · rw [← hn]; exact voteCounted_missed_le _ _ _
      · rw [voteCounted_status, hs] at hdg; cases hdg
    · refine ⟨_, vget_vset_same _ _ _, ⟨(fun hact => by cases hact), fun _ => Or.inr ⟨hs, ?_⟩⟩⟩
      rw [← hn]; exact hd
  · have hz : absCount a [vi] = 0 := by
      unfold absCount
      have : (vi.address == a) = false := by simpa using hab
      simp [this]
    rw [hz]
    exact RecStep.of_keep (fun v => VoteRel.same _ 0 v) (handleVote_other s s' now vi a hab h)

theorem handleVotes_rel (a : Bytes) (now : Int) (votes : List VoteInfo) : ∀ (s s' : State),
    handleVotes s now votes = .ok s' → RecStep (VoteRel s.params.maxMissed (absCount a votes)) a s s' := by
  induction votes with
  | nil =>
    intro s s' h
    unfold handleVotes at h
    have := foldlM_nil_ok _ _ _ h
    subst this
    exact fun v hv => ⟨v, hv, VoteRel.same _ _ v⟩
  | cons vi rest ih =>
    intro s s' h
    unfold handleVotes at h
    obtain ⟨s1, h1, h2⟩ := foldlM_cons_ok _ vi rest s s' h
    have r1 := handleVote_rel s s1 now vi a h1
    have r2 := ih s1 s' h2
    rw [(handleVote_qf s s1 now vi h1).params] at r2
    intro v hv
    obtain ⟨v1, hv1, q1⟩ := r1 v hv
    obtain ⟨v2, hv2, q2⟩ := r2 v1 hv1
    rw [absCount_cons]
    exact ⟨v2, hv2, q1.trans q2⟩

/-- **BeginBlock and the window counters of `a`** -/
theorem beginBlock_rel (s s' : State) (height now : Int) (votes : List VoteInfo) (maxAge : Option (Int × Int))
    (evs : List Evidence) (a : Bytes) (h : beginBlock s height now votes maxAge evs = .ok s') :
    RecStep (VoteRel s.params.maxMissed (absCount a votes)) a s s' := by
  obtain ⟨s1, s3, h1, h3, h⟩ := beginBlock_ok h
  have q1 := distributeReward_quiet s s1 height votes a h1
  have k2 := dequeueMature_keep s1 now a
  have r3 := handleVotes_rel a now votes _ s3 h3
  rw [k2.env.params, (distributeReward_qf s s1 height votes h1).params] at r3
  have q4 : RecStep Quiet a s3 s' :=
    foldlM_inv (fun b => RecStep Quiet a s3 b) _
      (fun b e b' hb hstep => quiet_trans hb (handleEvidence_quiet b b' now height maxAge e a hstep)) evs s3 s' (quiet_refl_step a s3) h
  intro v hv
  obtain ⟨v1, hv1, x1⟩ := q1 v hv
  obtain ⟨v3, hv3, x3⟩ := r3 v1 (k2.vrec.trans hv1)
  obtain ⟨v4, hv4, x4⟩ := q4 v3 hv3
  have := ((VoteRel.of_quiet (M := s.params.maxMissed) x1).trans x3).trans (VoteRel.of_quiet x4)
  simp only [Nat.zero_add, Nat.add_zero] at this
  exact ⟨v4, hv4, this⟩

/-- what EndBlocker does to a record: the counters do not grow, it never demotes, and a validator that
    becomes Active starts with both window counters at zero -/
structure ERel (v v' : Validator) : Prop where
  missed : v'.missed ≤ v.missed
  offset : v'.offset ≤ v.offset
  downgrade : v'.status = .downgrade → v.status = .downgrade
  active : v'.status = .active → v.status = .active ∨ (v'.missed = 0 ∧ v'.offset = 0)

theorem ERel.refl (v : Validator) : ERel v v := ⟨Nat.le_refl _, Nat.le_refl _, id, Or.inl⟩
theorem ERel.trans {u v w : Validator} (h1 : ERel u v) (h2 : ERel v w) : ERel u w := by
  refine ⟨Nat.le_trans h2.missed h1.missed, Nat.le_trans h2.offset h1.offset, fun h => h1.downgrade (h2.downgrade h), ?_⟩
  intro h
  rcases h2.active h with a | ⟨a1, a2⟩
  · rcases h1.active a with b | ⟨b1, b2⟩
    · exact Or.inl b
    · have := h2.missed; have := h2.offset
      exact Or.inr ⟨by omega, by omega⟩
  · exact Or.inr ⟨a1, a2⟩

theorem endBlocker_rel (s s' : State) (ups : List Update) (a : Bytes) (h : endBlocker s = .ok (s', ups)) :
    RecStep ERel a s s' := by
  have tr : ∀ {x y z : State}, RecStep ERel a x y → RecStep ERel a y z → RecStep ERel a x z :=
    fun h1 h2 => RecStep.trans (R := ERel) (fun _ _ _ q1 q2 => q1.trans q2) h1 h2
  refine C07.endBlocker_inv (fun b => RecStep ERel a s b) (fun t x ht => ht) (fun t b u ht hu _ => ?_) (fun t b u ht hu _ => ?_) h
    (fun v hv => ⟨v, hv, ERel.refl v⟩)
  · refine tr ht (RecStep.vset ERel.refl a hu ?_)
    exact ⟨Nat.zero_le _, Nat.zero_le _, (fun hd => by cases hd), fun _ => Or.inr ⟨rfl, rfl⟩⟩
  · refine tr ht (RecStep.vset ERel.refl a hu ?_)
    exact ⟨Nat.le_refl _, Nat.le_refl _, (fun hd => by cases hd), (fun ha => by cases ha)⟩

/-! ## `Link` through BeginBlock: establishing "out" at the level of the entry point -/

theorem Link.keep {a : Bytes} {s t : State} {v : Validator} (h : Link s a v) (k : Keep a s t) : Link t a v :=
  ⟨fun p hp => h.rank p (k.env.rank p hp), fun d x hp => h.idx d x (k.env.idx d x hp)⟩

theorem Link.of_out {a : Bytes} {s : State} {v : Validator} (h : OutRec s a v) : Link s a v :=
  ⟨fun p hp => absurd hp (h.unranked p), fun d x hp => absurd hp (h.unindexed d x)⟩

/-- rewriting the record of `a` itself without touching power and holding -/
theorem Link.vset_self {a : Bytes} {s t : State} {v w : Validator} (h : Link s a v) (he : Env a s t)
    (hp : w.power = v.power) (hl : w.locking = v.locking) : Link (vset t a w) a w := by
  have he' := he.trans (env_vset a t a w)
  exact ⟨fun p hq => by rw [hp]; exact h.rank p (he'.rank p hq), fun d x hq => by rw [hl]; exact h.idx d x (he'.idx d x hq)⟩

/-- `a` has a record that is linked and in status class `C`, or it is out with a record satisfying `O` -/
def LinkedOr (C O : Validator → Prop) (a : Bytes) (s : State) : Prop :=
  (∃ w, vget s a = some w ∧ C w ∧ Link s a w) ∨ (∃ w, OutRec s a w ∧ O w)

theorem LinkedOr.keep {C O : Validator → Prop} {a : Bytes} {s t : State} (h : LinkedOr C O a s) (k : Keep a s t) :
    LinkedOr C O a t := by
  rcases h with ⟨w, h1, h2, h3⟩ | ⟨w, h1, h2⟩
  · exact Or.inl ⟨w, k.vrec.trans h1, h2, h3.keep k⟩
  · exact Or.inr ⟨w, h1.keep k, h2⟩

/-- side conditions on the two classes of `LinkedOr` under which BeginBlock keeps it -/
structure LinkedOK (C O : Validator → Prop) (J : Int) : Prop where
  /-- `C` only depends on status and jail time -/
  cong : ∀ v w : Validator, w.status = v.status → w.jailedUntil = v.jailedUntil → C v → C w
  /-- `O` is kept when an out record moves further out -/
  later : ∀ v w : Validator, Later v w → 0 < outLevel v.status → O v → O w
  /-- a validator demoted now (jailed until `J`) is in one of the classes -/
  down : ∀ v' : Validator, v'.status = .downgrade → v'.jailedUntil = J → C v' ∨ O v'
  /-- a validator tombstoned now is in `O` -/
  tomb : ∀ v' : Validator, v'.status = .tombstoned → O v'

/-- rewriting a record without touching status, power, holding, jail time and key keeps `LinkedOr` -/
theorem LinkedOr.vset {C O : Validator → Prop} {J : Int} (ok : LinkedOK C O J) {a : Bytes} {t : State}
    (hl : LinkedOr C O a t) (b : Bytes) (u u' : Validator) (hu : vget t b = some u) (h1 : u'.status = u.status)
    (h2 : u'.power = u.power) (h3 : u'.locking = u.locking) (h4 : u'.jailedUntil = u.jailedUntil)
    (h5 : u'.pubkey = u.pubkey) : LinkedOr C O a (vset t b u') := by
  by_cases hab : b = a
  · subst hab
    rcases hl with ⟨w, k1, k2, k3⟩ | ⟨w, k1, k2⟩
    · obtain rfl : u = w := Option.some.inj (hu.symm.trans k1)
      exact Or.inl ⟨u', vget_vset_same _ _ _, ok.cong u u' h1 h4 k2, k3.vset_self (Env.refl _ t) h2 h3⟩
    · obtain rfl : u = w := Option.some.inj (hu.symm.trans k1.vrec)
      have e := env_vset b t b u'
      exact Or.inr ⟨u', ⟨vget_vset_same _ _ _, h1 ▸ k1.out, h2.trans k1.power, e.unranked k1.unranked, e.unindexed k1.unindexed⟩,
        ok.later u u' ⟨h4, Nat.le_of_eq (congrArg outLevel h1.symm), h5⟩ k1.out k2⟩
  · exact hl.keep (keep_vset_other a _ _ _ hab)

theorem handleVote_linked {C O : Validator → Prop} {J : Int} (ok : LinkedOK C O J) (s s' : State) (now : Int) (vi : VoteInfo)
    (a : Bytes) (hJ : J = now + s.params.downtimeJail) (hl : LinkedOr C O a s) (h : handleVote s now vi = .ok s') :
    LinkedOr C O a s' := by
  by_cases hab : vi.address = a
  · subst hab
    rcases hl with ⟨w, h1, h2, h3⟩ | ⟨w, h1, h2⟩
    · obtain ⟨w', hw', hc⟩ := handleVote_ok h
      obtain rfl : w' = w := Option.some.inj (hw'.symm.trans h1)
      rcases hc with ⟨_, rfl⟩ | ⟨_, _, rfl⟩ | ⟨hs, hd, _⟩
      · exact Or.inl ⟨w', h1, h2, h3⟩
      · exact LinkedOr.vset ok (Or.inl ⟨w', h1, h2, h3⟩) _ w' _ h1 rfl rfl rfl rfl rfl
      · obtain ⟨v', o, e1, e2, _⟩ := handleVote_establishes s s' now vi w' h1 hs h3 hd h
        rcases ok.down v' e1 (by rw [e2, hJ]) with c | c
        · exact Or.inl ⟨v', o.vrec, c, Link.of_out o⟩
        · exact Or.inr ⟨v', o, c⟩
    · obtain ⟨w', o, l, _⟩ := handleVote_out s s' now vi vi.address w h1 h
      exact Or.inr ⟨w', o, ok.later w w' l h1.out h2⟩
  · exact hl.keep (handleVote_other s s' now vi a hab h)

theorem handleEvidence_linked {C O : Validator → Prop} {J : Int} (ok : LinkedOK C O J) (s s' : State) (now height : Int)
    (maxAge : Option (Int × Int)) (e : Evidence) (a : Bytes) (hl : LinkedOr C O a s)
    (h : handleEvidence s now height maxAge e = .ok s') : LinkedOr C O a s' := by
  by_cases hab : e.address = a
  · subst hab
    rcases hl with ⟨w, h1, h2, h3⟩ | ⟨w, h1, h2⟩
    · rcases handleEvidence_ok h with ⟨_, rfl⟩ | ⟨w', hw', hs, hk, hfresh, _⟩
      · exact Or.inl ⟨w, h1, h2, h3⟩
      · obtain rfl : w' = w := Option.some.inj (hw'.symm.trans h1)
        obtain ⟨v', o, e1, _⟩ := handleEvidence_establishes s s' now height maxAge e w' hk hfresh h1 hs h3 h
        exact Or.inr ⟨v', o, ok.tomb v' e1⟩
    · obtain ⟨w', o, l, _⟩ := handleEvidence_out s s' now height maxAge e e.address w h1 h
      exact Or.inr ⟨w', o, ok.later w w' l h1.out h2⟩
  · exact hl.keep (handleEvidence_other s s' now height maxAge e a hab h)

theorem evidences_linked {C O : Validator → Prop} {J : Int} (ok : LinkedOK C O J) (now height : Int)
    (maxAge : Option (Int × Int)) (a : Bytes) (evs : List Evidence) (s s' : State) (hl : LinkedOr C O a s)
    (h : evs.foldlM (fun s e => handleEvidence s now height maxAge e) s = .ok s') : LinkedOr C O a s' :=
  foldlM_inv (fun b => LinkedOr C O a b) _ (fun b e b' hb hstep => handleEvidence_linked ok b b' now height maxAge e a hb hstep)
    evs s s' hl h

/-- BeginBlock up to (and including) the vote handling keeps `LinkedOr` -/
theorem beginBlock_votes_linked {C O : Validator → Prop} {J : Int} (ok : LinkedOK C O J) (s s1 s3 : State) (height now : Int)
    (votes : List VoteInfo) (a : Bytes) (hJ : J = now + s.params.downtimeJail) (hl : LinkedOr C O a s)
    (h1 : distributeReward s height votes = .ok s1) (h3 : handleVotes (dequeueMature s1 now) now votes = .ok s3) :
    LinkedOr C O a s3 ∧ s3.params = s.params := by
  have q1 := distributeReward_qf s s1 height votes h1
  have l1 : LinkedOr C O a s1 := by
    rcases distributeReward_ok h1 with rfl | ⟨total, s₂, rg, rr, hgo, rfl⟩
    · exact hl
    · exact (distributeReward_go_inv (fun b => LinkedOr C O a b) (fun t b u g r ht hu => ht.vset ok b u _ hu rfl rfl rfl rfl rfl)
        total votes s _ _ _ hl hgo).keep (keep_of_eq rfl rfl rfl rfl rfl)
  have l2 : LinkedOr C O a (dequeueMature s1 now) := l1.keep (dequeueMature_keep s1 now a)
  have p2 : (dequeueMature s1 now).params = s.params := (dequeueMature_keep s1 now a).env.params.trans q1.params
  unfold handleVotes at h3
  refine foldlM_inv (fun b => LinkedOr C O a b ∧ b.params = s.params) _ ?_ votes _ s3 ⟨l2, p2⟩ h3
  intro b x b' hb hstep
  exact ⟨handleVote_linked ok b b' now x a (by rw [hb.2]; exact hJ) hb.1 hstep, (handleVote_qf b b' now x hstep).params.trans hb.2⟩

/-! ## `Link` at every reachable state

  `LA s a`: the record of `a` (if any) has a holding with positive entries only (a proper `sdk.Coins`),
  its ranking / index entries are the ones the record accounts for (`Link`), a validator that is neither
  Active nor Pending has no entries at all, and an address without record has none.  Every writer keeps
  `LA` (given slash fractions ≤ 1); it holds trivially in the empty state. -/

/-- `Link`, positive holding, and no entries when out -/
structure LinkedPos (s : State) (a : Bytes) (v : Validator) : Prop where
  pos : Pos v.locking
  link : Link s a v
  out : 0 < outLevel v.status → Unranked s a ∧ Unindexed s a

def LA (s : State) (a : Bytes) : Prop :=
  (∀ v, vget s a = some v → LinkedPos s a v) ∧ (vget s a = none → Unranked s a ∧ Unindexed s a)

theorem LinkedPos.keep {a : Bytes} {s t : State} {v : Validator} (h : LinkedPos s a v) (k : Keep a s t) : LinkedPos t a v :=
  ⟨h.pos, h.link.keep k, fun ho => ⟨k.env.unranked (h.out ho).1, k.env.unindexed (h.out ho).2⟩⟩

theorem LA.keep {a : Bytes} {s t : State} (h : LA s a) (k : Keep a s t) : LA t a := by
  refine ⟨fun v hv => (h.1 v (k.vrec.symm.trans hv)).keep k, fun hn => ?_⟩
  obtain ⟨h1, h2⟩ := h.2 (k.vrec.symm.trans hn)
  exact ⟨k.env.unranked h1, k.env.unindexed h2⟩

/-- after `vset` on `a` itself: `LA` from `LinkedPos` of the new record -/
theorem LA.of_vset {a : Bytes} {t : State} {w : Validator} (h : LinkedPos (vset t a w) a w) : LA (vset t a w) a := by
  refine ⟨fun v hv => ?_, fun hn => ?_⟩
  · rw [vget_vset_same] at hv; cases hv; exact h
  · rw [vget_vset_same] at hn; cases hn

theorem mem_rank_ite (S : State) (pw : Nat) (a : Bytes) (p : Nat)
    (h : (p, a) ∈ (if pw > 0 then rankSet S pw a else S).ranking) : p = pw ∨ (p, a) ∈ S.ranking := by
  split at h
  · exact ((mem_rankSet_iff S pw a _).mp h).elim Or.inr (fun k => Or.inl (congrArg Prod.fst k))
  · exact Or.inr h

theorem LinkedPos.of_out {s : State} {a : Bytes} {v : Validator} (ho : OutRec s a v) (hp : Pos v.locking) : LinkedPos s a v :=
  ⟨hp, Link.of_out ho, fun _ => ⟨ho.unranked, ho.unindexed⟩⟩

theorem LA.of_linkedPos {s : State} {a : Bytes} {v : Validator} (hv : vget s a = some v) (hl : LinkedPos s a v) : LA s a :=
  ⟨fun w hw => by rw [hv] at hw; cases hw; exact hl, fun hn => by rw [hv] at hn; cases hn⟩

/-- the new record of `a` is Active / Pending and accounts for the entries of `a` -/
theorem LA.vset_in {t : State} {a : Bytes} {w : Validator} (hp : Pos w.locking) (hl : Link t a w)
    (hin : ¬ 0 < outLevel w.status) : LA (vset t a w) a :=
  LA.of_vset ⟨hp, ⟨hl.rank, hl.idx⟩, fun ho => absurd ho hin⟩

/-- nothing of `a` is ranked or indexed -/
theorem LA.vset_out {t : State} {a : Bytes} {w : Validator} (hp : Pos w.locking) (hr : Unranked t a) (hi : Unindexed t a) :
    LA (vset t a w) a :=
  LA.of_vset ⟨hp, ⟨fun p h => absurd h (hr p), fun d x h => absurd h (hi d x)⟩, fun _ => ⟨hr, hi⟩⟩

/-- rewriting a record, power / holding / status class untouched -/
theorem LA.vset {t : State} {a : Bytes} (h : LA t a) (b : Bytes) (u u' : Validator) (hu : vget t b = some u)
    (hp : u'.power = u.power) (hl : u'.locking = u.locking) (hs : 0 < outLevel u'.status → 0 < outLevel u.status) :
    LA (vset t b u') a := by
  by_cases hab : b = a
  · subst hab
    have l := h.1 u hu
    exact LA.of_vset ⟨hl ▸ l.pos, ⟨fun p k => hp ▸ l.link.rank p k, fun d x k => hl ▸ l.link.idx d x k⟩, fun ho => l.out (hs ho)⟩
  · exact h.keep (keep_vset_other a _ _ _ hab)

/-- once the ranking entry of a linked validator is removed it is not ranked -/
theorem Link.unranked_rankRemove {s : State} {a : Bytes} {v : Validator} (hl : Link s a v) :
    Unranked (rankRemove s v.power a) a := by
  intro p hp
  rw [mem_rankRemove_iff] at hp
  exact hp.2 (by rw [hl.rank p hp.1])

/-- ranking an unranked validator with the power of its new record -/
theorem link_rank_ite {t : State} {a : Bytes} {w : Validator} {pw : Nat} (hpw : w.power = pw) (hr : Unranked t a)
    (hi : ∀ d x, ((d, a), x) ∈ t.lockingIdx → d ∈ w.locking.map (·.1)) :
    Link (if pw > 0 then rankSet t pw a else t) a w := by
  refine ⟨fun p hp => ?_, fun d x hp => hi d x (rank_ite_lockingIdx t pw a ▸ hp)⟩
  rcases mem_rank_ite t pw a p hp with k | k
  · exact k.trans hpw.symm
  · exact absurd k (hr p)

theorem out_of_not_elig {st : Status} (ha : st ≠ .active) (hp : st ≠ .pending) : 0 < outLevel st := by
  cases st
  · exact absurd rfl hp
  · exact absurd rfl ha
  all_goals decide

theorem lockOne_la (s s' : State) (now : Int) (a b : Bytes) (coins : Coins) (hc : Pos coins) (h : LA s a)
    (hok : lockOne s now b coins = .ok s') : LA s' a := by
  by_cases hab : b = a
  · subst hab
    obtain ⟨v, hv, hcase⟩ := lockOne_ok hok
    have hl := h.1 v hv
    have hpos : Pos (addCoins v.locking coins) := pos_addCoins _ _ hl.pos hc.nonneg
    rcases hcase with ⟨hst, pw, s₂, rfl, rfl⟩ | ⟨⟨hst, _, _⟩, pw, s₂, rfl, rfl⟩ | ⟨_, rfl⟩
    · refine LA.vset_in hpos (link_rank_ite rfl ?_ ?_) ?_
      · intro p hp
        rw [idxSets_ranking] at hp
        exact hl.link.unranked_rankRemove p hp
      · intro d x hp
        rcases mem_idxSets b _ _ coins _ hp with ⟨h1, _⟩ | ⟨c, hc', heq⟩
        · exact keys_addCoins _ _ hl.pos hc d (Or.inl (hl.link.idx d x h1))
        · cases heq
          exact keys_addCoins _ _ hl.pos hc _ (Or.inr (List.mem_map_of_mem hc'))
      · show ¬ 0 < outLevel v.status
        rcases hst with hst | hst <;> rw [hst] <;> decide
    · obtain ⟨hu1, hu2⟩ := hl.out (by rw [hst]; decide)
      refine LA.vset_in hpos (link_rank_ite rfl ?_ ?_) (Nat.lt_irrefl 0)
      · intro p hp
        rw [idxSets_ranking] at hp
        exact hu1 p hp
      · intro d x hp
        rcases mem_idxSets b _ _ _ _ hp with ⟨h1, _⟩ | ⟨c, hc', heq⟩
        · exact absurd h1 (hu2 d x)
        · cases heq
          exact List.mem_map_of_mem hc'
    · exact LA.of_vset ⟨hpos, ⟨hl.link.rank, fun d x hp => keys_addCoins _ _ hl.pos hc d (Or.inl (hl.link.idx d x hp))⟩, hl.out⟩
  · exact h.keep (lockOne_other s s' now a b coins hab hok)

theorem unlockCore_la (s s3 : State) (r : UnlockReq) (ex : Bool) (amt : Int) (a : Bytes) (h : LA s a)
    (hok : unlockCore s r = .ok (s3, ex, amt)) : LA s3 a := by
  by_cases hab : r.validator = a
  · subst hab
    obtain ⟨v, tok, hv, _, hamt, _, _, hcase⟩ := unlockCore_ok hok
    have hl := h.1 v hv
    have hle : 0 ≤ amountOf v.locking r.token - amt := by
      rw [hamt]; unfold unlockAmount; split <;> omega
    have hpos := pos_setAmount v.locking r.token _ hl.pos hle
    have hur := hl.link.unranked_rankRemove
    rcases hcase with ⟨_, rfl⟩ | ⟨_, hst, pw, s₂, _, rfl, rfl⟩ | ⟨_, hna, hnp, rfl⟩
    · refine LA.vset_out hpos (fun p hp => hur p (idxRemoves_ranking _ _ _ ▸ hp)) (fun d x hp => ?_)
      obtain ⟨h1, h2⟩ := (mem_idxRemoves_iff _ _ _ _).mp hp
      exact h2 ⟨rfl, hl.link.idx d x h1⟩
    · refine LA.vset_in hpos (link_rank_ite rfl ?_ ?_) ?_
      · intro p hp
        split at hp
        · exact hur p hp
        · exact hur p hp
      · intro d x hp
        show d ∈ (setAmount v.locking r.token _).map (·.1)
        rw [keys_setAmount v.locking hl.pos r.token _ hle]
        split at hp
        · rename_i hz
          obtain ⟨h1, h2⟩ := (mem_idxRemove_iff _ _ _ _).mp hp
          exact Or.inr ⟨fun hd => h2 ⟨hd, rfl⟩, hl.link.idx d x h1⟩
        · rename_i hz
          rcases (mem_idxSet_iff _ _ _ _ _).mp hp with ⟨h1, h2⟩ | heq
          · exact Or.inr ⟨fun hd => h2 ⟨hd, rfl⟩, hl.link.idx d x h1⟩
          · cases heq
            exact Or.inl ⟨rfl, hz⟩
      · show ¬ 0 < outLevel v.status
        rcases hst with hst | hst <;> rw [hst] <;> decide
    · obtain ⟨hu1, hu2⟩ := hl.out (out_of_not_elig hna hnp)
      exact LA.vset_out hpos (fun p hp => hu1 p (mem_rankRemove s _ _ _ hp)) hu2
  · exact h.keep (unlockCore_other s s3 r ex amt a hab hok)

theorem slashAll_pos (s : State) (addr : Bytes) (v : Validator) (frac : Nat) (hp : Pos v.locking) (hf : frac ≤ e18) :
    Pos (slashAll s addr v frac).2 := by
  unfold slashAll
  generalize v.locking = cs at hp
  have key : ∀ (cs : Coins) (acc : State × Coins), Pos cs → Pos acc.2 → Pos (cs.foldl (slashStep addr frac) acc).2 := by
    intro cs
    induction cs with
    | nil => intro acc _ h; exact h
    | cons c cs ih =>
      intro acc hcs hacc
      rw [List.foldl_cons]
      refine ih _ (fun x hx => hcs x (List.mem_cons_of_mem _ hx)) ?_
      have hc := hcs c List.mem_cons_self
      have hb := slashAmount_le c.2.toNat frac hf
      simp only [slashStep]
      generalize slashAmount c.2.toNat frac = a0 at hb ⊢
      by_cases hz : (a0 : Int) = 0
      · rw [if_pos hz]; exact hacc
      · rw [if_neg hz]
        exact pos_addCoin _ _ _ hacc (by omega)
  exact key cs (s, []) hp pos_nil

theorem handleVote_la (s s' : State) (now : Int) (vi : VoteInfo) (a : Bytes) (hf : s.params.slashDowntime ≤ e18) (h : LA s a)
    (hok : handleVote s now vi = .ok s') : LA s' a := by
  by_cases hab : vi.address = a
  · subst hab
    obtain ⟨v, hv, hc⟩ := handleVote_ok hok
    have hl := h.1 v hv
    rcases hc with ⟨_, rfl⟩ | ⟨_, _, rfl⟩ | ⟨_, _, rfl⟩
    · exact h
    · exact h.vset _ v _ hv rfl rfl id
    · exact LA.of_linkedPos (vget_vset_same _ _ _)
        (LinkedPos.of_out (slash_out hl.link _ rfl _ _ (Nat.zero_lt_succ _) rfl) (slashAll_pos _ _ _ _ hl.pos hf))
  · exact h.keep (handleVote_other s s' now vi a hab hok)

theorem handleEvidence_la (s s' : State) (now height : Int) (maxAge : Option (Int × Int)) (e : Evidence) (a : Bytes)
    (hf : s.params.slashDoubleSign ≤ e18) (h : LA s a) (hok : handleEvidence s now height maxAge e = .ok s') : LA s' a := by
  by_cases hab : e.address = a
  · subst hab
    rcases handleEvidence_ok hok with ⟨_, rfl⟩ | ⟨v, hv, _, _, _, rfl⟩
    · exact h
    · have hl := h.1 v hv
      exact LA.of_linkedPos (vget_vset_same _ _ _)
        (LinkedPos.of_out (slash_out hl.link v rfl _ _ (Nat.zero_lt_succ _) rfl) (slashAll_pos _ _ _ _ hl.pos hf))
  · exact h.keep (handleEvidence_other s s' now height maxAge e a hab hok)

theorem weightStep_la {prev cur : Nat} {b b' : State} {e : (String × Bytes) × Int} {a : Bytes} (h : LA b a)
    (he : e ∈ b.lockingIdx) (hstep : weightStep prev cur b e = .ok b') : LA b' a := by
  obtain ⟨v, s₀, p', hv, hw, rfl, rfl⟩ := weightStep_writes hstep
  by_cases hab : e.1.2 = a
  · subst hab
    have hl := h.1 v hv
    -- the validator holds the entry `e`, so it is not out
    exact LA.vset_in hl.pos (link_rank_ite rfl hl.link.unranked_rankRemove hl.link.idx)
      (fun ho => (hl.out ho).2 e.1.1 e.2 he)
  · exact h.keep (hw.keep_vset hab _)

/-- what EndBlocker keeps of a record: power, holding, and whether it is Active/Pending or out -/
structure SamePL (v v' : Validator) : Prop where
  power : v'.power = v.power
  locking : v'.locking = v.locking
  cls : 0 < outLevel v'.status ↔ 0 < outLevel v.status

theorem SamePL.refl (v : Validator) : SamePL v v := ⟨rfl, rfl, Iff.rfl⟩
theorem SamePL.trans {u v w : Validator} (h1 : SamePL u v) (h2 : SamePL v w) : SamePL u w :=
  ⟨h2.power.trans h1.power, h2.locking.trans h1.locking, h2.cls.trans h1.cls⟩

/-- ranking and index unchanged; the record of `a` (if any) changed within `SamePL` -/
structure EB (a : Bytes) (s b : State) : Prop where
  ranking : b.ranking = s.ranking
  lockingIdx : b.lockingIdx = s.lockingIdx
  absent : vget s a = none → vget b a = none
  present : ∀ v, vget s a = some v → ∃ v', vget b a = some v' ∧ SamePL v v'

theorem EB.refl (a : Bytes) (s : State) : EB a s s := ⟨rfl, rfl, id, fun v hv => ⟨v, hv, SamePL.refl v⟩⟩

theorem EB.valset {a : Bytes} {s b : State} (h : EB a s b) (x : List (Bytes × Nat)) : EB a s { b with valset := x } :=
  ⟨h.ranking, h.lockingIdx, h.absent, h.present⟩

theorem EB.vset {a : Bytes} {s b : State} (h : EB a s b) (addr : Bytes) (u w : Validator) (hu : vget b addr = some u)
    (hw : SamePL u w) : EB a s (vset b addr w) := by
  refine ⟨(vset_ranking b addr w).trans h.ranking, (by unfold Locking.vset; rfl : (Locking.vset b addr w).lockingIdx = b.lockingIdx).trans h.lockingIdx, ?_, ?_⟩
  · intro hn
    by_cases hab : addr = a
    · subst hab; rw [h.absent hn] at hu; cases hu
    · rw [vget_vset_other b addr a w hab]; exact h.absent hn
  · intro v hv
    obtain ⟨v', hv', hs⟩ := h.present v hv
    by_cases hab : addr = a
    · subst hab
      rw [hu] at hv'; cases hv'
      exact ⟨w, vget_vset_same b addr w, hs.trans hw⟩
    · exact ⟨v', (vget_vset_other b addr a w hab).trans hv', hs⟩

theorem LA.of_eb {a : Bytes} {s s' : State} (h : LA s a) (e : EB a s s') : LA s' a := by
  constructor
  · intro v' hv'
    cases hv : vget s a with
    | none => rw [e.absent hv] at hv'; cases hv'
    | some v =>
      obtain ⟨w, hw, hs⟩ := e.present v hv
      rw [hv'] at hw; cases hw
      have l := h.1 v hv
      refine ⟨hs.locking ▸ l.pos, ⟨?_, ?_⟩, fun ho => ?_⟩
      · intro p hp; rw [e.ranking] at hp; rw [hs.power]; exact l.link.rank p hp
      · intro d x hp; rw [e.lockingIdx] at hp; rw [hs.locking]; exact l.link.idx d x hp
      · obtain ⟨h1, h2⟩ := l.out (hs.cls.mp ho)
        exact ⟨fun p hp => h1 p (e.ranking ▸ hp), fun d x hp => h2 d x (e.lockingIdx ▸ hp)⟩
  · intro hn'
    cases hv : vget s a with
    | none =>
      obtain ⟨h1, h2⟩ := h.2 hv
      exact ⟨fun p hp => h1 p (e.ranking ▸ hp), fun d x hp => h2 d x (e.lockingIdx ▸ hp)⟩
    | some v =>
      obtain ⟨w, hw, _⟩ := e.present v hv
      rw [hn'] at hw; cases hw

theorem endBlocker_eb (s s' : State) (ups : List Update) (a : Bytes) (h : endBlocker s = .ok (s', ups)) : EB a s s' := by
  refine C07.endBlocker_inv (fun b => EB a s b) (fun t x ht => ht.valset x) (fun t b u ht hu hst => ht.vset b u _ hu ⟨rfl, rfl, ?_⟩)
    (fun t b u ht hu hst => ht.vset b u _ hu ⟨rfl, rfl, ?_⟩) h (EB.refl a s)
  · rw [hst]; exact Iff.rfl
  · rw [hst]; exact Iff.rfl

theorem endBlocker_la (s s' : State) (ups : List Update) (a : Bytes) (h : LA s a) (hok : endBlocker s = .ok (s', ups)) :
    LA s' a := h.of_eb (endBlocker_eb s s' ups a hok)

theorem processRequests_la (hash160 : Bytes → Bytes) (hasAccount : Bytes → Bool) (s s' : State) (height now : Int)
    (R : Reqs) (accs : List Bytes) (a : Bytes) (h : LA s a)
    (hok : processRequests hash160 hasAccount s height now R = .ok (s', accs)) : LA s' a := by
  refine processRequests_inv (fun b => LA b a) ?_ ?_ ?_ ?_ ?_ ?_ hok h
  · exact fun t t' k ht => ht.keep (k a)
  · exact fun prev cur t e t' he ht hstep => weightStep_la ht he hstep
  · intro t b w hn hw ht
    by_cases hab : b = a
    · subst hab
      obtain ⟨h1, h2⟩ := ht.2 hn
      exact LA.vset_out (hw ▸ pos_nil) h1 h2
    · exact ht.keep (keep_vset_other a _ _ _ hab)
  · exact fun t b coins t' hc ht hstep => lockOne_la t t' now a b coins hc ht hstep
  · exact fun t r t' ex amt ht hstep => unlockCore_la t t' r ex amt a ht hstep
  · exact fun t b u r g hu ht => ht.vset b u _ hu rfl rfl id

theorem beginBlock_la (s s' : State) (height now : Int) (votes : List VoteInfo) (maxAge : Option (Int × Int))
    (evs : List Evidence) (a : Bytes) (hf : C11H.ParamsOK s) (h : LA s a)
    (hok : beginBlock s height now votes maxAge evs = .ok s') : LA s' a := by
  refine (beginBlock_inv (fun b => LA b a ∧ b.params = s.params) ?_ ?_ ?_ ?_ hok ⟨h, rfl⟩).1
  · exact fun t t' k ht => ⟨ht.1.keep (k a), (k a).env.params.trans ht.2⟩
  · exact fun t b u r g hu ht => ⟨ht.1.vset b u _ hu rfl rfl id, (vset_params t b _).trans ht.2⟩
  · exact fun t vi t' ht hstep => ⟨handleVote_la t t' now vi a (by rw [ht.2]; exact hf.1) ht.1 hstep,
      (handleVote_qf t t' now vi hstep).params.trans ht.2⟩
  · exact fun t e t' ht hstep => ⟨handleEvidence_la t t' now height maxAge e a (by rw [ht.2]; exact hf.2) ht.1 hstep,
      (handleEvidence_qf t t' now height maxAge e hstep).params.trans ht.2⟩

theorem processRequests_params (hash160 : Bytes → Bytes) (hasAccount : Bytes → Bool) (s s' : State) (height now : Int)
    (R : Reqs) (accs : List Bytes) (hok : processRequests hash160 hasAccount s height now R = .ok (s', accs)) :
    s'.params = s.params := by
  refine processRequests_inv (fun b => b.params = s.params) ?_ ?_ ?_ ?_ ?_ ?_ hok rfl
  · exact fun t t' k ht => (k []).env.params.trans ht
  · intro prev cur t e t' _ ht hstep
    obtain ⟨_, _, _, _, hw, rfl, _⟩ := weightStep_writes hstep
    exact (hw.qf_vset _ _).params.trans ht
  · exact fun t b w _ _ ht => (vset_params t b w).trans ht
  · exact fun t b coins t' _ ht hstep => (lockOne_qf t t' now b coins hstep).params.trans ht
  · exact fun t r t' ex amt ht hstep => (unlockCore_qf t t' r ex amt hstep).params.trans ht
  · exact fun t b u r g _ ht => (vset_params t b _).trans ht

theorem beginBlock_params (s s' : State) (height now : Int) (votes : List VoteInfo) (maxAge : Option (Int × Int))
    (evs : List Evidence) (hok : beginBlock s height now votes maxAge evs = .ok s') : s'.params = s.params := by
  refine beginBlock_inv (fun b => b.params = s.params) ?_ ?_ ?_ ?_ hok rfl
  · exact fun t t' k ht => (k []).env.params.trans ht
  · exact fun t b u r g _ ht => (vset_params t b _).trans ht
  · exact fun t vi t' ht hstep => (handleVote_qf t t' now vi hstep).params.trans ht
  · exact fun t e t' ht hstep => (handleEvidence_qf t t' now height maxAge e hstep).params.trans ht

/-- **the parameters never change** -/
theorem step_params (s : State) (op : Op) : (step s op).params = s.params := by
  rcases step_cases s op with h | ⟨_, _, _, _, _, _, _, h⟩ | ⟨_, _, _, _, _, _, h⟩ | ⟨_, _, h⟩ | ⟨_, h⟩
  · rw [h]
  · exact processRequests_params _ _ s _ _ _ _ _ h
  · exact beginBlock_params s _ _ _ _ _ _ h
  · exact (endBlocker_qf s _ _ h).params
  · rw [h]; exact (dequeue_keep s []).env.params

theorem runS_params (ops : List Op) : ∀ s : State, (runS s ops).params = s.params := by
  induction ops with
  | nil => intro s; rfl
  | cons op ops ih => intro s; rw [runS_cons, ih, step_params]

/-- **every operation keeps `LA`** (slash fractions ≤ 1) -/
theorem step_la (s : State) (op : Op) (a : Bytes) (hf : C11H.ParamsOK s) (h : LA s a) : LA (step s op) a := by
  rcases step_cases s op with k | ⟨_, _, _, _, _, _, _, k⟩ | ⟨_, _, _, _, _, _, k⟩ | ⟨_, _, k⟩ | ⟨_, k⟩
  · rw [k]; exact h
  · exact processRequests_la _ _ s _ _ _ _ _ a h k
  · exact beginBlock_la s _ _ _ _ _ _ a hf h k
  · exact endBlocker_la s _ _ a h k
  · rw [k]; exact h.keep (dequeue_keep s a)

/-- **`LA` along every history** -/
theorem runS_la (ops : List Op) : ∀ (s : State), C11H.ParamsOK s → (∀ a, LA s a) → ∀ a, LA (runS s ops) a := by
  induction ops with
  | nil => intro s _ h; exact h
  | cons op ops ih =>
    intro s hf h
    rw [runS_cons]
    refine ih (step s op) ?_ (fun a => step_la s op a hf (h a))
    exact C11H.paramsOK_congr (step_params s op) hf

/-- the empty state (no validators, nothing ranked or indexed) satisfies `LA` -/
theorem genesis_la (p : Params) (a : Bytes) : LA (C11H.genesis p) a :=
  ⟨(fun v hv => by cases hv), fun _ => ⟨(fun _ hp => by cases hp), (fun _ _ hp => by cases hp)⟩⟩

/-- **`Link` at every reachable state**: from the empty state with slash fractions ≤ 1, after any history
    every validator record is linked (entries as the record accounts for, none when out). -/
theorem reachable_linked (p : Params) (hp : p.slashDowntime ≤ e18 ∧ p.slashDoubleSign ≤ e18) (ops : List Op) (a : Bytes)
    (v : Validator) (hv : vget (runS (C11H.genesis p) ops) a = some v) : LinkedPos (runS (C11H.genesis p) ops) a v :=
  (runS_la ops (C11H.genesis p) hp (genesis_la p) a).1 v hv

end Goat.Locking
