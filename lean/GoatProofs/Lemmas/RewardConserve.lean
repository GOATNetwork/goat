/-
  Helper lemmas for C12H (history-level reward accounting):
  the projection of a locking state to the part the reward measures read (`rview`), sums of
  natural-number shares, and the arithmetic of the rounding dust of `distributeReward`.
-/
import GoatModel.Locking
import GoatProofs.Lemmas.Locking
import GoatProofs.Lemmas.Arith
import GoatProofs.Lemmas.LockingConserve
namespace Goat.Locking

theorem isum_map_natCast {α : Type} (f : α → Nat) (l : List α) :
    isum (l.map (fun x => ((f x : Nat) : Int))) = (((l.map f).sum : Nat) : Int) := by
  induction l with
  | nil => rfl
  | cons x xs ih => simp [ih]

theorem isum_map_eq_zero {α : Type} (f : α → Int) (l : List α) (h : ∀ x ∈ l, f x = 0) : isum (l.map f) = 0 := by
  induction l with
  | nil => rfl
  | cons x xs ih =>
    rw [List.map_cons, isum_cons, h x List.mem_cons_self, ih (fun y hy => h y (List.mem_cons_of_mem _ hy))]; rfl

theorem isum_map_concat {α : Type} (f : α → Int) (l : List α) (x : α) : isum ((l ++ [x]).map f) = isum (l.map f) + f x := by
  rw [List.map_append, isum_append]
  exact congrArg _ (Int.add_zero _)

theorem isum_map_add {α : Type} (f g : α → Int) (l : List α) :
    isum (l.map (fun x => f x + g x)) = isum (l.map f) + isum (l.map g) := by
  induction l with
  | nil => rfl
  | cons x xs ih => simp [ih]; omega

/-! ### integer identities of the reward ledger -/

/-- income `G` and emission `e`: the grant and the goat pool together grow by the income -/
theorem income_emit_sum (r g G e : Int) : r + G - e + (g + e) = r + g + G := by omega

/-- `d` moves from a pool `P` to the accrued rewards `A` -/
theorem pool_to_accrued_sum (P A Q d : Int) : P - d + (A + d + Q) = P + (A + Q) := by omega

/-- `r` moves from the accrued rewards `A` to the queue `Q` -/
theorem accrued_to_queue_sum (A Q r : Int) : A + -r + (Q + r) = A + Q := by omega

/-- a step that pays `p` and takes in `g` keeps total + paid − taken in -/
theorem ledger_step {T₁ T₀ p g : Int} (P G : Int) (h : T₁ + p = T₀ + g) : T₁ + (P + p) - (G + g) = T₀ + P - G := by omega

theorem add_eq_add_of_sub_eq_sub {x g y l : Int} (h : x - g = y - l) : g + y = x + l := by omega

/-! ### the part of a state the reward measures read -/

/-- parameters, the three pools, the queue of claimed rewards, and every validator's accrued
    (reward, gasReward) by address -/
structure RView where
  params : Params
  pool : Pool
  qRewards : List Reward
  rewards : List (Bytes × Int × Int)

def rw3 (e : Bytes × Validator) : Bytes × Int × Int := (e.1, e.2.reward, e.2.gasReward)

def rview (s : State) : RView :=
  { params := s.params, pool := s.pool, qRewards := s.qRewards, rewards := s.validators.map rw3 }

@[simp] theorem rview_rankRemove (s : State) (p : Nat) (a : Bytes) : rview (rankRemove s p a) = rview s := rfl
@[simp] theorem rview_rankSet (s : State) (p : Nat) (a : Bytes) : rview (rankSet s p a) = rview s := by
  unfold rankSet; split <;> rfl
@[simp] theorem rview_idxSet (s : State) (d : String) (a : Bytes) (x : Int) : rview (idxSet s d a x) = rview s := rfl
@[simp] theorem rview_idxRemove (s : State) (d : String) (a : Bytes) : rview (idxRemove s d a) = rview s := rfl
@[simp] theorem rview_tset (s : State) (d : String) (t : Token) : rview (tset s d t) = rview s := rfl
@[simp] theorem rview_slashedAdd (s : State) (d : String) (x : Int) : rview (slashedAdd s d x) = rview s := rfl
@[simp] theorem rview_enqueueUnlock (s : State) (t : Int) (u : Unlock) : rview (enqueueUnlock s t u) = rview s := rfl

/-- the reward measures read neither the ranking nor the locking index -/
theorem IdxWrites.rview {a : Bytes} {s t : State} (h : IdxWrites a s t) : rview t = rview s := by
  unfold Locking.rview; rw [h.params, h.pool, h.qRewards, h.validators]

theorem vget_eq_aget (s : State) (a : Bytes) : vget s a = aget s.validators a := rfl

theorem rget_rview (s : State) (a : Bytes) :
    aget (rview s).rewards a = (vget s a).map (fun v => (v.reward, v.gasReward)) :=
  aget_map (fun v : Validator => (v.reward, v.gasReward)) s.validators a

theorem rview_vset (s : State) (a : Bytes) (v : Validator) :
    rview (vset s a v) = { rview s with rewards := aset (rview s).rewards a (v.reward, v.gasReward) } :=
  congrArg (fun r => { rview s with rewards := r }) (aset_map (fun v : Validator => (v.reward, v.gasReward)) s.validators a v)

/-- writing a record with the accrued rewards the validator has, in a state with the same view, keeps the view -/
theorem rview_vset_same {s t : State} {a : Bytes} {v v' : Validator} (hk : AKeys (rview s).rewards)
    (hv : vget s a = some v) (ht : rview t = rview s) (h1 : v'.reward = v.reward) (h2 : v'.gasReward = v.gasReward) :
    rview (vset t a v') = rview s := by
  rw [rview_vset, ht, h1, h2, aset_same _ _ _ hk (by rw [rget_rview, hv]; rfl)]

/-! ### powers and shares -/

theorem foldl_add_eq (l : List VoteInfo) (acc : Int) :
    l.foldl (fun acc v => acc + v.power) acc = acc + isum (l.map (·.power)) := by
  induction l generalizing acc with
  | nil => simp
  | cons v vs ih => rw [List.foldl_cons, ih]; simp; omega

theorem toNat_isum (l : List Int) (h : ∀ x ∈ l, 0 ≤ x) : (isum l).toNat = (l.map Int.toNat).sum := by
  induction l with
  | nil => rfl
  | cons x xs ih =>
    have h2 : ∀ y ∈ xs, 0 ≤ y := fun y hy => h y (List.mem_cons_of_mem _ hy)
    rw [isum_cons, List.map_cons, List.sum_cons, Int.toNat_add (h x List.mem_cons_self) (isum_nonneg xs h2), ih h2]

/-! ### rounding dust of a distribution -/

/-- each share misses the exact proportional amount `P·p/t` by less than `1 + P/10¹⁸`:
    `P·p·10¹⁸ < (share + 1)·10¹⁸·t + P·t` -/
theorem share_lower (P p t : Nat) (ht : 0 < t) :
    P * p * e18 < (mulTruncInt P (decQuoTruncate p t) + 1) * e18 * t + P * t := by
  rw [mulTruncInt_eq, decQuoTruncate_eq]
  have hE := e18_pos
  generalize e18 = E at hE ⊢
  have h1 : p * E < p * E / t * t + t := Nat.lt_div_mul_add ht
  have h2 : P * (p * E / t) < P * (p * E / t) / E * E + E := Nat.lt_div_mul_add hE
  generalize p * E / t = f at h1 h2 ⊢
  generalize P * f / E = s at h2 ⊢
  have a1 : P * (p * E) ≤ P * (f * t + t) := Nat.mul_le_mul_left _ (Nat.le_of_lt h1)
  have a2 : (P * f) * t < (s * E + E) * t := Nat.mul_lt_mul_of_pos_right h2 ht
  grind

theorem shares_lower_aux (P t : Nat) (ht : 0 < t) (l : List Nat) :
    P * l.sum * e18 + l.length
      ≤ ((l.map (fun p => mulTruncInt P (decQuoTruncate p t))).sum + l.length) * e18 * t + l.length * (P * t) := by
  induction l with
  | nil => simp
  | cons a as ih =>
    have h := share_lower P a t ht
    simp only [List.sum_cons, List.map_cons, List.length_cons]
    generalize mulTruncInt P (decQuoTruncate a t) = s at h ⊢
    generalize (as.map (fun p => mulTruncInt P (decQuoTruncate p t))).sum = S at ih ⊢
    generalize e18 = E at h ih ⊢
    grind

/-- **rounding dust**: what a distribution among `n` validators leaves in a pool `P` is less than
    `n·(1 + P/10¹⁸)`: `P·10¹⁸ < (Σ shares)·10¹⁸ + n·(10¹⁸ + P)` -/
theorem dust_lt (P : Nat) (ps : List Nat) (ht : 0 < ps.sum) :
    P * e18 < (ps.map (fun p => mulTruncInt P (decQuoTruncate p ps.sum))).sum * e18 + ps.length * (e18 + P) := by
  have h := shares_lower_aux P ps.sum ht ps
  have hn : 0 < ps.length := by
    cases ps with
    | nil => simp at ht
    | cons a as => simp
  generalize (ps.map (fun p => mulTruncInt P (decQuoTruncate p ps.sum))).sum = S at h ⊢
  generalize ps.length = n at h hn ⊢
  generalize ps.sum = T at h ht ⊢
  generalize e18 = E at h ⊢
  have h' : (P * E) * T < (S * E + n * (E + P)) * T := by grind
  exact Nat.lt_of_mul_lt_mul_right h'

end Goat.Locking
