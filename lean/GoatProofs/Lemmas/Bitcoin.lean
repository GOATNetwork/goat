import GoatModel.Bitcoin
import GoatProofs.Lemmas.Outcome
import GoatProofs.Lemmas.RelayerGroup
/-
  The model's finite maps keyed by numbers (`nlookup` / `ninsert`): reading after writing; the key
  tags `PubKey.validate` admits; what `Params.Validate` demands; `taxOf` where nothing wraps.
-/
namespace Goat.Bitcoin

/-- a key that passes `Validate` carries tag 0 (compressed secp256k1) or 1 (x-only) -/
theorem validate_kind {pk : PubKey} (h : pk.validate = true) : pk.kind = 0 ∨ pk.kind = 1 := by
  unfold PubKey.validate at h
  by_cases h0 : pk.kind = 0
  · exact Or.inl h0
  · by_cases h1 : pk.kind = 1
    · exact Or.inr h1
    · rw [if_neg h0, if_neg h1] at h
      cases h

theorem nlookup_ninsert {α} (m : List (Nat × α)) (k j : Nat) (v : α) :
    nlookup (ninsert m k v) j = if k = j then some v else nlookup m j :=
  (alookup_ainsert m k j v).trans (ite_congr (propext eq_comm) (fun _ => rfl) (fun _ => rfl))

theorem nlookup_ninsert_same {α} (m : List (Nat × α)) (k : Nat) (v : α) : nlookup (ninsert m k v) k = some v :=
  (nlookup_ninsert m k k v).trans (if_pos rfl)

theorem nlookup_ninsert_other {α} (m : List (Nat × α)) (k j : Nat) (v : α) (hkj : k ≠ j) :
    nlookup (ninsert m k v) j = nlookup m j :=
  (nlookup_ninsert m k j v).trans (if_neg hkj)

/-- `Params.Validate`, clause by clause -/
theorem paramsValidate_iff (p : Params) : paramsValidate p = true ↔
    1000 ≤ p.minDeposit ∧ p.magic.length = 4 ∧ p.confirmations ≠ 0 ∧
    (if p.taxRate > 0 then p.maxTax ≠ 0 ∧ p.taxRate < 10000 ∧ p.maxTax ≤ 100000000 else p.maxTax = 0) := by
  unfold paramsValidate
  rw [guard_false_true_iff, guard_false_true_iff, guard_false_true_iff, Nat.not_lt, Decidable.not_not]
  by_cases hr : p.taxRate > 0
  · rw [if_pos hr, if_pos hr, guard_false_true_iff, guard_false_true_iff, not_or, Nat.not_le, Nat.not_lt, and_assoc]
    simp only [and_true]
  · rw [if_neg hr, if_neg hr, guard_false_true_iff, Decidable.not_not]
    simp only [and_true]

theorem add_sub_mod {v t m : Nat} (ht : t ≤ v) (hv : v < m) : (v + m - t) % m = v - t := by
  rw [Nat.sub_add_comm ht, Nat.add_mod_right, Nat.mod_eq_of_lt (Nat.lt_of_le_of_lt (Nat.sub_le v t) hv)]

/-- `taxOf` for a rate below 100 % and a 64-bit value: neither the product nor the subtraction wraps,
    so the tax is the capped product and the rest is what remains of the value -/
theorem taxOf_spec (p : Params) (v : Nat) (hr : p.taxRate < 10000) (hv : v < two64) :
    (taxOf p v).2 =
      (if p.taxRate > 0 ∧ v > 10000 then
        (if p.maxTax > 0 ∧ v / 10000 * p.taxRate > p.maxTax then p.maxTax else v / 10000 * p.taxRate)
      else 0) ∧
    (taxOf p v).2 ≤ v / 10000 * p.taxRate ∧ (taxOf p v).1 = v - (taxOf p v).2 := by
  have hle : v / 10000 * p.taxRate ≤ v :=
    Nat.le_trans (Nat.mul_le_mul_left _ (Nat.le_of_lt hr)) (Nat.div_mul_le_self v 10000)
  unfold taxOf
  by_cases hc : p.taxRate > 0 ∧ v > 10000
  · rw [if_pos hc, if_pos hc]
    dsimp only
    rw [Nat.mod_eq_of_lt (Nat.lt_of_le_of_lt hle hv)]
    generalize ht : (if p.maxTax > 0 ∧ v / 10000 * p.taxRate > p.maxTax then p.maxTax else v / 10000 * p.taxRate) = t
    have htle : t ≤ v / 10000 * p.taxRate := by
      rw [← ht]
      split
      · exact Nat.le_of_lt (And.right ‹_›)
      · exact Nat.le_refl _
    exact ⟨rfl, htle, add_sub_mod (Nat.le_trans htle hle) hv⟩
  · rw [if_neg hc, if_neg hc]; exact ⟨rfl, Nat.zero_le _, rfl⟩

end Goat.Bitcoin
