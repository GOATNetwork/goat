/-
  What a step does to the statuses of the withdrawal table, over `C05.Respects`: the summary `Trans`
  (along the edges, with the ids that newly become paid and newly become cancelled), its composition,
  and the steps that rewrite or create one entry.  C05H states every bridge handler in these terms.
-/
import GoatModel.Bitcoin
import GoatProofs.Lemmas.Bitcoin
import GoatProofs.C05
namespace Goat.C05H
open Goat.Bitcoin Goat.C05

/-- not (yet) in a terminal status; unknown ids count as non-terminal -/
def NonTerminal (o : Option WStatus) : Prop := o ≠ some .paid ∧ o ≠ some .canceled

/-- Summary of what a step did to the withdrawal table: it respects the edges, `P` are exactly the
    ids that newly became paid, `R` exactly those that newly became cancelled (each listed once),
    and no other id entered a terminal status. -/
def Trans (s s' : State) (P R : List Nat) : Prop :=
  Respects s s' ∧ P.Nodup ∧ R.Nodup ∧ (∀ id ∈ P, id ∉ R) ∧
  (∀ id ∈ P, NonTerminal (statusOf s id) ∧ statusOf s' id = some .paid) ∧
  (∀ id ∈ R, NonTerminal (statusOf s id) ∧ statusOf s' id = some .canceled) ∧
  (∀ id, id ∉ P → id ∉ R → (statusOf s' id = some .paid → statusOf s id = some .paid) ∧
                             (statusOf s' id = some .canceled → statusOf s id = some .canceled))

theorem Trans.respects {s s' : State} {P R : List Nat} (h : Trans s s' P R) : Respects s s' := h.1

theorem statusOf_congr {s t : State} (h : s.withdrawals = t.withdrawals) (id : Nat) : statusOf s id = statusOf t id := by
  unfold statusOf; rw [h]

/-- `Trans` only looks at the withdrawal tables -/
theorem Trans.congr {a b s s' : State} {P R : List Nat} (h : Trans a b P R)
    (h1 : s.withdrawals = a.withdrawals) (h2 : s'.withdrawals = b.withdrawals) : Trans s s' P R := by
  unfold Trans Respects at *
  simp only [statusOf_congr h1, statusOf_congr h2]
  exact h

theorem Trans.refl (s : State) : Trans s s [] [] := by
  refine ⟨Respects.refl s, List.nodup_nil, List.nodup_nil, ?_, ?_, ?_, ?_⟩
  · intro id h; cases h
  · intro id h; cases h
  · intro id h; cases h
  · intro id _ _; exact ⟨fun h => h, fun h => h⟩

theorem Trans.of_eq {s s' : State} (h : s'.withdrawals = s.withdrawals) : Trans s s' [] [] :=
  (Trans.refl s).congr rfl h

theorem Trans.of_status_eq {a b : State} (h : ∀ id, statusOf b id = statusOf a id) : Trans a b [] [] := by
  unfold Trans Respects
  simp only [h]
  exact Trans.refl a

/-- a terminal status stays what it is along a respected step -/
theorem respects_paid {a b : State} (h : Respects a b) (id : Nat) (hp : statusOf a id = some .paid) :
    statusOf b id = some .paid := by
  obtain ⟨st', e, g⟩ := h id _ hp
  rw [e, terminal_absorbing _ _ g (Or.inl rfl)]

theorem respects_canceled {a b : State} (h : Respects a b) (id : Nat) (hp : statusOf a id = some .canceled) :
    statusOf b id = some .canceled := by
  obtain ⟨st', e, g⟩ := h id _ hp
  rw [e, terminal_absorbing _ _ g (Or.inr rfl)]

theorem nonTerminal_back {a b : State} (h : Respects a b) (id : Nat) (hn : NonTerminal (statusOf b id)) :
    NonTerminal (statusOf a id) :=
  ⟨fun hp => hn.1 (respects_paid h id hp), fun hc => hn.2 (respects_canceled h id hc)⟩

/-- sequential composition -/
theorem Trans.comp {a b c : State} {P1 R1 P2 R2 : List Nat} (h1 : Trans a b P1 R1) (h2 : Trans b c P2 R2) :
    Trans a c (P1 ++ P2) (R1 ++ R2) := by
  obtain ⟨r1, np1, nr1, d1, p1, c1, o1⟩ := h1
  obtain ⟨r2, np2, nr2, d2, p2, c2, o2⟩ := h2
  refine ⟨r1.trans r2, ?_, ?_, ?_, ?_, ?_, ?_⟩
  · rw [List.nodup_append]
    refine ⟨np1, np2, ?_⟩
    intro x hx y hy hxy
    subst hxy
    exact (p2 x hy).1.1 (p1 x hx).2
  · rw [List.nodup_append]
    refine ⟨nr1, nr2, ?_⟩
    intro x hx y hy hxy
    subst hxy
    exact (c2 x hy).1.2 (c1 x hx).2
  · intro id hp hr
    rw [List.mem_append] at hp hr
    rcases hp with hp | hp <;> rcases hr with hr | hr
    · exact d1 id hp hr
    · exact (c2 id hr).1.1 (p1 id hp).2
    · exact (p2 id hp).1.2 (c1 id hr).2
    · exact d2 id hp hr
  · intro id hp
    rw [List.mem_append] at hp
    rcases hp with hp | hp
    · exact ⟨(p1 id hp).1, respects_paid r2 id (p1 id hp).2⟩
    · exact ⟨nonTerminal_back r1 id (p2 id hp).1, (p2 id hp).2⟩
  · intro id hr
    rw [List.mem_append] at hr
    rcases hr with hr | hr
    · exact ⟨(c1 id hr).1, respects_canceled r2 id (c1 id hr).2⟩
    · exact ⟨nonTerminal_back r1 id (c2 id hr).1, (c2 id hr).2⟩
  · intro id hp hr
    rw [List.mem_append] at hp hr
    have hp1 : id ∉ P1 := fun h => hp (Or.inl h)
    have hp2 : id ∉ P2 := fun h => hp (Or.inr h)
    have hr1 : id ∉ R1 := fun h => hr (Or.inl h)
    have hr2 : id ∉ R2 := fun h => hr (Or.inr h)
    exact ⟨fun h => (o1 id hp1 hr1).1 ((o2 id hp2 hr2).1 h), fun h => (o1 id hp1 hr1).2 ((o2 id hp2 hr2).2 h)⟩

theorem Trans.comp_nil {a b c : State} {P R : List Nat} (h1 : Trans a b [] []) (h2 : Trans b c P R) : Trans a c P R := by
  simpa using h1.comp h2

theorem Trans.comp_nil_right {a b c : State} {P R : List Nat} (h1 : Trans a b P R) (h2 : Trans b c [] []) : Trans a c P R := by
  simpa using h1.comp h2

/-- status after a one-point update of the table -/
theorem statusOf_insert (s s1 : State) (id : Nat) (w' : Withdrawal) (hs1 : s1.withdrawals = ninsert s.withdrawals id w') (j : Nat) :
    statusOf s1 j = if id = j then some w'.status else statusOf s j := by
  unfold statusOf
  rw [hs1, nlookup_ninsert]
  by_cases h : id = j <;> simp [h]

/-- the table changes at `id` only, to status `new` along an edge; `hcls` says which summary applies:
    `id` newly paid, `id` newly cancelled, or `id` not newly terminal -/
theorem trans_point (s s1 : State) (id : Nat) (new : WStatus) (P R : List Nat)
    (hpt : ∀ j, statusOf s1 j = if id = j then some new else statusOf s j)
    (hedge : ∀ st, statusOf s id = some st → Edge st new)
    (hcls : (P = [id] ∧ R = [] ∧ new = .paid ∧ NonTerminal (statusOf s id)) ∨
            (P = [] ∧ R = [id] ∧ new = .canceled ∧ NonTerminal (statusOf s id)) ∨
            (P = [] ∧ R = [] ∧ (new = .paid → statusOf s id = some .paid) ∧ (new = .canceled → statusOf s id = some .canceled))) :
    Trans s s1 P R := by
  have hresp : Respects s s1 := by
    intro j st hj
    rw [hpt j]
    by_cases h : id = j
    · subst h
      simp only [if_true]
      exact ⟨new, rfl, hedge st hj⟩
    · simp only [h, if_false]
      exact ⟨st, hj, Or.inl rfl⟩
  have hother : ∀ j, j ≠ id → statusOf s1 j = statusOf s j := by
    intro j hj
    rw [hpt j]
    have : ¬ id = j := fun h => hj h.symm
    simp [this]
  have hself : statusOf s1 id = some new := by rw [hpt id]; simp
  rcases hcls with ⟨rfl, rfl, rfl, hn⟩ | ⟨rfl, rfl, rfl, hn⟩ | ⟨rfl, rfl, hp, hc⟩
  · refine ⟨hresp, by simp, by simp, by simp, ?_, by simp, ?_⟩
    · intro j hj
      simp only [List.mem_singleton] at hj
      subst hj
      exact ⟨hn, hself⟩
    · intro j hj _
      simp only [List.mem_singleton] at hj
      rw [hother j hj]
      exact ⟨fun h => h, fun h => h⟩
  · refine ⟨hresp, by simp, by simp, by simp, by simp, ?_, ?_⟩
    · intro j hj
      simp only [List.mem_singleton] at hj
      subst hj
      exact ⟨hn, hself⟩
    · intro j _ hj
      simp only [List.mem_singleton] at hj
      rw [hother j hj]
      exact ⟨fun h => h, fun h => h⟩
  · refine ⟨hresp, by simp, by simp, by simp, by simp, by simp, ?_⟩
    intro j _ _
    by_cases h : j = id
    · subst h
      rw [hself]
      constructor
      · intro e; exact hp (by simpa using e)
      · intro e; exact hc (by simpa using e)
    · rw [hother j h]
      exact ⟨fun h => h, fun h => h⟩

/-- an existing withdrawal is rewritten without entering a terminal status (or keeping its status) -/
theorem trans_update_same {s s1 : State} {id : Nat} {w w' : Withdrawal}
    (hw : nlookup s.withdrawals id = some w) (hs1 : s1.withdrawals = ninsert s.withdrawals id w')
    (he : Edge w.status w'.status)
    (hnt : w'.status = w.status ∨ (w'.status ≠ .paid ∧ w'.status ≠ .canceled)) : Trans s s1 [] [] := by
  have hst : statusOf s id = some w.status := by unfold statusOf; rw [hw]; rfl
  refine trans_point s s1 id w'.status [] [] (statusOf_insert s s1 id w' hs1) ?_ (Or.inr (Or.inr ⟨rfl, rfl, ?_, ?_⟩))
  · intro st h; rw [hst] at h; cases h; exact he
  · intro h
    rcases hnt with e | ⟨n, _⟩
    · rw [hst, ← e, h]
    · exact absurd h n
  · intro h
    rcases hnt with e | ⟨_, n⟩
    · rw [hst, ← e, h]
    · exact absurd h n

/-- an existing non-terminal withdrawal becomes paid -/
theorem trans_update_paid {s s1 : State} {id : Nat} {w w' : Withdrawal}
    (hw : nlookup s.withdrawals id = some w) (hs1 : s1.withdrawals = ninsert s.withdrawals id w')
    (he : Edge w.status w'.status) (hp : w'.status = .paid) (hn : w.status ≠ .paid ∧ w.status ≠ .canceled) :
    Trans s s1 [id] [] := by
  have hst : statusOf s id = some w.status := by unfold statusOf; rw [hw]; rfl
  refine trans_point s s1 id w'.status [id] [] (statusOf_insert s s1 id w' hs1) ?_ (Or.inl ⟨rfl, rfl, hp, ?_⟩)
  · intro st h; rw [hst] at h; cases h; exact he
  · rw [hst]; exact ⟨by simpa using hn.1, by simpa using hn.2⟩

/-- an existing non-terminal withdrawal becomes cancelled -/
theorem trans_update_canceled {s s1 : State} {id : Nat} {w w' : Withdrawal}
    (hw : nlookup s.withdrawals id = some w) (hs1 : s1.withdrawals = ninsert s.withdrawals id w')
    (he : Edge w.status w'.status) (hp : w'.status = .canceled) (hn : w.status ≠ .paid ∧ w.status ≠ .canceled) :
    Trans s s1 [] [id] := by
  have hst : statusOf s id = some w.status := by unfold statusOf; rw [hw]; rfl
  refine trans_point s s1 id w'.status [] [id] (statusOf_insert s s1 id w' hs1) ?_ (Or.inr (Or.inl ⟨rfl, rfl, hp, ?_⟩))
  · intro st h; rw [hst] at h; cases h; exact he
  · rw [hst]; exact ⟨by simpa using hn.1, by simpa using hn.2⟩

/-- a fresh id is created pending -/
theorem trans_create_pending {s s1 : State} {id : Nat} {w' : Withdrawal}
    (hw : nlookup s.withdrawals id = none) (hs1 : s1.withdrawals = ninsert s.withdrawals id w')
    (hp : w'.status = .pending) : Trans s s1 [] [] := by
  have hst : statusOf s id = none := by unfold statusOf; rw [hw]; rfl
  refine trans_point s s1 id w'.status [] [] (statusOf_insert s s1 id w' hs1) ?_ (Or.inr (Or.inr ⟨rfl, rfl, ?_, ?_⟩))
  · intro st h; rw [hst] at h; cases h
  · intro h; rw [hp] at h; cases h
  · intro h; rw [hp] at h; cases h

/-- a fresh id is created cancelled (refund at creation) -/
theorem trans_create_canceled {s s1 : State} {id : Nat} {w' : Withdrawal}
    (hw : nlookup s.withdrawals id = none) (hs1 : s1.withdrawals = ninsert s.withdrawals id w')
    (hp : w'.status = .canceled) : Trans s s1 [] [id] := by
  have hst : statusOf s id = none := by unfold statusOf; rw [hw]; rfl
  refine trans_point s s1 id w'.status [] [id] (statusOf_insert s s1 id w' hs1) ?_ (Or.inr (Or.inl ⟨rfl, rfl, hp, ?_⟩))
  · intro st h; rw [hst] at h; cases h
  · rw [hst]; exact ⟨by simp, by simp⟩

theorem edge_refl (a : WStatus) : Edge a a := Or.inl rfl

theorem count_nodup_mem {l : List Nat} (h : l.Nodup) {a : Nat} (ha : a ∈ l) : l.count a = 1 := by
  have h1 := List.nodup_iff_count.mp h a
  have h2 := List.count_pos_iff.mpr ha
  omega

end Goat.C05H
