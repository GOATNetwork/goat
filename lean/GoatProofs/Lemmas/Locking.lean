/-
  Association lists (the representation of the model's maps) and their keys; the primitive writers of
  the locking state (`vset`, `rankRemove`, `rankSet`, `idxSet`, `idxRemove`, `slashedAdd`): which record
  `vget` finds after `vset`, which fields each writer leaves alone; and successful monadic folds in `Outcome`.
-/
import GoatModel.Locking
namespace Goat.Locking

/-! ### lists -/

theorem drop_min_length {α : Type} (l : List α) (k : Nat) : l.drop (min l.length k) = l.drop k := by
  rw [Nat.min_comm, ← List.drop_eq_drop_min]

theorem take_min_length {α : Type} (l : List α) (k : Nat) : l.take (min l.length k) = l.take k := by
  rw [Nat.min_comm, ← List.take_eq_take_min]

/-! ### keys of an association list -/

theorem any_key {κ β} [BEq κ] [LawfulBEq κ] (l : List (κ × β)) (k : κ) :
    l.any (·.1 == k) = true ↔ k ∈ l.map (·.1) := by
  rw [List.any_eq_true, List.mem_map]
  exact ⟨fun ⟨e, he, hk⟩ => ⟨e, he, beq_iff_eq.mp hk⟩, fun ⟨e, he, hk⟩ => ⟨e, he, beq_iff_eq.mpr hk⟩⟩

theorem filter_key_ne {κ β} [BEq κ] [LawfulBEq κ] {l : List (κ × β)} {k : κ} (h : k ∉ l.map (·.1)) :
    l.filter (fun e => e.1 != k) = l :=
  List.filter_eq_self.2 fun e he => bne_iff_ne.2 fun hk => h (List.mem_map.2 ⟨e, he, hk⟩)

theorem mem_keys_filter_ne {κ β} [BEq κ] [LawfulBEq κ] (l : List (κ × β)) (a k : κ) (hak : a ≠ k) :
    a ∈ (l.filter (·.1 != k)).map (·.1) ↔ a ∈ l.map (·.1) := by
  simp only [List.mem_map, List.mem_filter]
  constructor
  · rintro ⟨y, ⟨hy, _⟩, rfl⟩; exact ⟨y, hy, rfl⟩
  · rintro ⟨y, hy, rfl⟩; exact ⟨y, ⟨hy, bne_iff_ne.mpr hak⟩, rfl⟩

/-- a key has at most one value in an association list with distinct keys -/
theorem assoc_unique {κ β} (l : List (κ × β)) (hn : (l.map (·.1)).Nodup) (k : κ) (v v' : β)
    (h1 : (k, v) ∈ l) (h2 : (k, v') ∈ l) : v = v' := by
  induction l with
  | nil => cases h1
  | cons e es ih =>
    simp only [List.map_cons, List.nodup_cons, List.mem_map, not_exists, not_and] at hn
    rcases List.mem_cons.1 h1 with h1 | h1 <;> rcases List.mem_cons.1 h2 with h2 | h2
    · rw [← h1] at h2; exact (Prod.mk.inj h2).2.symm ▸ rfl
    · exact absurd (by rw [← h1]) (hn.1 (k, v') h2)
    · exact absurd (by rw [← h2]) (hn.1 (k, v) h1)
    · exact ih hn.2 h1 h2

/-! ### validator map -/

theorem mem_of_vget {s : State} {a : Bytes} {v : Validator} (h : vget s a = some v) : (a, v) ∈ s.validators := by
  unfold vget at h
  obtain ⟨e, hf, rfl⟩ := Option.map_eq_some_iff.mp h
  have hk : e.1 = a := by simpa using List.find?_some hf
  exact hk ▸ List.mem_of_find?_eq_some hf

theorem any_of_vget {s : State} {a : Bytes} {v : Validator} (h : vget s a = some v) :
    s.validators.any (·.1 == a) = true :=
  (any_key s.validators a).mpr (List.mem_map.mpr ⟨(a, v), mem_of_vget h, rfl⟩)

theorem vget_of_mem {s : State} (hn : (s.validators.map (·.1)).Nodup) {a : Bytes} {v : Validator}
    (hv : (a, v) ∈ s.validators) : vget s a = some v := by
  unfold vget
  cases hf : s.validators.find? (fun e => e.1 == a) with
  | none => exact absurd (by simp) (List.find?_eq_none.1 hf (a, v) hv)
  | some e =>
    obtain ⟨a', v'⟩ := e
    obtain rfl : a' = a := by simpa using List.find?_some hf
    exact congrArg some (assoc_unique _ hn a' v' v (List.mem_of_find?_eq_some hf) hv)

theorem vget_vset_same (s : State) (a : Bytes) (v : Validator) : vget (vset s a v) a = some v := by
  unfold vget vset
  dsimp only
  split
  · -- the first entry with key `a` is mapped to `(a, v)`
    rename_i h
    generalize s.validators = l at h
    induction l with
    | nil => cases h
    | cons e es ih =>
      rw [List.map_cons, List.find?_cons]
      by_cases he : (e.1 == a) = true
      · rw [if_pos he, BEq.rfl]; rfl
      · rw [if_neg he, (Bool.not_eq_true _).mp he]
        rw [List.any_cons, (Bool.not_eq_true _).mp he, Bool.false_or] at h
        exact ih h
  · rename_i h
    rw [List.find?_append, List.find?_eq_none.mpr (fun e he hc => h (List.any_eq_true.mpr ⟨e, he, hc⟩))]
    simp only [Option.none_or, List.find?_cons, BEq.rfl, Option.map_some]

theorem find_map_other (l : List (Bytes × Validator)) (a b : Bytes) (v : Validator) (hab : a ≠ b) :
    ((l.map (fun e => if e.1 == a then (a, v) else e)).find? (fun e => e.1 == b)).map (·.2)
      = (l.find? (fun e => e.1 == b)).map (·.2) := by
  induction l with
  | nil => rfl
  | cons e es ih =>
    rw [List.map_cons, List.find?_cons, List.find?_cons]
    by_cases he : (e.1 == a) = true
    · rw [if_pos he, eq_of_beq he, beq_false_of_ne hab]
      exact ih
    · rw [if_neg he]
      cases hb : (e.1 == b)
      · exact ih
      · rfl

theorem vget_vset_other (s : State) (a b : Bytes) (v : Validator) (hab : a ≠ b) : vget (vset s a v) b = vget s b := by
  unfold vget vset
  by_cases h : s.validators.any (·.1 == a) = true
  · simp only [h, if_true]
    exact find_map_other s.validators a b v hab
  · simp only [h, if_false, Bool.false_eq_true]
    rw [List.find?_append]
    have hab' : (a == b) = false := by simp [hab]
    cases hf : List.find? (fun e => e.1 == b) s.validators <;> simp [hab']

@[simp] theorem vset_ranking (s : State) (a : Bytes) (v : Validator) : (vset s a v).ranking = s.ranking := by
  unfold vset; rfl
@[simp] theorem vset_valset (s : State) (a : Bytes) (v : Validator) : (vset s a v).valset = s.valset := by
  unfold vset; rfl
@[simp] theorem vset_pool (s : State) (a : Bytes) (v : Validator) : (vset s a v).pool = s.pool := by
  unfold vset; rfl
@[simp] theorem vset_params (s : State) (a : Bytes) (v : Validator) : (vset s a v).params = s.params := by
  unfold vset; rfl
@[simp] theorem vset_slashed (s : State) (a : Bytes) (v : Validator) : (vset s a v).slashed = s.slashed := by
  unfold vset; rfl
@[simp] theorem vset_unlockQueue (s : State) (a : Bytes) (v : Validator) : (vset s a v).unlockQueue = s.unlockQueue := by
  unfold vset; rfl
@[simp] theorem vset_qUnlocks (s : State) (a : Bytes) (v : Validator) : (vset s a v).qUnlocks = s.qUnlocks := by
  unfold vset; rfl
@[simp] theorem vset_qRewards (s : State) (a : Bytes) (v : Validator) : (vset s a v).qRewards = s.qRewards := by
  unfold vset; rfl
@[simp] theorem vset_tokens (s : State) (a : Bytes) (v : Validator) : (vset s a v).tokens = s.tokens := by
  unfold vset; rfl
@[simp] theorem vset_threshold (s : State) (a : Bytes) (v : Validator) : (vset s a v).threshold = s.threshold := by
  unfold vset; rfl
@[simp] theorem vset_lockingIdx (s : State) (a : Bytes) (v : Validator) : (vset s a v).lockingIdx = s.lockingIdx := rfl
@[simp] theorem vset_nonce (s : State) (a : Bytes) (v : Validator) : (vset s a v).nonce = s.nonce := rfl

@[simp] theorem rankRemove_validators (s : State) (p : Nat) (a : Bytes) : (rankRemove s p a).validators = s.validators := rfl
@[simp] theorem rankSet_validators (s : State) (p : Nat) (a : Bytes) : (rankSet s p a).validators = s.validators := by
  unfold rankSet; split <;> rfl
@[simp] theorem rankSet_lockingIdx (s : State) (p : Nat) (a : Bytes) : (rankSet s p a).lockingIdx = s.lockingIdx := by
  unfold rankSet; split <;> rfl
@[simp] theorem rankSet_valset (s : State) (p : Nat) (a : Bytes) : (rankSet s p a).valset = s.valset := by
  unfold rankSet; split <;> rfl
@[simp] theorem rankSet_params (s : State) (p : Nat) (a : Bytes) : (rankSet s p a).params = s.params := by
  unfold rankSet; split <;> rfl
@[simp] theorem idxSet_validators (s : State) (d : String) (a : Bytes) (x : Int) : (idxSet s d a x).validators = s.validators := rfl
@[simp] theorem idxRemove_validators (s : State) (d : String) (a : Bytes) : (idxRemove s d a).validators = s.validators := rfl
@[simp] theorem slashedAdd_validators (s : State) (d : String) (x : Int) : (slashedAdd s d x).validators = s.validators := rfl
@[simp] theorem idxSet_ranking (s : State) (d : String) (a : Bytes) (x : Int) : (idxSet s d a x).ranking = s.ranking := rfl
@[simp] theorem idxRemove_ranking (s : State) (d : String) (a : Bytes) : (idxRemove s d a).ranking = s.ranking := rfl
@[simp] theorem slashedAdd_ranking (s : State) (d : String) (x : Int) : (slashedAdd s d x).ranking = s.ranking := rfl
@[simp] theorem idxSet_valset (s : State) (d : String) (a : Bytes) (x : Int) : (idxSet s d a x).valset = s.valset := rfl
@[simp] theorem idxRemove_valset (s : State) (d : String) (a : Bytes) : (idxRemove s d a).valset = s.valset := rfl
@[simp] theorem slashedAdd_valset (s : State) (d : String) (x : Int) : (slashedAdd s d x).valset = s.valset := rfl
@[simp] theorem rankRemove_valset (s : State) (p : Nat) (a : Bytes) : (rankRemove s p a).valset = s.valset := rfl

theorem vget_congr (s t : State) (h : s.validators = t.validators) (a : Bytes) : vget s a = vget t a := by
  unfold vget; rw [h]

theorem rankRemove_not_mem (s : State) (p : Nat) (a : Bytes) : (p, a) ∉ (rankRemove s p a).ranking := by
  unfold rankRemove
  simp

theorem mem_rankRemove (s : State) (p : Nat) (a : Bytes) (e : Nat × Bytes) (h : e ∈ (rankRemove s p a).ranking) :
    e ∈ s.ranking := by
  unfold rankRemove at h
  exact (List.mem_filter.mp h).1

/-! ### successful folds -/

theorem bind_eq_ok {α β : Type} (x : Outcome α) (f : α → Outcome β) (b : β) :
    (x >>= f) = .ok b ↔ ∃ a, x = .ok a ∧ f a = .ok b := by
  cases x <;> simp [Bind.bind, Outcome.bind]

theorem foldlM_nil_ok {α β : Type} (f : β → α → Outcome β) (b b' : β) (h : ([] : List α).foldlM f b = .ok b') :
    b' = b := by
  have h' : (Outcome.ok b : Outcome β) = .ok b' := h
  cases h'; rfl

theorem foldlM_cons_ok {α β : Type} (f : β → α → Outcome β) (a : α) (l : List α) (b b' : β)
    (h : (a :: l).foldlM f b = .ok b') : ∃ b1, f b a = .ok b1 ∧ l.foldlM f b1 = .ok b' := by
  rw [List.foldlM_cons] at h
  exact (bind_eq_ok _ _ _).mp h

/-- an invariant of every successful step on a member of the list is an invariant of a successful fold -/
theorem foldlM_inv_mem {α β : Type} (P : β → Prop) (f : β → α → Outcome β) :
    ∀ (l : List α), (∀ b a b', a ∈ l → P b → f b a = .ok b' → P b') →
    ∀ (b b' : β), P b → l.foldlM f b = .ok b' → P b' := by
  intro l
  induction l with
  | nil => intro _ b b' hb h; rw [foldlM_nil_ok f b b' h]; exact hb
  | cons a l ih =>
    intro hf b b' hb h
    obtain ⟨b1, h1, h2⟩ := foldlM_cons_ok f a l b b' h
    exact ih (fun b a' b' ha' => hf b a' b' (List.mem_cons_of_mem _ ha')) b1 b'
      (hf b a b1 (List.mem_cons_self) hb h1) h2

theorem foldlM_inv {α β : Type} (P : β → Prop) (f : β → α → Outcome β)
    (hf : ∀ b a b', P b → f b a = .ok b' → P b') :
    ∀ (l : List α) (b b' : β), P b → l.foldlM f b = .ok b' → P b' :=
  fun l => foldlM_inv_mem P f l fun b a b' _ => hf b a b'

theorem foldlM_append_ok {α β : Type} (f : β → α → Outcome β) : ∀ (l l' : List α) (b b' : β),
    (l ++ l').foldlM f b = .ok b' → ∃ b1, l.foldlM f b = .ok b1 ∧ l'.foldlM f b1 = .ok b' := by
  intro l
  induction l with
  | nil => intro l' b b' h; exact ⟨b, rfl, h⟩
  | cons x xs ih =>
    intro l' b b' h
    obtain ⟨b0, h0, h1⟩ := foldlM_cons_ok f x (xs ++ l') b b' h
    obtain ⟨b1, h2, h3⟩ := ih l' b0 b' h1
    exact ⟨b1, (List.foldlM_cons ..).trans ((bind_eq_ok _ _ _).mpr ⟨b0, h0, h2⟩), h3⟩

/-- a monadic fold succeeds and establishes `Inv l` when each step, taken after any prefix `done` of
    `l`, succeeds and carries `Inv done` to `Inv (done ++ [x])` -/
theorem foldlM_steps {α σ : Type} {step : σ → α → Outcome σ} (Inv : List α → σ → Prop) (l : List α)
    (hstep : ∀ done x rest acc, l = done ++ x :: rest → Inv done acc →
      ∃ acc', step acc x = .ok acc' ∧ Inv (done ++ [x]) acc')
    {acc : σ} (h0 : Inv [] acc) : ∃ acc', l.foldlM step acc = .ok acc' ∧ Inv l acc' := by
  suffices H : ∀ rest done acc, l = done ++ rest → Inv done acc →
      ∃ acc', rest.foldlM step acc = .ok acc' ∧ Inv l acc' from H l [] acc rfl h0
  intro rest
  induction rest with
  | nil =>
    intro done acc hl hinv
    exact ⟨acc, rfl, by rw [hl, List.append_nil]; exact hinv⟩
  | cons x rest ih =>
    intro done acc hl hinv
    obtain ⟨acc1, h1, hinv1⟩ := hstep done x rest acc hl hinv
    obtain ⟨acc2, h2, hinv2⟩ := ih (done ++ [x]) acc1 (by rw [hl, List.append_assoc]; rfl) hinv1
    exact ⟨acc2, by rw [List.foldlM_cons, h1]; exact h2, hinv2⟩

/-- the first component of a successful monadic fold whose steps write it by `g` is the plain fold of `g` -/
theorem foldlM_fst_eq {α σ β : Type} (f : σ × β → α → Outcome (σ × β)) (g : σ → α → σ)
    (hf : ∀ acc x acc', f acc x = .ok acc' → acc'.1 = g acc.1 x) :
    ∀ (l : List α) (acc acc' : σ × β), l.foldlM f acc = .ok acc' → acc'.1 = l.foldl g acc.1 := by
  intro l
  induction l with
  | nil => intro acc acc' h; rw [foldlM_nil_ok f acc acc' h]; rfl
  | cons x l ih =>
    intro acc acc' h
    obtain ⟨acc1, h1, h2⟩ := foldlM_cons_ok f x l acc acc' h
    rw [ih acc1 acc' h2, hf acc x acc1 h1]; rfl

end Goat.Locking
