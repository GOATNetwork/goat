/-
  C08 — "a proposal built by an honest proposer is accepted by every honest validator", for the node's own
  PrepareProposal selection (GoatModel.Prepare): whatever the mempool holds — any number of transactions, any pattern of
  passing and failing ones — the proposal stays within the 16-transaction cap and ProcessProposal accepts it.
  (The seeded change C19-r4 — `>=` for `>` in ProcessProposal — is exactly the failure of `prepared_accepted` at a
  mempool of 15 or more passing transactions.)
-/
import GoatModel.Prepare
import GoatProofs.C08
namespace Goat.C08P
open Goat Goat.App Goat.Prepare

/-- the walk from any point: with room left (`sel`, reversed, holds at most 14), it ends with 15 selected or with all that pass -/
theorem walk_length (vs : List Bool) (i : Nat) (sel ev : List Nat) (h : sel.length + 1 < maxTxLen) :
    ((walk vs i sel ev).1).length = min 15 (sel.length + (vs.filter id).length) := by
  unfold maxTxLen at h
  induction vs generalizing i sel ev with
  | nil =>
    rw [walk, List.length_reverse, List.filter_nil, List.length_nil]
    omega
  | cons v vs ih =>
    cases v with
    | false => exact ih _ _ _ h
    | true =>
      have hf : ((true :: vs).filter id).length = (vs.filter id).length + 1 := rfl
      rw [walk, hf]
      unfold maxTxLen
      split
      · rw [List.length_reverse]
        rw [List.length_cons] at *
        omega
      · rw [ih (i + 1) (i :: sel) ev (Nat.lt_of_not_le ‹_›), List.length_cons]
        omega

/-- `walk_length` as separate bounds -/
theorem walk_spec : ∀ (vs : List Bool) (i : Nat) (sel ev : List Nat), sel.length + 1 < maxTxLen →
    ((walk vs i sel ev).1).length ≤ 15 ∧ sel.length ≤ ((walk vs i sel ev).1).length ∧
    ((walk vs i sel ev).1).length ≤ sel.length + (vs.filter id).length ∧
    (((walk vs i sel ev).1).length < 15 → ((walk vs i sel ev).1).length = sel.length + (vs.filter id).length) := by
  intro vs i sel ev h
  rw [walk_length vs i sel ev h]
  unfold maxTxLen at h
  omega

/-- **exactly min(15, number of passing transactions)**: nothing that passes is left out while there is room -/
theorem select_length (vs : List Bool) : (select vs).length = min 15 (vs.filter id).length := by
  rw [select, walk_length vs 0 [] [] (by decide), List.length_nil, Nat.zero_add]

/-- **at most 15 mempool transactions are selected** (with the block message: 16 = maxTxLen) -/
theorem select_le (vs : List Bool) : (select vs).length ≤ 15 := by
  rw [select_length]; exact Nat.min_le_left _ _

/-- the proposal never exceeds the cap ProcessProposal enforces -/
theorem prepared_size (vs : List Bool) (pl : Payload) (pr : Bytes) (st : String) :
    (proposal vs pl pr st).kinds.length ≤ maxTxLen := by
  have := select_le vs
  simp only [proposal, List.length_cons, List.length_replicate, maxTxLen]
  omega

/-- **Whatever the mempool holds, the node's own proposal is accepted**: with a payload the execution client built on
    the recorded head (parent, number + 1, recorded beacon root, the proposer as fee recipient, exactly the due system
    transactions first, one gas request, a past timestamp) that the validators' execution clients report VALID. -/
theorem prepared_accepted (g : GState) (dueB dueL : List String) (proposer : Bytes) (user : List String)
    (hash : Bytes) (blob : Nat) (hcap : dueB.length + dueL.length < 256) (verdicts : List Bool) :
    processProposal g dueB dueL
      (proposal verdicts
        { parentHash := g.head.blockHash, feeRecipient := proposer, blockNumber := g.head.blockNumber + 1, blockHash := hash,
          blobGasUsed := blob, beaconRoot := g.beaconRoot,
          extraData := UInt8.ofNat (dueB.length + dueL.length) :: List.replicate 32 0,
          txs := dueB ++ dueL ++ user, timestampInFuture := false } proposer "VALID") = .ok () :=
  C08.honest_accepted g dueB dueL proposer user (select verdicts).length (select_le verdicts) hash blob hcap

/-- a cap of 15 in ProcessProposal (`>=` for `>`) would refuse the node's own proposal as soon as 15 transactions pass:
    the boundary the two handlers must agree on -/
theorem full_proposal_has_16 (vs : List Bool) (h : 15 ≤ (vs.filter id).length) (pl : Payload) (pr : Bytes) (st : String) :
    (proposal vs pl pr st).kinds.length = 16 := by
  have := select_length vs
  simp only [proposal, List.length_cons, List.length_replicate]
  omega

/-- non-vacuity: a mempool of 20 passing and 3 failing transactions -/
example : select (List.replicate 2 true ++ [false, false] ++ List.replicate 18 true ++ [false]) =
    [0, 1, 4, 5, 6, 7, 8, 9, 10, 11, 12, 13, 14, 15, 16] ∧
    evicted (List.replicate 2 true ++ [false, false] ++ List.replicate 18 true ++ [false]) = [2, 3] := by decide +kernel

/-! ### the walk with the removal outcomes (`walkV`: what the stream compares with the real handler) -/

/-- the selected transactions do not depend on what was evicted so far -/
theorem walk_fst_indep (vs : List Bool) (i : Nat) (sel ev ev' : List Nat) :
    (walk vs i sel ev).1 = (walk vs i sel ev').1 := by
  induction vs generalizing i sel ev ev' with
  | nil => rfl
  | cons v vs ih =>
    cases v with
    | false => exact ih _ _ _ _
    | true =>
      rw [walk, walk]
      split
      · rfl
      · exact ih _ _ _ _

/-- **when the handler answers, it selected exactly what the pass/fail pattern alone determines** (so every theorem about
    `select` — the cap, "min(15, passing)", acceptance by ProcessProposal — is about the real handler's answer) -/
theorem walkV_ok_sel : ∀ (vs : List Verdict) (i : Nat) (sel ev : List Nat) (r : List Nat × List Nat × Nat),
    walkV vs i sel ev = .ok r → r.1 = (walk (vs.map Verdict.isPass) i sel ev).1
 := by
  intro vs
  induction vs with
  | nil => intro i sel ev r h; cases h; rfl
  | cons v vs ih =>
    intro i sel ev r h
    cases v with
    | evict => exact ih _ _ _ r h
    | notFound => exact (ih _ _ _ r h).trans (walk_fst_indep _ _ _ _ _)
    | removeErr => cases h
    | pass =>
      rw [walkV] at h
      show r.1 = (walk (true :: vs.map Verdict.isPass) i sel ev).1
      rw [walk]
      split at h
      · cases h; rw [if_pos ‹_›]
      · rw [if_neg ‹_›]; exact ih _ _ _ r h

/-- the handler's answer, from an empty start: at most 15 selected, exactly min(15, passing) -/
theorem walkV_ok_length (vs : List Verdict) (r : List Nat × List Nat × Nat) (h : walkV vs 0 [] [] = .ok r) :
    r.1.length = min 15 ((vs.map Verdict.isPass).filter id).length := by
  rw [walkV_ok_sel vs 0 [] [] r h]
  exact select_length _

/-- **the handler fails only on a removal error**: with a mempool whose removals succeed (or answer "not found") the
    walk always produces a proposal -/
theorem walkV_ok_of_no_removeErr : ∀ (vs : List Verdict) (i : Nat) (sel ev : List Nat),
    (∀ v ∈ vs, v ≠ .removeErr) → ∃ r, walkV vs i sel ev = .ok r
 := by
  intro vs
  induction vs with
  | nil => exact fun _ _ _ _ => ⟨_, rfl⟩
  | cons v vs ih =>
    intro i sel ev h
    have h' : ∀ v ∈ vs, v ≠ .removeErr := fun v hv => h v (List.mem_cons_of_mem _ hv)
    cases v with
    | evict => exact ih _ _ _ h'
    | notFound => exact ih _ _ _ h'
    | removeErr => exact absurd rfl (h .removeErr List.mem_cons_self)
    | pass =>
      rw [walkV]
      split
      · exact ⟨_, rfl⟩
      · exact ih _ _ _ h'

/-- a removal error met after the proposal is full is never seen: the walk has stopped -/
example : walkV (List.replicate 15 .pass ++ [.removeErr]) 0 [] [] =
    .ok ([0, 1, 2, 3, 4, 5, 6, 7, 8, 9, 10, 11, 12, 13, 14], [], 15) := by decide +kernel
example : walkV ([.pass, .evict, .notFound, .pass, .removeErr, .pass]) 0 [] [] = .err "mempool-remove" := by decide +kernel
example : walkV ([.pass, .evict, .notFound, .pass]) 0 [] [] = .ok ([0, 3], [1], 4) := by decide +kernel

/-- in a walk over `vs` that starts at index `i` and looks at the entries below `n`, entry `j` has verdict `x` -/
def Seen (vs : List Verdict) (i n : Nat) (x : Verdict) (j : Nat) : Prop :=
  ∃ k, j = k + i ∧ j < n ∧ vs[k]? = some x

theorem Seen.head {vs : List Verdict} {i n : Nat} {x : Verdict} (h : i < n) : Seen (x :: vs) i n x i :=
  ⟨0, (Nat.zero_add i).symm, h, rfl⟩

theorem Seen.tail {vs : List Verdict} {i n j : Nat} {x v : Verdict} : Seen vs (i + 1) n x j → Seen (v :: vs) i n x j
  | ⟨k, hj, hn, hk⟩ => ⟨k + 1, hj.trans (Nat.succ_add_eq_add_succ k i).symm, hn, hk⟩

/-- an index recorded at this entry or seen later was seen from here -/
theorem Seen.of_cons {vs : List Verdict} {i n j : Nat} {x : Verdict} {l : List Nat} (hn : i < n)
    (h : j ∈ i :: l ∨ Seen vs (i + 1) n x j) : j ∈ l ∨ Seen (x :: vs) i n x j := by
  rcases h with h | h
  · rcases List.mem_cons.mp h with rfl | h
    · exact Or.inr (.head hn)
    · exact Or.inl h
  · exact Or.inr h.tail

theorem le_cons_length {n i : Nat} {v : Verdict} {vs : List Verdict} (h : n ≤ i + 1 + vs.length) :
    n ≤ i + (v :: vs).length := by
  rw [List.length_cons]; omega

/-- **nothing is both selected and evicted, and everything reported was looked at**: the indices the handler selects are
    entries that passed, the ones it evicts are entries that failed with a successful removal, all below the number of
    entries it looked at -/
theorem walkV_ok_members (vs : List Verdict) (i : Nat) (sel ev : List Nat) (r : List Nat × List Nat × Nat)
    (h : walkV vs i sel ev = .ok r) :
    (∀ j ∈ r.1, j ∈ sel ∨ Seen vs i r.2.2 .pass j) ∧ (∀ j ∈ r.2.1, j ∈ ev ∨ Seen vs i r.2.2 .evict j) ∧
    i ≤ r.2.2 ∧ r.2.2 ≤ i + vs.length := by
  induction vs generalizing i sel ev with
  | nil =>
    cases h
    exact ⟨fun j hj => Or.inl (List.mem_reverse.mp hj), fun j hj => Or.inl (List.mem_reverse.mp hj), Nat.le_refl _, Nat.le_refl _⟩
  | cons v vs ih =>
    cases v with
    | evict =>
      obtain ⟨h1, h2, h3, h4⟩ := ih (i + 1) sel (i :: ev) h
      exact ⟨fun j hj => (h1 j hj).imp_right .tail, fun j hj => Seen.of_cons h3 (h2 j hj), Nat.le_of_succ_le h3,
        le_cons_length h4⟩
    | notFound =>
      obtain ⟨h1, h2, h3, h4⟩ := ih (i + 1) sel ev h
      exact ⟨fun j hj => (h1 j hj).imp_right .tail, fun j hj => (h2 j hj).imp_right .tail, Nat.le_of_succ_le h3,
        le_cons_length h4⟩
    | removeErr => cases h
    | pass =>
      rw [walkV] at h
      split at h
      · cases h
        exact ⟨fun j hj => Seen.of_cons (Nat.lt_succ_self i) (Or.inl (List.mem_reverse.mp hj)),
          fun j hj => Or.inl (List.mem_reverse.mp hj), Nat.le_succ i, Nat.add_le_add_left (Nat.le_add_left 1 _) i⟩
      · obtain ⟨h1, h2, h3, h4⟩ := ih (i + 1) (i :: sel) ev h
        exact ⟨fun j hj => Seen.of_cons h3 (h1 j hj), fun j hj => (h2 j hj).imp_right .tail, Nat.le_of_succ_le h3,
          le_cons_length h4⟩

theorem walkV_ok_sound (vs : List Verdict) (r : List Nat × List Nat × Nat) (h : walkV vs 0 [] [] = .ok r) :
    (∀ j ∈ r.1, j < r.2.2 ∧ vs[j]? = some .pass) ∧ (∀ j ∈ r.2.1, j < r.2.2 ∧ vs[j]? = some .evict) ∧ r.2.2 ≤ vs.length := by
  obtain ⟨h1, h2, _, h4⟩ := walkV_ok_members vs 0 [] [] r h
  have seen : ∀ {x j}, j ∈ [] ∨ Seen vs 0 r.2.2 x j → j < r.2.2 ∧ vs[j]? = some x := by
    rintro x j (h | ⟨k, rfl, hn, hk⟩)
    · cases h
    · exact ⟨hn, hk⟩
  exact ⟨fun j hj => seen (h1 j hj), fun j hj => seen (h2 j hj), by rwa [Nat.zero_add] at h4⟩
end Goat.C08P
