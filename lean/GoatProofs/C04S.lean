/-
  C04S: the model's SHA-256 always outputs 32 bytes.
-/
import GoatModel.Sha256
import GoatProofs.Lemmas.Bytes
namespace Goat.C04S
open Goat

theorem compress_size (h : Array UInt32) (m : ByteArray) (off : Nat) :
    (Sha256.compress h m off).size = 8 := by
  unfold Sha256.compress
  simp only [Id.run, bind, pure]
  rfl

theorem H0_size : Sha256.H0.size = 8 := rfl

theorem foldl_compress_size (m : ByteArray) (l : List Nat) :
    ∀ h : Array UInt32, h.size = 8 →
      (List.foldl (fun b a => Sha256.compress b m (a * 64)) h l).size = 8 := by
  induction l with
  | nil => intro h hh; simpa using hh
  | cons a l ih => intro h _; exact ih _ (compress_size h m (a * 64))

theorem foldl_push4_size (l : List UInt32) :
    ∀ out : ByteArray,
      (List.foldl
        (fun b a => (((b.push (a >>> 24).toUInt8).push (a >>> 16).toUInt8).push (a >>> 8).toUInt8).push a.toUInt8)
        out l).size = out.size + 4 * l.length := by
  induction l with
  | nil => intro out; simp
  | cons a l ih =>
    intro out
    rw [List.foldl_cons, ih]
    simp only [ByteArray.size_push, List.length_cons]
    omega

theorem hashBA_size (msg : ByteArray) : (Sha256.hashBA msg).size = 32 := by
  unfold Sha256.hashBA
  simp only [Std.Legacy.Range.forIn_eq_forIn_range', List.forIn_pure_yield_eq_foldl,
    Array.forIn_pure_yield_eq_foldl, pure_bind, bind_pure_comp, map_pure, Id.run_pure]
  rw [← Array.foldl_toList, foldl_push4_size, Array.length_toList,
    foldl_compress_size _ _ _ H0_size]
  rfl

theorem sha256_length (bs : Bytes) : (Sha256.sha256 bs).length = 32 := by
  unfold Sha256.sha256
  rw [byteArray_toList_length]
  exact hashBA_size _

theorem dsha256_length (bs : Bytes) : (Sha256.dsha256 bs).length = 32 := by
  unfold Sha256.dsha256
  rw [byteArray_toList_length]
  exact hashBA_size _

#print axioms compress_size
#print axioms hashBA_size
#print axioms sha256_length
#print axioms dsha256_length
end Goat.C04S
