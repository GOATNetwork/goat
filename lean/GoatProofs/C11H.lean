/-
  C11H — history-level conservation of locked funds.

  "For every token, the total ever locked equals what validators currently hold locked plus what has
   been slashed plus what has been released through unlocks (queued or delivered).  A single unlock
   never releases more than was requested nor more than the validator still holds, and no held,
   slashed or released amount is ever negative.  This holds across any interleaving of validator
   creation, lock, unlock, token weight/threshold changes, downtime slashing and double-sign slashing."

  Formulation.  Holdings and slashed totals are keyed by the denomination string, unlock records by the
  token *address* (`Unlock.token`).  In the Go code the denomination is a function of the address
  (`types.TokenDenom(req.Token)`), the model's `UnlockReq` carries both (`token`, `tokenAddr`).  All
  measures are therefore taken per denomination `d` relative to an arbitrary but fixed map
  `denomOf : Bytes → String`; an unlock record counts for `d` iff `denomOf u.token = d`.  The only
  hypothesis connecting the two is stated on the requests: `denomOf r.tokenAddr = r.token`
  (`ReqOK`), which is what the Go code computes.  The exact step theorems (`unlockOne_exact`) do not
  need it: the holding of `r.token` falls and the queue of `denomOf r.tokenAddr` grows by the same
  amount.

  Well-formedness (`WF`).  The model keeps maps as association lists; the measures are sums over those
  lists, the model's updates replace *every* entry of a key.  Conservation needs what is true of the
  stores of the Go code: validator addresses are distinct, every holding is a proper `sdk.Coins`
  (one entry per denomination, `Canon`), the time keys of the unlock queue are distinct.  `WF` is
  preserved by every operation (proved below), so it is a hypothesis on the start state only.
  (`Example`: with a duplicated validator key one lock is counted twice — a model artefact.)

  Guards found in the model / Go code.  `lock` panics on a negative amount and `unlockCore` panics when
  `min(holding, requested) < 0` (`sdk.NewCoin`), so accepted amounts are ≥ 0 without any hypothesis on
  the requests.  Non-negativity after slashing needs the slash fractions to be ≤ 1 (`ParamsOK`, enforced
  by `Params.Validate` in the Go code); the parameters never change.  When the slash amount truncates
  to zero the *whole* coin is booked as slashed (Go: `if amount.IsZero() { amount = locking.Amount }`):
  conservation is unaffected.
-/
import GoatModel.Locking
import GoatProofs.Lemmas.Locking
import GoatProofs.Lemmas.LockingOps
import GoatProofs.Lemmas.Arith
import GoatProofs.Lemmas.LockingConserve
import GoatProofs.C07
namespace Goat.C11H
open Goat Goat.Locking

/-! ## measures -/

/-- what validators currently hold locked, per denomination -/
def held (s : State) (d : String) : Int := isum (s.validators.map (fun e => amountOf e.2.locking d))

/-- what has been slashed, per denomination -/
def slashedOf (s : State) (d : String) : Int := amountOf s.slashed d

/-- released but not yet handed over: time queue plus matured queue -/
def queued (denomOf : Bytes → String) (s : State) (d : String) : Int :=
  queueSum denomOf s.unlockQueue d + unlockSum denomOf s.qUnlocks d

theorem held_view (s : State) (d : String) : held s d = asum (amountOf · d) (view s).locks := by
  unfold held asum view
  simp only [List.map_map]
  rfl

structure WF (s : State) : Prop where
  keys : KeysNodup (view s).locks
  canon : LAll Canon (view s).locks
  times : (s.unlockQueue.map (·.1)).Nodup

/-- no held, slashed or released amount is negative -/
structure NonNeg (s : State) : Prop where
  holdings : LAll CoinsNonneg (view s).locks
  slashed : ∀ d, 0 ≤ slashedOf s d
  queue : ∀ e ∈ s.unlockQueue, ∀ u ∈ e.2, 0 ≤ u.amount
  matured : ∀ u ∈ s.qUnlocks, 0 ≤ u.amount

/-- slash fractions are at most one (validated parameters) -/
def ParamsOK (s : State) : Prop := s.params.slashDowntime ≤ e18 ∧ s.params.slashDoubleSign ≤ e18

theorem NonNeg.held_nonneg {s : State} (h : NonNeg s) (d : String) : 0 ≤ held s d := by
  rw [held_view]; exact asum_nonneg _ _ (fun e he => amountOf_nonneg e.2 (h.holdings e he) d)

theorem NonNeg.validator_nonneg {s : State} (h : NonNeg s) (a : Bytes) (v : Validator) (hv : vget s a = some v)
    (d : String) : 0 ≤ amountOf v.locking d := by
  have hg : aget (view s).locks a = some v.locking := by rw [aget_view, hv]; rfl
  exact amountOf_nonneg _ (lall_get CoinsNonneg _ a _ h.holdings hg) d

theorem NonNeg.queued_nonneg (denomOf : Bytes → String) {s : State} (h : NonNeg s) (d : String) :
    0 ≤ queued denomOf s d :=
  Int.add_nonneg (isum_map_nonneg _ _ (fun e he => unlockSum_nonneg denomOf e.2 d (h.queue e he)))
    (unlockSum_nonneg denomOf _ d h.matured)

/-! ## relations between states -/

theorem slashedOf_congr {s s' : State} (h : s'.slashed = s.slashed) (d : String) : slashedOf s' d = slashedOf s d := by
  unfold slashedOf; rw [h]

theorem queued_congr (denomOf : Bytes → String) {s s' : State} (hq : s'.unlockQueue = s.unlockQueue)
    (hu : s'.qUnlocks = s.qUnlocks) (d : String) : queued denomOf s' d = queued denomOf s d := by
  unfold queued; rw [hq, hu]

theorem paramsOK_congr {s s' : State} (h : s'.params = s.params) (hp : ParamsOK s) : ParamsOK s' := by
  unfold ParamsOK; rw [h]; exact hp

/-- only the holdings change, by `δ` per denomination -/
structure LockRel (s s' : State) (δ : String → Int) : Prop where
  wf : WF s'
  params : s'.params = s.params
  slashed : s'.slashed = s.slashed
  unlockQueue : s'.unlockQueue = s.unlockQueue
  qUnlocks : s'.qUnlocks = s.qUnlocks
  held : ∀ d, held s' d = held s d + δ d

theorem LockRel.slashedOf {s s' : State} {δ : String → Int} (h : LockRel s s' δ) (d : String) :
    slashedOf s' d = slashedOf s d :=
  slashedOf_congr h.slashed d

theorem LockRel.queued (denomOf : Bytes → String) {s s' : State} {δ : String → Int} (h : LockRel s s' δ) (d : String) :
    queued denomOf s' d = queued denomOf s d :=
  queued_congr denomOf h.unlockQueue h.qUnlocks d

/-- the view of `s'` is the view of `s` with the well-formed holdings `l'`, whose totals differ by `δ` -/
theorem LockRel.of_view {s s' : State} {l' : List (Bytes × Coins)} {δ : String → Int} (hw : WF s)
    (hview : view s' = { view s with locks := l' }) (hk : KeysNodup l') (hc : LAll Canon l')
    (hh : ∀ d, asum (amountOf · d) l' = asum (amountOf · d) (view s).locks + δ d) :
    LockRel s s' δ ∧ (LAll CoinsNonneg l' → NonNeg s → NonNeg s') := by
  have hl : (view s').locks = l' := congrArg View.locks hview
  have hs : s'.slashed = s.slashed := congrArg View.slashed hview
  have hq : s'.unlockQueue = s.unlockQueue := congrArg View.unlockQueue hview
  have hu : s'.qUnlocks = s.qUnlocks := congrArg View.qUnlocks hview
  refine ⟨⟨⟨hl ▸ hk, hl ▸ hc, hq ▸ hw.times⟩, congrArg View.params hview, hs, hq, hu, ?_⟩, fun hn' hn => ?_⟩
  · intro d; rw [held_view, held_view, hl, hh]
  · exact ⟨hl ▸ hn', fun d => slashedOf_congr hs d ▸ hn.slashed d, hq ▸ hn.queue, hu ▸ hn.matured⟩

theorem vget_canon (s : State) (a : Bytes) (v : Validator) (hw : WF s) (hv : vget s a = some v) : Canon v.locking :=
  lall_get Canon _ a _ hw.canon (by rw [aget_view, hv]; rfl)

theorem vget_nonneg (s : State) (a : Bytes) (v : Validator) (hn : NonNeg s) (hv : vget s a = some v) :
    CoinsNonneg v.locking :=
  lall_get CoinsNonneg _ a _ hn.holdings (by rw [aget_view, hv]; rfl)

/-- the holdings after replacing the one of validator `a`, `v.locking`, by `c'` -/
theorem holding_set {s : State} {a : Bytes} {v : Validator} (c' : Coins) (hw : WF s) (hv : vget s a = some v) (hc : Canon c') :
    KeysNodup (aset (view s).locks a c') ∧ LAll Canon (aset (view s).locks a c') ∧
    (∀ d, asum (amountOf · d) (aset (view s).locks a c')
      = asum (amountOf · d) (view s).locks - amountOf v.locking d + amountOf c' d) ∧
    (LAll CoinsNonneg (view s).locks → CoinsNonneg c' → LAll CoinsNonneg (aset (view s).locks a c')) :=
  ⟨akeys_aset _ _ _ hw.keys, lall_aset Canon _ _ _ hw.canon hc,
   fun d => asum_aset_some _ _ _ _ _ hw.keys (by rw [aget_view, hv]; rfl), lall_aset CoinsNonneg _ _ _⟩

/-- the holding of validator `a` becomes `c'`, which differs from it by `δ`; nothing else the measures
    read changes -/
theorem LockRel.of_holding {s s' : State} {a : Bytes} {v : Validator} {c' : Coins} {δ : String → Int} (hw : WF s)
    (hv : vget s a = some v) (hview : view s' = { view s with locks := aset (view s).locks a c' }) (hc : Canon c')
    (hδ : ∀ d, amountOf c' d = amountOf v.locking d + δ d) :
    LockRel s s' δ ∧ (CoinsNonneg c' → NonNeg s → NonNeg s') := by
  obtain ⟨h1, h2, h3, h4⟩ := holding_set c' hw hv hc
  obtain ⟨hr, hn⟩ := LockRel.of_view (δ := δ) hw hview h1 h2 (fun d => by rw [h3, hδ]; omega)
  exact ⟨hr, fun hc' h => hn (h4 h.holdings hc') h⟩

/-- held / slashed / queued all unchanged -/
structure Ext (s s' : State) : Prop where
  wf : WF s'
  params : s'.params = s.params
  slashed : s'.slashed = s.slashed
  unlockQueue : s'.unlockQueue = s.unlockQueue
  qUnlocks : s'.qUnlocks = s.qUnlocks
  held : ∀ d, held s' d = held s d
  nonneg : NonNeg s → NonNeg s'

theorem Ext.refl {s : State} (h : WF s) : Ext s s := ⟨h, rfl, rfl, rfl, rfl, fun _ => rfl, id⟩

theorem Ext.trans {a b c : State} (h1 : Ext a b) (h2 : Ext b c) : Ext a c :=
  ⟨h2.wf, h2.params.trans h1.params, h2.slashed.trans h1.slashed, h2.unlockQueue.trans h1.unlockQueue,
   h2.qUnlocks.trans h1.qUnlocks, fun d => (h2.held d).trans (h1.held d), fun h => h2.nonneg (h1.nonneg h)⟩

theorem Ext.slashedOf {s s' : State} (h : Ext s s') (d : String) : slashedOf s' d = slashedOf s d :=
  slashedOf_congr h.slashed d

theorem Ext.queued (denomOf : Bytes → String) {s s' : State} (h : Ext s s') (d : String) :
    queued denomOf s' d = queued denomOf s d :=
  queued_congr denomOf h.unlockQueue h.qUnlocks d

theorem Ext.paramsOK {s s' : State} (h : Ext s s') (hp : ParamsOK s) : ParamsOK s' :=
  paramsOK_congr h.params hp

theorem Ext.of_lockRel {s s' : State} (h : LockRel s s' (fun _ => 0)) (hn : NonNeg s → NonNeg s') : Ext s s' :=
  ⟨h.wf, h.params, h.slashed, h.unlockQueue, h.qUnlocks, fun d => (h.held d).trans (Int.add_zero _), hn⟩

/-- equal views: everything is unchanged -/
theorem Ext.of_view {s s' : State} (hw : WF s) (h : view s' = view s) : Ext s s' := by
  obtain ⟨hr, hn⟩ := LockRel.of_view hw h hw.keys hw.canon (fun _ => (Int.add_zero _).symm)
  exact Ext.of_lockRel hr (fun k => hn k.holdings k)

/-- rewriting a validator record without touching its holding keeps the view -/
theorem view_vset_same {s t : State} {a : Bytes} {v : Validator} (v' : Validator) (hw : WF s) (ht : view t = view s)
    (hv : vget t a = some v) (hl : v'.locking = v.locking) : view (vset t a v') = view s := by
  rw [view_vset, hl, aset_same _ _ _ (by rw [ht]; exact hw.keys) (by rw [aget_view, hv]; rfl), ht]

/-! ## operations that change none of the measures -/

theorem updateRewardPool_view (s s' : State) (height : Int) (gas grants : List Int)
    (h : updateRewardPool s height gas grants = .ok s') : view s' = view s := by
  obtain ⟨p, rfl⟩ := updateRewardPool_ok h
  rfl

theorem updateRewardPool_frame (s s' : State) (height : Int) (gas grants : List Int) (hw : WF s)
    (h : updateRewardPool s height gas grants = .ok s') : Ext s s' :=
  Ext.of_view hw (updateRewardPool_view s s' height gas grants h)

theorem claim_view (s s' : State) (reqs : List ClaimReq) (hw : WF s) (h : claim s reqs = .ok s') : view s' = view s := by
  rw [claim_eq] at h
  refine foldlM_inv (fun b => view b = view s) _ ?_ reqs s s' rfl h
  intro b r b' hb hstep
  obtain ⟨v, hv, rfl⟩ := claimStep_ok hstep
  exact view_vset_same _ hw hb hv rfl

theorem claim_frame (s s' : State) (reqs : List ClaimReq) (hw : WF s) (h : claim s reqs = .ok s') : Ext s s' :=
  Ext.of_view hw (claim_view s s' reqs hw h)

theorem distributeReward_view (s s' : State) (height : Int) (votes : List VoteInfo) (hw : WF s)
    (h : distributeReward s height votes = .ok s') : view s' = view s := by
  rcases distributeReward_ok h with rfl | ⟨total, s₂, rg, rr, hgo, rfl⟩
  · rfl
  · exact distributeReward_go_inv (fun t => view t = view s) (fun t a val g r ht hv => view_vset_same _ hw ht hv rfl)
      total votes s _ _ _ rfl hgo

theorem distributeReward_frame (s s' : State) (height : Int) (votes : List VoteInfo) (hw : WF s)
    (h : distributeReward s height votes = .ok s') : Ext s s' :=
  Ext.of_view hw (distributeReward_view s s' height votes hw h)

theorem endBlocker_view (s s' : State) (ups : List Update) (hw : WF s) (h : endBlocker s = .ok (s', ups)) :
    view s' = view s :=
  C07.endBlocker_inv (fun t => view t = view s) (fun _ _ ht => ht) (fun _ _ _ ht hu _ => view_vset_same _ hw ht hu rfl)
    (fun _ _ _ ht hu _ => view_vset_same _ hw ht hu rfl) h rfl

theorem endBlocker_frame (s s' : State) (ups : List Update) (hw : WF s) (h : endBlocker s = .ok (s', ups)) : Ext s s' :=
  Ext.of_view hw (endBlocker_view s s' ups hw h)

theorem onWeightChanged_view (s s' : State) (token : String) (prev cur : Nat) (hw : WF s)
    (h : onWeightChanged s token prev cur = .ok s') : view s' = view s := by
  rw [onWeightChanged_eq] at h
  split at h
  · cases h; rfl
  · refine foldlM_inv (fun b => view b = view s) _ ?_ _ _ _ rfl h
    intro b e b' hb hstep
    obtain ⟨v, s₀, p', hv, hi, rfl, _⟩ := weightStep_writes hstep
    exact view_vset_same _ hw (hi.view.trans hb) ((hi.vget_eq _).trans hv) rfl

theorem updateTokens_view (s s' : State) (weights : List (String × Nat)) (thresholds : List (String × Int)) (hw : WF s)
    (h : updateTokens s weights thresholds = .ok s') : view s' = view s := by
  obtain ⟨s₁, h1, h2⟩ := updateTokens_ok h
  have hs1 : view s₁ = view s := by
    refine foldlM_inv (fun b => view b = view s) _ ?_ _ _ _ rfl h1
    intro b u b' hb hstep
    obtain ⟨tok, b₁, hb₁, rfl⟩ := weightSet_ok hstep
    exact (onWeightChanged_view b b₁ _ _ _ (Ext.of_view hw hb).wf hb₁).trans hb
  refine foldlM_inv (fun b => view b = view s) _ ?_ _ _ _ hs1 h2
  intro b u b' hb hstep
  rcases thresholdSet_ok hstep with rfl | ⟨tok, th, rfl⟩
  · exact hb
  · exact hb

theorem updateTokens_frame (s s' : State) (weights : List (String × Nat)) (thresholds : List (String × Int)) (hw : WF s)
    (h : updateTokens s weights thresholds = .ok s') : Ext s s' :=
  Ext.of_view hw (updateTokens_view s s' weights thresholds hw h)

theorem onWeightChanged_frame (s s' : State) (token : String) (prev cur : Nat) (hw : WF s)
    (h : onWeightChanged s token prev cur = .ok s') : Ext s s' :=
  Ext.of_view hw (onWeightChanged_view s s' token prev cur hw h)

/-- a new validator starts with an empty holding -/
theorem vset_new_ext (s : State) (a : Bytes) (v : Validator) (hw : WF s) (hv : vget s a = none) (hl : v.locking = []) :
    Ext s (vset s a v) := by
  have hg : aget (view s).locks a = none := by rw [aget_view, hv]; rfl
  obtain ⟨hr, hn⟩ := LockRel.of_view hw (hl ▸ view_vset s a v) (akeys_aset _ _ _ hw.keys)
    (lall_aset Canon _ _ _ hw.canon canon_nil) (fun d => asum_aset_none _ _ _ _ hg)
  exact Ext.of_lockRel hr (fun k => hn (lall_aset CoinsNonneg _ _ _ k.holdings (fun e he => nomatch he)) k)

theorem create_frame (hash160 : Bytes → Bytes) (hasAccount : Bytes → Bool) (s s' : State) (reqs : List CreateReq)
    (accs : List Bytes) (hw : WF s) (h : create hash160 hasAccount s reqs = .ok (s', accs)) : Ext s s' := by
  rw [create_eq] at h
  refine foldlM_inv (fun (acc : State × List Bytes) => Ext s acc.1) _ ?_ _ _ _ (Ext.refl hw) h
  intro acc r acc' hacc hstep
  rcases (createStep_ok hstep).2 with rfl | ⟨hv, st, accs, rfl⟩
  · exact hacc
  · exact hacc.trans (vset_new_ext _ _ _ hacc.wf hv rfl)

/-! ## lock -/

/-- **lockOne**: the validator's holding becomes `holding + coins`, whatever its status (also for
    tombstoned / inactive / jailed validators the coins are credited), so `held` grows by exactly the
    coins of the request (sum per denomination); slashed and queued are unchanged; non-negativity is
    kept when the coins are non-negative. -/
theorem lockOne_spec (s s' : State) (now : Int) (a : Bytes) (coins : Coins) (hw : WF s)
    (h : lockOne s now a coins = .ok s') :
    LockRel s s' (coinsSum coins) ∧ (NonNeg s → CoinsNonneg coins → NonNeg s') := by
  obtain ⟨v, s₀, v', hv, hi, rfl, hl, _⟩ := lockOne_writes h
  obtain ⟨hr, hn⟩ := LockRel.of_holding hw hv (by rw [view_vset, hi.view, hl]) (canon_addCoins _ coins (vget_canon s a v hw hv))
    (amountOf_addCoins _ coins)
  exact ⟨hr, fun h hc => hn (nonneg_addCoins _ _ (vget_nonneg s a v h hv) hc) h⟩

/-- **lockOne, per validator and denomination**: the holding of the addressed validator grows by
    exactly the coins of the request — also when it is tombstoned, inactive or jailed. -/
theorem lockOne_validator (s s' : State) (now : Int) (a : Bytes) (coins : Coins) (h : lockOne s now a coins = .ok s') :
    ∃ v v', vget s a = some v ∧ vget s' a = some v' ∧
      ∀ d, amountOf v'.locking d = amountOf v.locking d + coinsSum coins d := by
  obtain ⟨v, s₀, v', hv, _, rfl, hl, _⟩ := lockOne_writes h
  exact ⟨v, v', hv, vget_vset_same _ _ _, fun d => by rw [hl, amountOf_addCoins]⟩

/-- a run of `lockOne` over a list of (validator, coins): `held` grows by the sum of all the coins -/
theorem lockAll_spec (now : Int) : ∀ (agg : List (Bytes × Coins)) (s s' : State), WF s →
    agg.foldlM (fun s e => lockOne s now e.1 e.2) s = .ok s' →
    LockRel s s' (fun d => isum (agg.map (fun e => coinsSum e.2 d))) ∧ (NonNeg s → LAll CoinsNonneg agg → NonNeg s') := by
  intro agg
  induction agg with
  | nil =>
    intro s s' hw h
    rw [foldlM_nil_ok _ s s' h]
    exact ⟨⟨hw, rfl, rfl, rfl, rfl, fun d => (Int.add_zero _).symm⟩, fun hn _ => hn⟩
  | cons e agg ih =>
    intro s s' hw h
    obtain ⟨s₁, h1, h2⟩ := foldlM_cons_ok _ e agg s s' h
    obtain ⟨r1, n1⟩ := lockOne_spec s s₁ now e.1 e.2 hw h1
    obtain ⟨r2, n2⟩ := ih s₁ s' r1.wf h2
    refine ⟨⟨r2.wf, r2.params.trans r1.params, r2.slashed.trans r1.slashed, r2.unlockQueue.trans r1.unlockQueue,
      r2.qUnlocks.trans r1.qUnlocks, fun d => ?_⟩, fun hn ha => ?_⟩
    · rw [r2.held, r1.held, List.map_cons, isum_cons, Int.add_assoc]
    · exact n2 (n1 hn (ha e List.mem_cons_self)) (fun x hx => ha x (List.mem_cons_of_mem _ hx))

/-- **lock**: a successful `lock` accepts every request; `held` grows by exactly the requested
    amounts per denomination, slashed and queued are unchanged.  `lock` itself rejects negative amounts
    (`negative-coin` panic of `sdk.NewCoin`), so non-negativity needs no hypothesis on the requests. -/
theorem lock_spec (s s' : State) (now : Int) (reqs : List LockReq) (hw : WF s) (h : lock s now reqs = .ok s') :
    LockRel s s' (lockSum reqs) ∧ (NonNeg s → NonNeg s') ∧ (∀ r ∈ reqs, 0 ≤ r.amount) := by
  obtain ⟨hpos, agg, hagg, hrun⟩ := lock_agg h
  obtain ⟨_, ha2, ha3, ha4⟩ := aggregateLocks_spec reqs agg hagg
  obtain ⟨hr, hn⟩ := lockAll_spec now agg s s' hw hrun
  refine ⟨⟨hr.wf, hr.params, hr.slashed, hr.unlockQueue, hr.qUnlocks, fun d => ?_⟩, fun k => hn k (ha4 hpos), hpos⟩
  rw [hr.held, ← ha3 d]
  -- every aggregated coin set is canonical: its sum is what `amountOf` reads
  exact congrArg (held s d + isum ·) (List.map_congr_left (fun e he => ha2 e he d))

/-! ## unlock -/

/-- the queue of pending unlocks grows by the one record -/
theorem enqueueUnlock_spec (denomOf : Bytes → String) (s : State) (t : Int) (u : Unlock) (hw : WF s) :
    WF (enqueueUnlock s t u) ∧
    (∀ d, queued denomOf (enqueueUnlock s t u) d = queued denomOf s d + unlockAmt denomOf d u) ∧
    (NonNeg s → 0 ≤ u.amount → NonNeg (enqueueUnlock s t u)) := by
  refine ⟨⟨hw.keys, hw.canon, enq_keys_nodup _ _ _ hw.times⟩, fun d => ?_, fun hn hu => ⟨hn.holdings, hn.slashed, ?_, hn.matured⟩⟩
  · show queueSum denomOf (enq s.unlockQueue t u) d + unlockSum denomOf s.qUnlocks d = _
    rw [queueSum_enq denomOf _ t u d hw.times]
    unfold queued
    omega
  · intro e he x hx
    rcases mem_enq _ _ _ e x he hx with ⟨rfl, _⟩ | ⟨e', he', _, hx'⟩
    · exact hu
    · exact hn.queue e' he' x hx'

/-- **unlockCore**: the released amount is `unlockAmount holding requested` (the model, like
    `sdk.NewCoin`, panics when that is negative), the holding of `r.token` drops by it, nothing else
    the measures read changes. -/
theorem unlockCore_rel (s s3 : State) (r : UnlockReq) (ex : Bool) (amt : Int) (hw : WF s)
    (h : unlockCore s r = .ok (s3, ex, amt)) :
    ∃ v, vget s r.validator = some v ∧ amt = unlockAmount (amountOf v.locking r.token) r.amount ∧
      0 ≤ amt ∧ amt ≤ r.amount ∧ amt ≤ amountOf v.locking r.token ∧
      LockRel s s3 (fun d => - (if r.token = d then amt else 0)) ∧ (NonNeg s → NonNeg s3) := by
  obtain ⟨v, tok, hv, _, hamt, hpos, _, _⟩ := unlockCore_ok h
  obtain ⟨v₁, s₀, v', hv₁, hi, rfl, hl, _⟩ := unlockCore_writes h
  cases hv.symm.trans hv₁
  have hle : amt ≤ r.amount ∧ amt ≤ amountOf v.locking r.token := hamt ▸ unlockAmount_le _ _
  have hδ : ∀ d, amountOf (setAmount v.locking r.token (amountOf v.locking r.token - amt)) d
      = amountOf v.locking d + - (if r.token = d then amt else 0) := by
    intro d
    rw [amountOf_setAmount]
    by_cases hd : r.token = d
    · rw [if_pos hd, if_pos hd, ← hd]; exact Int.sub_eq_add_neg
    · rw [if_neg hd, if_neg hd, Int.neg_zero, Int.add_zero]
  obtain ⟨hr, hn⟩ := LockRel.of_holding hw hv (by rw [view_vset, hi.view, hl]) (canon_setAmount _ _ _ (vget_canon s _ v hw hv)) hδ
  exact ⟨v, hv, hamt, hpos, hle.1, hle.2, hr, fun h => hn (nonneg_setAmount _ _ _ (vget_nonneg s _ v h hv) (by omega)) h⟩

/-- **unlockCore in terms of the measures**: `held` of the request's denomination drops by exactly
    the released amount `unlockAmount holding requested ≥ 0`; slashed and both queues are unchanged
    (the enqueue is done by `unlockOne`). -/
theorem unlockCore_spec (s s3 : State) (r : UnlockReq) (ex : Bool) (amt : Int) (hw : WF s)
    (h : unlockCore s r = .ok (s3, ex, amt)) :
    ∃ v, vget s r.validator = some v ∧ amt = unlockAmount (amountOf v.locking r.token) r.amount ∧
      0 ≤ amt ∧ amt ≤ r.amount ∧ amt ≤ amountOf v.locking r.token ∧
      LockRel s s3 (fun d => - (if r.token = d then amt else 0)) := by
  obtain ⟨v, h1, h2, h3, h4, h5, h6, _⟩ := unlockCore_rel s s3 r ex amt hw h
  exact ⟨v, h1, h2, h3, h4, h5, h6⟩

/-- **unlockOne, exactly**: the released amount `amt = min(holding, requested)` is non-negative
    (otherwise the operation panics: a negative request is never accepted), at most the request and at
    most the holding; `held` of the request's denomination drops by `amt`, `queued` of the
    denomination of the request's token address grows by `amt`, slashed is unchanged. -/
theorem unlockOne_exact (denomOf : Bytes → String) (s s' : State) (now : Int) (r : UnlockReq) (hw : WF s)
    (h : unlockOne s now r = .ok s') :
    ∃ v amt, vget s r.validator = some v ∧ amt = unlockAmount (amountOf v.locking r.token) r.amount ∧
      0 ≤ amt ∧ amt ≤ r.amount ∧ amt ≤ amountOf v.locking r.token ∧
      WF s' ∧ s'.params = s.params ∧ s'.slashed = s.slashed ∧
      (∀ d, held s' d = held s d - (if r.token = d then amt else 0)) ∧
      (∀ d, queued denomOf s' d = queued denomOf s d + (if denomOf r.tokenAddr = d then amt else 0)) ∧
      (NonNeg s → NonNeg s') := by
  obtain ⟨s3, ex, amt, hcore, rfl⟩ := unlockOne_ok h
  obtain ⟨v, hv, hamt, hpos, hle1, hle2, hr, hn⟩ := unlockCore_rel s s3 r ex amt hw hcore
  obtain ⟨k1, k2, k3⟩ := enqueueUnlock_spec denomOf s3 (unlockTime s.params now ex)
    { id := r.id, token := r.tokenAddr, recipient := r.recipient, amount := amt } hr.wf
  refine ⟨v, amt, hv, hamt, hpos, hle1, hle2, k1, hr.params, hr.slashed, fun d => ?_, fun d => ?_, fun k => k3 (hn k) hpos⟩
  · exact (hr.held d).trans (Int.sub_eq_add_neg).symm
  · rw [k2, hr.queued denomOf]; rfl

/-- the request's token address belongs to the request's denomination (what `types.TokenDenom`
    computes in the Go code) -/
def ReqOK (denomOf : Bytes → String) (r : UnlockReq) : Prop := denomOf r.tokenAddr = r.token

/-- held + queued is unchanged, slashed is unchanged -/
structure UnlockRel (denomOf : Bytes → String) (s s' : State) : Prop where
  wf : WF s'
  params : s'.params = s.params
  slashed : s'.slashed = s.slashed
  moved : ∀ d, held s' d + queued denomOf s' d = held s d + queued denomOf s d
  nonneg : NonNeg s → NonNeg s'

/-- **unlockOne, per denomination** (request consistent): what leaves the holding enters the queue -/
theorem unlockOne_spec (denomOf : Bytes → String) (s s' : State) (now : Int) (r : UnlockReq) (hw : WF s)
    (hr : ReqOK denomOf r) (h : unlockOne s now r = .ok s') : UnlockRel denomOf s s' := by
  obtain ⟨v, amt, _, _, _, _, _, h1, h2, h3, h4, h5, h6⟩ := unlockOne_exact denomOf s s' now r hw h
  refine ⟨h1, h2, h3, ?_, h6⟩
  intro d
  rw [h4, h5, hr]; omega

/-- **unlock** (all requests consistent): `held + queued` and `slashed` are unchanged -/
theorem unlock_spec (denomOf : Bytes → String) (s s' : State) (now : Int) (reqs : List UnlockReq) (hw : WF s)
    (hr : ∀ r ∈ reqs, ReqOK denomOf r) (h : unlock s now reqs = .ok s') : UnlockRel denomOf s s' := by
  unfold unlock at h
  refine foldlM_inv_mem (fun b => UnlockRel denomOf s b) _ reqs ?_ s s' ⟨hw, rfl, rfl, fun _ => rfl, id⟩ h
  intro b r b' hmem hb hstep
  have := unlockOne_spec denomOf b b' now r hb.wf (hr r hmem) hstep
  exact ⟨this.wf, this.params.trans hb.params, this.slashed.trans hb.slashed,
    fun d => (this.moved d).trans (hb.moved d), fun hn => this.nonneg (hb.nonneg hn)⟩

/-! ## slashing -/

/-- one coin `c` of a slash is split into a slashed part `x` and a remaining part `c.2 - x` -/
theorem slashStep_spec (addr : Bytes) (frac : Nat) (acc : State × Coins) (c : String × Int) : ∃ x : Int,
    (∀ d, slashedOf (slashStep addr frac acc c).1 d = slashedOf acc.1 d + (if c.1 = d then x else 0)) ∧
    (∀ d, amountOf (slashStep addr frac acc c).2 d = amountOf acc.2 d + (if c.1 = d then c.2 - x else 0)) ∧
    (Canon acc.2 → Canon (slashStep addr frac acc c).2) ∧
    (0 ≤ c.2 → frac ≤ e18 → 0 ≤ x ∧ (CoinsNonneg acc.2 → CoinsNonneg (slashStep addr frac acc c).2)) := by
  have hbound : frac ≤ e18 → slashAmount c.2.toNat frac ≤ c.2.toNat := slashAmount_le c.2.toNat frac
  simp only [slashStep]
  generalize slashAmount c.2.toNat frac = a0 at hbound ⊢
  have hsl : ∀ x d, slashedOf (slashedAdd (idxRemove acc.1 c.1 addr) c.1 x) d
      = slashedOf acc.1 d + (if c.1 = d then x else 0) :=
    fun x d => slashed_slashedAdd (idxRemove acc.1 c.1 addr) c.1 x d
  by_cases hz : (a0 : Int) = 0
  · -- the slash amount truncates to zero: the whole coin is booked as slashed
    rw [if_pos hz]
    exact ⟨c.2, hsl c.2, fun d => by rw [Int.sub_self, ite_self, Int.add_zero], id, fun hc _ => ⟨hc, id⟩⟩
  · rw [if_neg hz]
    refine ⟨a0, hsl a0, amountOf_addCoin _ _ _, canon_addCoin _ _ _, fun hc hf => ⟨Int.natCast_nonneg _, fun hn => ?_⟩⟩
    have hb := hbound hf
    exact nonneg_addCoin _ _ _ hn (by omega)

/-- **slashAll**: every coin of the holding is split into a slashed part and a remaining part; per
    denomination `slashed + remaining` grows by exactly the holding; the validator map, parameters and
    queues are untouched.  With non-negative coins and a fraction ≤ 1 both parts are non-negative. -/
theorem slashAll_spec (s : State) (addr : Bytes) (v : Validator) (frac : Nat) :
    (slashAll s addr v frac).1.params = s.params ∧
    (view (slashAll s addr v frac).1).locks = (view s).locks ∧
    (slashAll s addr v frac).1.unlockQueue = s.unlockQueue ∧
    (slashAll s addr v frac).1.qUnlocks = s.qUnlocks ∧
    (∀ d, slashedOf (slashAll s addr v frac).1 d + amountOf (slashAll s addr v frac).2 d
            = slashedOf s d + coinsSum v.locking d) ∧
    Canon (slashAll s addr v frac).2 ∧
    (CoinsNonneg v.locking → frac ≤ e18 →
      CoinsNonneg (slashAll s addr v frac).2 ∧ ∀ d, slashedOf s d ≤ slashedOf (slashAll s addr v frac).1 d) := by
  have hf := slashAll_fst s addr v frac
  have hi := idxWrites_idxRemoves addr v.locking s
  refine ⟨(congrArg State.params hf).trans hi.params, by rw [hf]; exact congrArg (List.map fun e => (e.1, e.2.locking)) hi.validators,
    (congrArg State.unlockQueue hf).trans hi.unlockQueue, (congrArg State.qUnlocks hf).trans hi.qUnlocks, ?_⟩
  unfold slashAll
  generalize v.locking = cs
  have key : ∀ (cs : Coins) (acc : State × Coins),
      (∀ d, slashedOf (cs.foldl (slashStep addr frac) acc).1 d + amountOf (cs.foldl (slashStep addr frac) acc).2 d
              = slashedOf acc.1 d + amountOf acc.2 d + coinsSum cs d) ∧
      (Canon acc.2 → Canon (cs.foldl (slashStep addr frac) acc).2) ∧
      (CoinsNonneg cs → frac ≤ e18 → CoinsNonneg acc.2 →
        CoinsNonneg (cs.foldl (slashStep addr frac) acc).2 ∧
        ∀ d, slashedOf acc.1 d ≤ slashedOf (cs.foldl (slashStep addr frac) acc).1 d) := by
    intro cs
    induction cs with
    | nil =>
      intro acc
      exact ⟨fun d => (Int.add_zero _).symm, id, fun _ _ h => ⟨h, fun d => Int.le_refl _⟩⟩
    | cons c cs ih =>
      intro acc
      obtain ⟨x, a1, a2, a3, a4⟩ := slashStep_spec addr frac acc c
      obtain ⟨b5, b6, b7⟩ := ih (slashStep addr frac acc c)
      rw [List.foldl_cons]
      refine ⟨fun d => ?_, fun h => b6 (a3 h), fun hcs hf hacc => ?_⟩
      · rw [b5, a1, a2, coinsSum_cons]; split <;> omega
      · obtain ⟨x1, x2⟩ := a4 (hcs c List.mem_cons_self) hf
        obtain ⟨y1, y2⟩ := b7 (fun e he => hcs e (List.mem_cons_of_mem _ he)) hf (x2 hacc)
        exact ⟨y1, fun d => Int.le_trans (a1 d ▸ Int.le_add_of_nonneg_right (ite_nonneg x1)) (y2 d)⟩
  obtain ⟨k5, k6, k7⟩ := key cs (s, [])
  exact ⟨fun d => (k5 d).trans (by rw [amountOf_nil, Int.add_zero]), k6 canon_nil, fun hc hf => k7 hc hf (fun e he => nomatch he)⟩

/-- what a slash does: `held + slashed` is preserved, slashed never decreases (for non-negative
    holdings and fractions ≤ 1), the queues are untouched -/
structure SlashRel (s s' : State) : Prop where
  wf : WF s'
  params : s'.params = s.params
  unlockQueue : s'.unlockQueue = s.unlockQueue
  qUnlocks : s'.qUnlocks = s.qUnlocks
  moved : ∀ d, held s' d + slashedOf s' d = held s d + slashedOf s d
  nonneg : NonNeg s → ParamsOK s → NonNeg s' ∧ ∀ d, slashedOf s d ≤ slashedOf s' d

theorem SlashRel.refl {s : State} (h : WF s) : SlashRel s s :=
  ⟨h, rfl, rfl, rfl, fun _ => rfl, fun hn _ => ⟨hn, fun _ => Int.le_refl _⟩⟩

theorem SlashRel.trans {a b c : State} (h1 : SlashRel a b) (h2 : SlashRel b c) : SlashRel a c := by
  refine ⟨h2.wf, h2.params.trans h1.params, h2.unlockQueue.trans h1.unlockQueue, h2.qUnlocks.trans h1.qUnlocks,
    fun d => (h2.moved d).trans (h1.moved d), ?_⟩
  intro hn hp
  obtain ⟨x1, x2⟩ := h1.nonneg hn hp
  obtain ⟨y1, y2⟩ := h2.nonneg x1 (paramsOK_congr h1.params hp)
  exact ⟨y1, fun d => Int.le_trans (x2 d) (y2 d)⟩

theorem SlashRel.queued (denomOf : Bytes → String) {s s' : State} (h : SlashRel s s') (d : String) :
    queued denomOf s' d = queued denomOf s d :=
  queued_congr denomOf h.unlockQueue h.qUnlocks d

theorem Ext.toSlashRel {s s' : State} (h : Ext s s') : SlashRel s s' := by
  refine ⟨h.wf, h.params, h.unlockQueue, h.qUnlocks, fun d => by rw [h.held, h.slashedOf], ?_⟩
  intro hn _
  exact ⟨h.nonneg hn, fun d => Int.le_of_eq (h.slashedOf d).symm⟩

/-- slash the whole holding of validator `a` (record `v`, rewritten to `v'` with the remaining coins) -/
theorem slash_validator {s : State} {a : Bytes} {v : Validator} (v1 v' : Validator) (frac p : Nat) (hw : WF s)
    (hv : vget s a = some v) (h1 : v1.locking = v.locking)
    (hl : v'.locking = (slashAll (rankRemove s p a) a v1 frac).2) (hf : ParamsOK s → frac ≤ e18) :
    SlashRel s (vset (slashAll (rankRemove s p a) a v1 frac).1 a v') := by
  obtain ⟨k1, k2, k3, k4, k5, k6, k7⟩ := slashAll_spec (rankRemove s p a) a v1 frac
  generalize (slashAll (rankRemove s p a) a v1 frac).1 = s2 at *
  have hl' : (view (vset s2 a v')).locks = aset (view s).locks a v'.locking := by
    rw [view_vset]; dsimp only; rw [k2]; rfl
  obtain ⟨w1, w2, w3, w4⟩ := holding_set v'.locking hw hv (hl ▸ k6)
  have hsl : ∀ d, slashedOf (vset s2 a v') d = slashedOf s2 d := fun d => slashedOf_congr (vset_slashed _ _ _) d
  refine ⟨⟨hl' ▸ w1, hl' ▸ w2, ?_⟩, ?_, ?_, ?_, ?_, ?_⟩
  · rw [vset_unlockQueue, k3]; exact hw.times
  · rw [vset_params, k1]; rfl
  · rw [vset_unlockQueue, k3]; rfl
  · rw [vset_qUnlocks, k4]; rfl
  · intro d
    have e5 := k5 d
    rw [h1, vget_canon s a v hw hv d] at e5
    have : slashedOf (rankRemove s p a) d = slashedOf s d := rfl
    rw [held_view, held_view, hl', w3, hsl, hl]; omega
  · intro hn hp
    obtain ⟨n1, n2⟩ := k7 (h1 ▸ vget_nonneg s a v hn hv) (hf hp)
    have hmono : ∀ d, slashedOf s d ≤ slashedOf (vset s2 a v') d := fun d => by rw [hsl]; exact n2 d
    refine ⟨⟨hl' ▸ w4 hn.holdings (hl ▸ n1), ?_, ?_, ?_⟩, hmono⟩
    · intro d; exact Int.le_trans (hn.slashed d) (hmono d)
    · rw [vset_unlockQueue, k3]; exact hn.queue
    · rw [vset_qUnlocks, k4]; exact hn.matured

/-- **downtime slashing** (`handleVote`): `held` decreases by exactly what `slashed` grows; queues,
    parameters untouched; with valid parameters nothing becomes negative and slashed does not shrink. -/
theorem handleVote_spec (s s' : State) (now : Int) (vi : VoteInfo) (hw : WF s) (h : handleVote s now vi = .ok s') :
    SlashRel s s' := by
  obtain ⟨v, hv, hcase⟩ := handleVote_ok h
  rcases hcase with ⟨_, rfl⟩ | ⟨_, _, rfl⟩ | ⟨_, _, rfl⟩
  · exact SlashRel.refl hw
  · exact (Ext.of_view hw (view_vset_same (voteCounted s.params vi.absent v) hw rfl hv rfl)).toSlashRel
  · exact slash_validator _ _ _ _ hw hv rfl rfl (fun hp => hp.1)

theorem handleVotes_spec (s s' : State) (now : Int) (votes : List VoteInfo) (hw : WF s)
    (h : handleVotes s now votes = .ok s') : SlashRel s s' := by
  unfold handleVotes at h
  refine foldlM_inv (fun b => SlashRel s b) _ ?_ votes s s' (SlashRel.refl hw) h
  intro b v b' hb hstep
  exact hb.trans (handleVote_spec b b' now v hb.wf hstep)

/-- **double-sign slashing** (`handleEvidence`): as for downtime -/
theorem handleEvidence_spec (s s' : State) (now height : Int) (maxAge : Option (Int × Int)) (e : Evidence) (hw : WF s)
    (h : handleEvidence s now height maxAge e = .ok s') : SlashRel s s' := by
  rcases handleEvidence_ok h with ⟨_, rfl⟩ | ⟨v, hv, _, _, _, rfl⟩
  · exact SlashRel.refl hw
  · exact slash_validator _ _ _ _ hw hv rfl rfl (fun hp => hp.2)

/-! ## begin block: maturing unlocks, votes, evidence -/

/-- what a begin-block step does: `held + slashed` preserved, `queued` preserved -/
structure BlockRel (denomOf : Bytes → String) (s s' : State) : Prop where
  wf : WF s'
  params : s'.params = s.params
  moved : ∀ d, held s' d + slashedOf s' d = held s d + slashedOf s d
  queued : ∀ d, queued denomOf s' d = queued denomOf s d
  nonneg : NonNeg s → ParamsOK s → NonNeg s' ∧ ∀ d, slashedOf s d ≤ slashedOf s' d

theorem BlockRel.trans {denomOf : Bytes → String} {a b c : State} (h1 : BlockRel denomOf a b) (h2 : BlockRel denomOf b c) :
    BlockRel denomOf a c := by
  refine ⟨h2.wf, h2.params.trans h1.params, fun d => (h2.moved d).trans (h1.moved d),
    fun d => (h2.queued d).trans (h1.queued d), ?_⟩
  intro hn hp
  obtain ⟨x1, x2⟩ := h1.nonneg hn hp
  obtain ⟨y1, y2⟩ := h2.nonneg x1 (paramsOK_congr h1.params hp)
  exact ⟨y1, fun d => Int.le_trans (x2 d) (y2 d)⟩

theorem SlashRel.toBlockRel (denomOf : Bytes → String) {s s' : State} (h : SlashRel s s') : BlockRel denomOf s s' :=
  ⟨h.wf, h.params, h.moved, h.queued denomOf, h.nonneg⟩

/-- **dequeueMature**: matured unlocks move from the time queue to the delivery queue; `queued`,
    `held`, `slashed` are all unchanged. -/
theorem dequeueMature_spec (denomOf : Bytes → String) (s : State) (now : Int) (hw : WF s) :
    (dequeueMature s now).params = s.params ∧ (dequeueMature s now).slashed = s.slashed ∧
    (∀ d, held (dequeueMature s now) d = held s d) ∧
    (∀ d, queued denomOf (dequeueMature s now) d = queued denomOf s d) ∧
    WF (dequeueMature s now) ∧ (NonNeg s → NonNeg (dequeueMature s now)) := by
  obtain ⟨v1, v2, v3⟩ := view_dequeueMature_fields s now
  have v1 : (dequeueMature s now).params = s.params := v1
  have v3 : (dequeueMature s now).slashed = s.slashed := v3
  have hq : ∀ e ∈ (dequeueMature s now).unlockQueue, e ∈ s.unlockQueue := fun e he => (mem_dequeueMature_unlockQueue.mp he).1
  refine ⟨v1, v3, fun d => by rw [held_view, held_view, v2], fun d => queued_dequeueMature denomOf s now d,
    ⟨v2 ▸ hw.keys, v2 ▸ hw.canon, dequeueMature_keys_nodup s now hw.times⟩, ?_⟩
  intro hn
  refine ⟨v2 ▸ hn.holdings, ?_, ?_, ?_⟩
  · exact fun d => slashedOf_congr v3 d ▸ hn.slashed d
  · intro e he; exact hn.queue e (hq e he)
  · intro u hu
    rcases mem_dequeueMature_qUnlocks.mp hu with h | ⟨e, he, _, hue⟩
    · exact hn.matured u h
    · exact hn.queue e he u hue

theorem dequeueMature_rel (denomOf : Bytes → String) (s : State) (now : Int) (hw : WF s) :
    BlockRel denomOf s (dequeueMature s now) := by
  obtain ⟨h1, h2, h3, h4, h5, h6⟩ := dequeueMature_spec denomOf s now hw
  have hsl : ∀ d, slashedOf (dequeueMature s now) d = slashedOf s d := slashedOf_congr h2
  exact ⟨h5, h1, fun d => by rw [h3, hsl], h4, fun hn _ => ⟨h6 hn, fun d => Int.le_of_eq (hsl d).symm⟩⟩

/-- **beginBlock** (reward distribution, maturing unlocks, downtime and double-sign slashing): per
    denomination `held` decreases by exactly what `slashed` grows and `queued` is unchanged. -/
theorem beginBlock_spec (denomOf : Bytes → String) (s s' : State) (height now : Int) (votes : List VoteInfo)
    (maxAge : Option (Int × Int)) (evs : List Evidence) (hw : WF s)
    (h : beginBlock s height now votes maxAge evs = .ok s') : BlockRel denomOf s s' := by
  obtain ⟨s1, s3, h1, h3, h⟩ := beginBlock_ok h
  have r1 : BlockRel denomOf s s1 := (distributeReward_frame s s1 height votes hw h1).toSlashRel.toBlockRel denomOf
  have r2 : BlockRel denomOf s1 (dequeueMature s1 now) := dequeueMature_rel denomOf s1 now r1.wf
  have r3 : BlockRel denomOf (dequeueMature s1 now) s3 := (handleVotes_spec _ s3 now votes r2.wf h3).toBlockRel denomOf
  have r123 := (r1.trans r2).trans r3
  refine r123.trans (SlashRel.toBlockRel denomOf ?_)
  refine foldlM_inv (fun b => SlashRel s3 b) _ ?_ evs s3 s' (SlashRel.refl r123.wf) h
  intro b e b' hb hstep
  exact hb.trans (handleEvidence_spec b b' now height maxAge e hb.wf hstep)

/-! ## hand-over to the execution layer -/

/-- **dequeue**: `queued` decreases by exactly the amounts of the unlocks handed over; held and
    slashed unchanged. -/
theorem dequeue_spec (denomOf : Bytes → String) (s : State) (hw : WF s) :
    WF (dequeue s).1 ∧ (dequeue s).1.params = s.params ∧
    (∀ d, held (dequeue s).1 d = held s d) ∧ (∀ d, slashedOf (dequeue s).1 d = slashedOf s d) ∧
    (∀ d, queued denomOf (dequeue s).1 d + unlockSum denomOf (dequeue s).2.2.1 d = queued denomOf s d) ∧
    (NonNeg s → NonNeg (dequeue s).1 ∧ ∀ u ∈ (dequeue s).2.2.1, 0 ≤ u.amount) := by
  rw [dequeue_eq]
  refine ⟨⟨hw.keys, hw.canon, hw.times⟩, rfl, fun _ => rfl, fun _ => rfl, fun d => ?_, fun hn =>
    ⟨⟨hn.holdings, hn.slashed, hn.queue, fun u hu => hn.matured u (List.mem_of_mem_drop hu)⟩,
     fun u hu => hn.matured u (List.mem_of_mem_take hu)⟩⟩
  have := isum_map_take_drop (unlockAmt denomOf d) 16 s.qUnlocks
  unfold queued unlockSum
  dsimp only
  omega

/-! ## processing the execution layer's requests -/

/-- **processRequests** (reward pool, token weights/thresholds, create, lock, unlock, claim), all
    unlock requests consistent: `slashed` unchanged, `held + queued` grows by exactly the accepted
    lock amounts. -/
theorem processRequests_spec (denomOf : Bytes → String) (hash160 : Bytes → Bytes) (hasAccount : Bytes → Bool)
    (s s' : State) (height now : Int) (R : Reqs) (accs : List Bytes) (hw : WF s)
    (hr : ∀ r ∈ R.unlocks, ReqOK denomOf r)
    (h : processRequests hash160 hasAccount s height now R = .ok (s', accs)) :
    WF s' ∧ s'.params = s.params ∧ (∀ d, slashedOf s' d = slashedOf s d) ∧
    (∀ d, held s' d + queued denomOf s' d = held s d + queued denomOf s d + lockSum R.locks d) ∧
    (NonNeg s → NonNeg s') ∧ (∀ r ∈ R.locks, 0 ≤ r.amount) := by
  obtain ⟨s1, s2, s3, s4, s5, h1, h2, h3, h4, h5, h6⟩ := processRequests_ok h
  have e1 := updateRewardPool_frame s s1 height R.gas R.grants hw h1
  have e2 := updateTokens_frame s1 s2 R.weights R.thresholds e1.wf h2
  have e3 := create_frame hash160 hasAccount s2 s3 R.creates accs e2.wf h3
  have e123 := (e1.trans e2).trans e3
  obtain ⟨l4, n4, hpos⟩ := lock_spec s3 s4 now R.locks e123.wf h4
  have u5 := unlock_spec denomOf s4 s5 now R.unlocks l4.wf hr h5
  have e6 := claim_frame s5 s' R.claims u5.wf h6
  refine ⟨e6.wf, ?_, ?_, ?_, ?_, hpos⟩
  · rw [e6.params, u5.params, l4.params, e123.params]
  · intro d
    rw [e6.slashedOf, ← e123.slashedOf d, ← l4.slashedOf d]
    unfold slashedOf; rw [u5.slashed]
  · intro d
    rw [e6.held, e6.queued denomOf, u5.moved, l4.held, l4.queued denomOf, e123.held, e123.queued denomOf]; omega
  · intro hn
    exact e6.nonneg (u5.nonneg (n4 (e123.nonneg hn)))

/-! ## histories -/

/-- ghost ledger: total ever locked (accepted lock requests) and total handed over to the execution
    layer ("delivered"), per denomination -/
structure Ledger where
  locked : String → Int
  delivered : String → Int

def Ledger.zero : Ledger := ⟨fun _ => 0, fun _ => 0⟩
def Ledger.add (a b : Ledger) : Ledger := ⟨fun d => a.locked d + b.locked d, fun d => a.delivered d + b.delivered d⟩

/-- the entry points of the module -/
inductive Op where
  | process (hash160 : Bytes → Bytes) (hasAccount : Bytes → Bool) (height now : Int) (r : Reqs)
  | beginBlock (height now : Int) (votes : List VoteInfo) (maxAge : Option (Int × Int)) (evs : List Evidence)
  | endBlocker
  | dequeue

def applyProcess (hash160 : Bytes → Bytes) (hasAccount : Bytes → Bool) (s : State) (height now : Int) (r : Reqs) :
    State × Ledger :=
  match processRequests hash160 hasAccount s height now r with
  | .ok (s', _) => (s', ⟨lockSum r.locks, fun _ => 0⟩)
  | _ => (s, Ledger.zero)

def applyBeginBlock (s : State) (height now : Int) (votes : List VoteInfo) (maxAge : Option (Int × Int))
    (evs : List Evidence) : State × Ledger :=
  match beginBlock s height now votes maxAge evs with
  | .ok s' => (s', Ledger.zero)
  | _ => (s, Ledger.zero)

def applyEndBlocker (s : State) : State × Ledger :=
  match endBlocker s with
  | .ok (s', _) => (s', Ledger.zero)
  | _ => (s, Ledger.zero)

def applyDequeue (denomOf : Bytes → String) (s : State) : State × Ledger :=
  ((dequeue s).1, ⟨fun _ => 0, unlockSum denomOf (dequeue s).2.2.1⟩)

/-- one entry point: new state and ledger increment; a failing operation (error or panic) leaves the
    state unchanged (the transaction / block is not committed) -/
def apply (denomOf : Bytes → String) (s : State) : Op → State × Ledger
  | .process hash160 hasAccount height now r => applyProcess hash160 hasAccount s height now r
  | .beginBlock height now votes maxAge evs => applyBeginBlock s height now votes maxAge evs
  | .endBlocker => applyEndBlocker s
  | .dequeue => applyDequeue denomOf s

def run (denomOf : Bytes → String) : State × Ledger → List Op → State × Ledger
  | sl, [] => sl
  | sl, op :: ops => run denomOf ((apply denomOf sl.1 op).1, sl.2.add (apply denomOf sl.1 op).2) ops

/-- unlock requests name the denomination of their token address -/
def OpOK (denomOf : Bytes → String) : Op → Prop
  | .process _ _ _ _ r => ∀ u ∈ r.unlocks, ReqOK denomOf u
  | _ => True

/-- held + slashed + queued -/
def total (denomOf : Bytes → String) (s : State) (d : String) : Int := held s d + slashedOf s d + queued denomOf s d

/-- the property of one step: `total + delivered` grows by exactly the amounts locked -/
def StepOK (denomOf : Bytes → String) (s : State) (r : State × Ledger) : Prop :=
  WF r.1 ∧ r.1.params = s.params ∧
  (∀ d, total denomOf r.1 d + r.2.delivered d = total denomOf s d + r.2.locked d) ∧
  (NonNeg s → ParamsOK s → NonNeg r.1 ∧ (∀ d, 0 ≤ r.2.delivered d) ∧ (∀ d, slashedOf s d ≤ slashedOf r.1 d)) ∧
  (∀ d, 0 ≤ r.2.locked d)

theorem stepOK_same (denomOf : Bytes → String) (s : State) (hw : WF s) : StepOK denomOf s (s, Ledger.zero) :=
  ⟨hw, rfl, fun _ => rfl, fun hn _ => ⟨hn, fun _ => Int.le_refl _, fun _ => Int.le_refl _⟩,
   fun _ => Int.le_refl _⟩

theorem applyProcess_ok (denomOf : Bytes → String) (hash160 : Bytes → Bytes) (hasAccount : Bytes → Bool) (s : State)
    (height now : Int) (r : Reqs) (hw : WF s) (hop : ∀ u ∈ r.unlocks, ReqOK denomOf u) :
    StepOK denomOf s (applyProcess hash160 hasAccount s height now r) := by
  unfold applyProcess
  split
  · rename_i s' accs heq
    obtain ⟨k1, k2, k3, k4, k5, k6⟩ := processRequests_spec denomOf hash160 hasAccount s s' height now r accs hw hop heq
    refine ⟨k1, k2, ?_, ?_, ?_⟩
    · intro d; unfold total; dsimp only; rw [k3]; have := k4 d; omega
    · intro hn _
      exact ⟨k5 hn, fun _ => Int.le_refl _, fun d => Int.le_of_eq (k3 d).symm⟩
    · exact fun d => lockSum_nonneg r.locks d k6
  · exact stepOK_same denomOf s hw

theorem applyBeginBlock_ok (denomOf : Bytes → String) (s : State) (height now : Int) (votes : List VoteInfo)
    (maxAge : Option (Int × Int)) (evs : List Evidence) (hw : WF s) :
    StepOK denomOf s (applyBeginBlock s height now votes maxAge evs) := by
  unfold applyBeginBlock
  split
  · rename_i s' heq
    have k := beginBlock_spec denomOf s s' height now votes maxAge evs hw heq
    refine ⟨k.wf, k.params, ?_, ?_, fun _ => Int.le_refl _⟩
    · intro d; unfold total; simp only [Ledger.zero]; rw [k.queued]; have := k.moved d; omega
    · intro hn hp
      obtain ⟨x1, x2⟩ := k.nonneg hn hp
      exact ⟨x1, fun _ => Int.le_refl _, x2⟩
  · exact stepOK_same denomOf s hw

theorem applyEndBlocker_ok (denomOf : Bytes → String) (s : State) (hw : WF s) : StepOK denomOf s (applyEndBlocker s) := by
  unfold applyEndBlocker
  split
  · rename_i s' ups heq
    have k := endBlocker_frame s s' ups hw heq
    refine ⟨k.wf, k.params, ?_, ?_, fun _ => Int.le_refl _⟩
    · intro d; unfold total; simp only [Ledger.zero]; rw [k.held, k.slashedOf, k.queued denomOf]
    · intro hn _
      exact ⟨k.nonneg hn, fun _ => Int.le_refl _, fun d => Int.le_of_eq (k.slashedOf d).symm⟩
  · exact stepOK_same denomOf s hw

theorem applyDequeue_ok (denomOf : Bytes → String) (s : State) (hw : WF s) : StepOK denomOf s (applyDequeue denomOf s) := by
  unfold applyDequeue
  obtain ⟨k1, k2, k3, k4, k5, k6⟩ := dequeue_spec denomOf s hw
  refine ⟨k1, k2, ?_, ?_, fun _ => Int.le_refl _⟩
  · intro d; unfold total; dsimp only; rw [k3, k4]; have := k5 d; omega
  · intro hn _
    obtain ⟨x1, x2⟩ := k6 hn
    exact ⟨x1, fun d => unlockSum_nonneg denomOf _ d x2, fun d => Int.le_of_eq (k4 d).symm⟩

/-- **one step of a history** -/
theorem apply_spec (denomOf : Bytes → String) (s : State) (op : Op) (hw : WF s) (hop : OpOK denomOf op) :
    StepOK denomOf s (apply denomOf s op) := by
  cases op with
  | process hash160 hasAccount height now r => exact applyProcess_ok denomOf hash160 hasAccount s height now r hw hop
  | beginBlock height now votes maxAge evs => exact applyBeginBlock_ok denomOf s height now votes maxAge evs hw
  | endBlocker => exact applyEndBlocker_ok denomOf s hw
  | dequeue => exact applyDequeue_ok denomOf s hw

theorem run_nil (denomOf : Bytes → String) (sl : State × Ledger) : run denomOf sl [] = sl := rfl
theorem run_cons (denomOf : Bytes → String) (sl : State × Ledger) (op : Op) (ops : List Op) :
    run denomOf sl (op :: ops) = run denomOf ((apply denomOf sl.1 op).1, sl.2.add (apply denomOf sl.1 op).2) ops := rfl

/-- **History theorem (relative form).**  For every list of operations from every well-formed start
    state and every start ledger: well-formedness is kept; per denomination the difference
    `held + slashed + queued + delivered − locked` is preserved; the ledger only grows; and if the
    start state has no negative component and valid slash fractions, neither has the final state,
    the delivered amounts are non-negative and `slashed` never shrinks. -/
theorem history (denomOf : Bytes → String) (ops : List Op) :
    ∀ (s0 : State) (L0 : Ledger), WF s0 → (∀ op ∈ ops, OpOK denomOf op) →
      WF (run denomOf (s0, L0) ops).1 ∧
      (∀ d, total denomOf (run denomOf (s0, L0) ops).1 d + (run denomOf (s0, L0) ops).2.delivered d
              - (run denomOf (s0, L0) ops).2.locked d
            = total denomOf s0 d + L0.delivered d - L0.locked d) ∧
      (∀ d, L0.locked d ≤ (run denomOf (s0, L0) ops).2.locked d) ∧
      (NonNeg s0 → ParamsOK s0 →
        NonNeg (run denomOf (s0, L0) ops).1 ∧ ParamsOK (run denomOf (s0, L0) ops).1 ∧
        (∀ d, L0.delivered d ≤ (run denomOf (s0, L0) ops).2.delivered d) ∧
        (∀ d, slashedOf s0 d ≤ slashedOf (run denomOf (s0, L0) ops).1 d)) := by
  induction ops with
  | nil =>
    intro s0 L0 hw _
    exact ⟨hw, fun _ => rfl, fun _ => Int.le_refl _, fun hn hp => ⟨hn, hp, fun _ => Int.le_refl _, fun _ => Int.le_refl _⟩⟩
  | cons op ops ih =>
    intro s0 L0 hw hops
    obtain ⟨a1, a2, a3, a4, a5⟩ := apply_spec denomOf s0 op hw (hops op List.mem_cons_self)
    obtain ⟨b1, b2, b3, b4⟩ := ih (apply denomOf s0 op).1 (L0.add (apply denomOf s0 op).2) a1
      (fun o ho => hops o (List.mem_cons_of_mem _ ho))
    rw [run_cons]
    refine ⟨b1, fun d => ?_, fun d => Int.le_trans (Int.le_add_of_nonneg_right (a5 d)) (b3 d), fun hn hp => ?_⟩
    · rw [b2 d]
      have := a3 d
      simp only [Ledger.add]; omega
    · obtain ⟨x1, x2, x3⟩ := a4 hn hp
      obtain ⟨y1, y2, y3, y4⟩ := b4 x1 (paramsOK_congr a2 hp)
      exact ⟨y1, y2, fun d => Int.le_trans (Int.le_add_of_nonneg_right (x2 d)) (y3 d), fun d => Int.le_trans (x3 d) (y4 d)⟩

/-- **Conservation across histories (C11).**  If at the start, for every token,
    `locked = held + slashed + queued + delivered`, then after any interleaving of operations the same
    holds: the total ever locked equals what validators hold plus what has been slashed plus what has
    been released through unlocks (still queued or delivered). -/
theorem conservation (denomOf : Bytes → String) (ops : List Op) (s0 : State) (L0 : Ledger) (hw : WF s0)
    (hops : ∀ op ∈ ops, OpOK denomOf op)
    (h0 : ∀ d, L0.locked d = held s0 d + slashedOf s0 d + queued denomOf s0 d + L0.delivered d) (d : String) :
    (run denomOf (s0, L0) ops).2.locked d
      = held (run denomOf (s0, L0) ops).1 d + slashedOf (run denomOf (s0, L0) ops).1 d
        + queued denomOf (run denomOf (s0, L0) ops).1 d + (run denomOf (s0, L0) ops).2.delivered d := by
  have h := (history denomOf ops s0 L0 hw hops).2.1 d
  have := h0 d
  unfold total at h
  omega

/-- **No negative component, ever**: from a start state without negative components and with slash
    fractions ≤ 1, every validator's holding of every token, the slashed total, every queued unlock,
    hence `held`, `slashed`, `queued`, and the delivered total stay non-negative. -/
theorem nonnegativity (denomOf : Bytes → String) (ops : List Op) (s0 : State) (L0 : Ledger) (hw : WF s0)
    (hops : ∀ op ∈ ops, OpOK denomOf op) (hn : NonNeg s0) (hp : ParamsOK s0) (hd : ∀ d, 0 ≤ L0.delivered d) (d : String) :
    NonNeg (run denomOf (s0, L0) ops).1 ∧
    0 ≤ held (run denomOf (s0, L0) ops).1 d ∧ 0 ≤ slashedOf (run denomOf (s0, L0) ops).1 d ∧
    0 ≤ queued denomOf (run denomOf (s0, L0) ops).1 d ∧ 0 ≤ (run denomOf (s0, L0) ops).2.delivered d ∧
    (∀ a v, vget (run denomOf (s0, L0) ops).1 a = some v → 0 ≤ amountOf v.locking d) := by
  obtain ⟨x1, _, x3, _⟩ := (history denomOf ops s0 L0 hw hops).2.2.2 hn hp
  refine ⟨x1, x1.held_nonneg d, x1.slashed d, x1.queued_nonneg denomOf d, Int.le_trans (hd d) (x3 d), ?_⟩
  intro a v hv
  exact x1.validator_nonneg a v hv d

/-- the state before anything happened: no validators, nothing slashed, nothing queued -/
def genesis (p : Params) : State :=
  { params := p, validators := [], lockingIdx := [], ranking := [], valset := [], tokens := [], threshold := [],
    slashed := [], nonce := 0, pool := ⟨0, 0, 0⟩, qRewards := [], qUnlocks := [], unlockQueue := [] }

theorem genesis_wf (p : Params) : WF (genesis p) :=
  ⟨List.nodup_nil, fun e he => (by cases he), List.nodup_nil⟩

theorem genesis_nonneg (p : Params) : NonNeg (genesis p) :=
  ⟨fun e he => (by cases he), fun _ => Int.le_refl _, fun e he => (by cases he), fun u hu => (by cases hu)⟩

/-- **C11 from genesis**: starting with nothing and an empty ledger, after any history
    `locked = held + slashed + queued + delivered` for every token, all five non-negative. -/
theorem conservation_from_genesis (denomOf : Bytes → String) (p : Params) (hp : p.slashDowntime ≤ e18 ∧ p.slashDoubleSign ≤ e18)
    (ops : List Op) (hops : ∀ op ∈ ops, OpOK denomOf op) (d : String) :
    let r := run denomOf (genesis p, Ledger.zero) ops
    r.2.locked d = held r.1 d + slashedOf r.1 d + queued denomOf r.1 d + r.2.delivered d ∧
    0 ≤ held r.1 d ∧ 0 ≤ slashedOf r.1 d ∧ 0 ≤ queued denomOf r.1 d ∧ 0 ≤ r.2.delivered d ∧ 0 ≤ r.2.locked d := by
  intro r
  have h1 := conservation denomOf ops (genesis p) Ledger.zero (genesis_wf p) hops (fun _ => rfl) d
  obtain ⟨_, h2, h3, h4, h5, _⟩ := nonnegativity denomOf ops (genesis p) Ledger.zero (genesis_wf p) hops
    (genesis_nonneg p) hp (fun _ => Int.le_refl _) d
  have h6 := (history denomOf ops (genesis p) Ledger.zero (genesis_wf p) hops).2.2.1 d
  exact ⟨h1, h2, h3, h4, h5, h6⟩

/-! ## non-vacuity: a concrete history -/

namespace Example

def params : Params :=
  { unlockDuration := 10, exitingDuration := 20, downtimeJail := 5, maxValidators := 10, signedBlocksWindow := 100,
    maxMissed := 50, slashDoubleSign := 50000000000000000, slashDowntime := 10000000000000000,
    halvingInterval := 1000, initialReward := 0 }

/-- the zero address is "btc" (as in `types.TokenDenom`) -/
def denomOf (a : Bytes) : String := if a = [] then "btc" else "other"

/-- block 1: register the token, create validator `[1]`, lock 1000 btc;
    block 2: unlock 300 btc; begin block at time 100 with double-sign evidence (5 % slash);
    end block; hand-over of the matured unlock -/
def ops : List Op :=
  [ .process id (fun _ => false) 1 50
      { gas := [0], weights := [("btc", 1)], creates := [{ validator := [1], compressed := [1] }],
        locks := [{ validator := [1], token := "btc", amount := 1000 }] },
    .process id (fun _ => false) 2 60
      { gas := [0], unlocks := [{ id := 7, validator := [1], recipient := [9], token := "btc", tokenAddr := [], amount := 300 }] },
    .beginBlock 3 100 [] none [{ kind := 1, address := [1], height := 2, time := 60 }],
    .endBlocker,
    .dequeue ]

def final : State × Ledger := run denomOf (genesis params, Ledger.zero) ops

/-- the history runs through (no step fails) and ends with 1000 locked = 665 held + 35 slashed +
    0 queued + 300 delivered -/
example : final.2.locked "btc" = 1000 ∧ final.2.delivered "btc" = 300 ∧ held final.1 "btc" = 665 ∧
    slashedOf final.1 "btc" = 35 ∧ queued denomOf final.1 "btc" = 0 := by decide +kernel

/-- after the second block the unlock sits in the time queue; after begin-block it is matured, still queued -/
example : queued denomOf (run denomOf (genesis params, Ledger.zero) (ops.take 2)).1 "btc" = 300 ∧
    held (run denomOf (genesis params, Ledger.zero) (ops.take 2)).1 "btc" = 700 ∧
    (run denomOf (genesis params, Ledger.zero) (ops.take 3)).1.qUnlocks.map (·.amount) = [300] ∧
    queued denomOf (run denomOf (genesis params, Ledger.zero) (ops.take 3)).1 "btc" = 300 := by decide +kernel

theorem ops_ok : ∀ op ∈ ops, OpOK denomOf op := by
  intro op hop
  simp only [ops, List.mem_cons, List.mem_nil_iff, or_false] at hop
  rcases hop with rfl | rfl | rfl | rfl | rfl
  · intro u hu; cases hu
  · intro u hu
    simp only [List.mem_singleton] at hu
    subst hu
    rfl
  · trivial
  · trivial
  · trivial

/-- the hypotheses of the history theorems hold for this history: the theorems apply to it -/
example : final.2.locked "btc" = held final.1 "btc" + slashedOf final.1 "btc" + queued denomOf final.1 "btc"
    + final.2.delivered "btc" :=
  (conservation_from_genesis denomOf params (by decide) ops ops_ok "btc").1

/-- a request above the holding is clipped to the holding (here: 665 left after the slash) and the
    validator, already tombstoned, keeps its record; a further lock to the tombstoned validator is
    still credited to its holding -/
example :
    (match unlockOne final.1 200 { id := 8, validator := [1], recipient := [9], token := "btc", tokenAddr := [], amount := 5000 } with
      | .ok s' => (held s' "btc", queued denomOf s' "btc")
      | _ => (-1, -1)) = (0, 665) ∧
    (match lock final.1 200 [{ validator := [1], token := "btc", amount := 50 }] with
      | .ok s' => (held s' "btc", slashedOf s' "btc")
      | _ => (-1, -1)) = (715, 35) := by decide +kernel

/-- negative amounts are rejected: a negative unlock request and a negative lock request panic
    (`sdk.NewCoin` with a negative amount) -/
example :
    (unlockOne final.1 200 { id := 8, validator := [1], recipient := [9], token := "btc", tokenAddr := [], amount := -5 }).cls
      = "panic:negative-coin" ∧
    (lock final.1 200 [{ validator := [1], token := "btc", amount := -5 }]).cls = "panic:negative-coin" := by decide +kernel

/-- `ReqOK` is needed: an unlock record whose token address belongs to another denomination than the
    one debited breaks the per-denomination equation (1000 locked, 700 held, nothing queued for "btc") -/
example :
    let bad : List Op :=
      [ ops[0], .process id (fun _ => false) 2 60
          { gas := [0], unlocks := [{ id := 7, validator := [1], recipient := [9], token := "btc", tokenAddr := [5], amount := 300 }] } ]
    let r := run denomOf (genesis params, Ledger.zero) bad
    r.2.locked "btc" = 1000 ∧ held r.1 "btc" + slashedOf r.1 "btc" + queued denomOf r.1 "btc" + r.2.delivered "btc" = 700 ∧
    queued denomOf r.1 "other" = 300 := by decide +kernel

/-- `WF` is needed (model artefact: association lists): with a duplicated validator key, `vset`
    rewrites both entries and one lock of 5 is counted twice -/
example :
    let v : Validator := { pubkey := [1], power := 0, locking := [], reward := 0, gasReward := 0, status := .inactive,
                           offset := 0, missed := 0, jailedUntil := 0 }
    let s : State := { genesis params with validators := [([1], v), ([1], v)] }
    (match lockOne s 0 [1] [("btc", 5)] with
      | .ok s' => held s' "btc"
      | _ => -1) = 10 := by decide +kernel

/-- `ParamsOK` is needed (the Go code validates both fractions to be below one): with a slash
    fraction of 2 the remaining holding becomes negative -/
example :
    let r := run denomOf (genesis { params with slashDoubleSign := 2000000000000000000 }, Ledger.zero) ops
    held r.1 "btc" = -700 ∧ slashedOf r.1 "btc" = 1400 ∧ r.2.locked "btc" = 1000 ∧ r.2.delivered "btc" = 300 := by
  decide +kernel

end Example

end Goat.C11H
