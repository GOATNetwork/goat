/-
  Non-vacuity audit of the property theorems (checklib/props.py).

  For every family of hypotheses that has no witness next to its theorems, an `example` here
  instantiates the hypotheses with concrete, non-degenerate values.  Families whose hypotheses
  can only be met degenerately, or whose conclusion is decided by the hypotheses alone, are recorded
  as theorems named `<thm>_hyps_inconsistent` / `<thm>_conclusion_always`.
-/
import GoatProofs.C01
import GoatProofs.C01S
import GoatProofs.C03
import GoatProofs.C03H
import GoatProofs.C04
import GoatProofs.C04I
import GoatProofs.C05H
import GoatProofs.C16
import GoatProofs.C17
import GoatProofs.C13H
import GoatProofs.C13B
import GoatProofs.C14
import GoatProofs.C14H
import GoatProofs.C15
import GoatProofs.C15H
import GoatProofs.C18
import GoatProofs.C18B
import GoatProofs.C19R
import GoatProofs.C06B
import GoatProofs.C20
import GoatProofs.Lemmas.ValSet

namespace Goat.NonVacuity

/-- the way the witnesses below are checked: evaluate the operation, test the result -/
theorem ok_with {α : Type} {o : Outcome α} (p : α → Bool)
    (h : (match o with | .ok r => p r | _ => false) = true) : ∃ r, o = .ok r ∧ p r = true := by
  cases o with
  | ok r => exact ⟨r, rfl, h⟩
  | err e => cases h
  | panic e => cases h

/-! ## C01 / C02 / C05H / C06 / C18B : the three voted handlers that have no witness elsewhere
    (`processWithdrawal`, `replaceWithdrawal`, `finalizeWithdrawal` have one in C05H) -/
section Voted
open Goat.Bitcoin Goat.C05H

def hash32 (b : UInt8) : Bytes := List.replicate 32 b
/-- the vote of C05H with a signature of the demanded length (48 bytes) -/
def voteV : Relayer.VoteMsg := { vote0 with signature := List.replicate 48 0 }

/-- `newBlockHashes … = .ok r` (C01.newBlockHashes_needs_quorum, C01S.newBlockHashes_ok_validated,
    C02.newBlockHashes_consumes, C05H.newBlockHashes_step, C06.blockhashes_gapfree): two hashes appended
    after tip 0 by a quorum of 2 out of 3 voters -/
example : ∃ r, newBlockHashes rc0 "x" rel0 s0 voteV true 1 [hash32 1, hash32 2] = .ok r ∧
    decide (r.2.tip = 2 ∧ nlookup r.2.hashes 2 = some (hash32 2) ∧ r.1.seq = 8) = true :=
  ok_with _ (by decide +kernel)

def pkNew : PubKey := { kind := 0, key := 2 :: List.replicate 32 0 }

/-- `newPubkey … = .ok r` (C01.newPubkey_needs_quorum, C01S.newPubkey_ok_validated, C02.newPubkey_consumes,
    C05H.newPubkey_step) -/
example : ∃ r, newPubkey rc0 "x" rel0 s0 voteV true pkNew = .ok r ∧
    decide (r.2.pubkey = pkNew ∧ r.1.pubkeys = [pkNew.encode]) = true :=
  ok_with _ (by decide +kernel)

/-- the bridge whose current key is `pkNew`; the toy `hash160` of C05H is 20 zero bytes -/
def sKey : State := { s0 with pubkey := pkNew }
/-- an 82-byte transaction with one output of value 5 to the P2WPKH script of the bridge key -/
def txCons : Bytes :=
  [0,0,0,0] ++ [1] ++ List.replicate 36 0 ++ [0] ++ [0,0,0,0] ++ [1] ++ le64 5 ++ [22] ++ ([0, 20] ++ List.replicate 20 0) ++ [0,0,0,0]

/-- `newConsolidation … = .ok r` (C01.newConsolidation_needs_quorum, C02.newConsolidation_consumes,
    C05H.newConsolidation_step) -/
example : ∃ r, newConsolidation c0 rc0 "x" rel0 sKey voteV true txCons = .ok r ∧
    decide (r.2.pubkey = pkNew ∧ r.1.seq = 8) = true :=
  ok_with _ (by decide +kernel)

end Voted

/-! ## C03.C03_value_exact : an accepted deposit in a bridge whose parameters satisfy `C20.ParamInv` -/
section Deposit
open Goat.Bitcoin Goat.C03H.Example

example : verifyDeposit c1 rel1 s1 [(3, hdr)] dep1 = .ok rcp1 ∧ C20.ParamInv s1.params ∧
    BtcTx.parseNoWitness dep1.noWitnessTx = some [{ value := 50000, pkScript := [0x00, 0x20] ++ List.replicate 32 0 }] ∧
    50000 < two64 := by
  decide +kernel

end Deposit

/-! ## C16 : `newVoter … = .ok` (newVoter_by_proof, newVoter_joined, newVoter_preserves) in a state satisfying `GroupInv` -/
section NewVoter
open Goat.Relayer Goat.C16

/-- toy crypto: the "hash" of a vote key is its first byte; every transaction key has the address "n2";
    a proof is accepted when it is the expected constant -/
def cV : Crypto :=
  { sha256 := fun b => b.take 1, hash160 := id, aggVerify := fun _ _ _ => false,
    blsVerify := fun _ _ p => p == List.replicate 48 8, ecdsaVerify := fun _ _ p => p == List.replicate 64 9,
    addrOf := fun _ => "n2" }
/-- the pending record "n2" of `C16.exampleState` (vote-key hash `[6]`) proves possession of both keys -/
def mV : NewVoterMsg :=
  { proposer := "p", blsKey := List.replicate 96 6, blsProof := List.replicate 48 8, txKey := List.replicate 33 2,
    txProof := List.replicate 64 9 }

example : GroupInv exampleState ∧
    ∃ r, newVoter cV "x" exampleState mV (fun _ => false) = .ok r ∧
      decide (r.2 = some "n2" ∧ r.1.onBoarding = ["n1", "n2"]) = true :=
  ⟨by constructor <;> decide +kernel, ok_with _ (by decide +kernel)⟩

/-- a wrong proof is refused: the verifier is not the always-true one -/
example : newVoter cV "x" exampleState { mV with txProof := List.replicate 64 0 } (fun _ => false) = .err "tx-proof" := by
  decide +kernel

end NewVoter

/-! ## C17 : the length hypotheses on the hash / tweak oracles of `v0_accept_iff`, `v0_roundtrip`,
    `v1_accept_iff`, `v1_roundtrip`, `system_script_ecdsa` -/
section Scripts
open Goat.Bitcoin

def pad (n : Nat) (b : Bytes) : Bytes := (b ++ List.replicate n 0).take n
theorem pad_length (n : Nat) (b : Bytes) : (pad n b).length = n := by simp [pad]

/-- non-constant oracles with the demanded output lengths -/
def c17 : Crypto :=
  { sha256 := pad 32, dsha256 := pad 32, hash160 := pad 20, tweak := fun k e => if k.length = 32 then some (pad 32 (e ++ k)) else none,
    tweakNoScript := fun k => some (pad 32 k), decodeAddr := fun _ => none }

def pkE : PubKey := { kind := 0, key := 2 :: List.replicate 32 5 }
def pkT : PubKey := { kind := 1, key := List.replicate 32 6 }
def evmA : Bytes := List.replicate 20 0xaa

example : (∀ b, (c17.sha256 b).length = 32) ∧ (∀ b, (c17.hash160 b).length = 20) ∧
    (∀ k e w, c17.tweak k e = some w → w.length = 32) ∧ pkE.validate = true ∧ pkT.validate = true := by
  refine ⟨pad_length 32, pad_length 20, ?_, by decide, by decide⟩
  intro k e w h
  simp only [c17] at h
  split at h
  · cases h; exact pad_length 32 _
  · cases h

/-- both builders succeed (ECDSA key and Taproot key), so `v0_roundtrip` / `v1_roundtrip` have instances -/
example : (depositOutputV0 c17 pkE evmA).isSome = true ∧ (depositOutputV0 c17 pkT evmA).isSome = true ∧
    (depositOutputsV1 c17 pkE [1, 2, 3, 4] evmA).isSome = true := by decide +kernel

end Scripts

/-! ## ValSet.comet_apply_spec : all eight hypotheses at once (one key added, one re-weighted, one removed) -/
section CometSpec
open Goat.Comet

example :
    let cs : VSet := [([1], 5), ([2], 6), ([3], 7)]
    let ups : List (Bytes × Int) := [([2], 9), ([3], 0), ([4], 1)]
    let target : VSet := [([1], 5), ([2], 9), ([4], 1)]
    (cs.map (·.1)).Nodup ∧ (ups.map (·.1)).Nodup ∧ (∀ u ∈ ups, 0 ≤ u.2 ∧ u.2 ≤ (maxTotal : Int)) ∧
    (∀ u ∈ ups, u.2 = 0 → u.1 ∈ cs.map (·.1)) ∧ (target.map (·.1)).Nodup ∧
    (∀ k p, (k, p) ∈ target ↔ (∃ u : Int, (k, u) ∈ ups ∧ u ≠ 0 ∧ p = u.toNat) ∨ ((k, p) ∈ cs ∧ k ∉ ups.map (·.1))) ∧
    total target ≤ maxTotal ∧ target ≠ [] := by
  intro cs ups target
  refine ⟨by decide +kernel, by decide +kernel, by decide +kernel, by decide +kernel, by decide +kernel, ?_, by decide +kernel,
    by decide +kernel⟩
  intro k p
  simp only [cs, ups, target, List.mem_cons, List.mem_nil_iff, Prod.mk.injEq, or_false, List.map]
  constructor
  · rintro (⟨rfl, rfl⟩ | ⟨rfl, rfl⟩ | ⟨rfl, rfl⟩)
    · exact Or.inr ⟨Or.inl ⟨rfl, rfl⟩, by decide⟩
    · exact Or.inl ⟨9, Or.inl ⟨rfl, rfl⟩, by decide, rfl⟩
    · exact Or.inl ⟨1, Or.inr (Or.inr ⟨rfl, rfl⟩), by decide, rfl⟩
  · rintro (⟨u, (⟨rfl, rfl⟩ | ⟨rfl, rfl⟩ | ⟨rfl, rfl⟩), hu, rfl⟩ | ⟨(⟨rfl, rfl⟩ | ⟨rfl, rfl⟩ | ⟨rfl, rfl⟩), hk⟩)
    · exact Or.inr (Or.inl ⟨rfl, rfl⟩)
    · exact absurd rfl hu
    · exact Or.inr (Or.inr ⟨rfl, rfl⟩)
    · exact Or.inl ⟨rfl, rfl⟩
    · exact absurd (by decide) hk
    · exact absurd (by decide) hk

end CometSpec

/-! ## C18 : `WfGenesis`, `CanonGenesis` (export_import, initGenesis_establishes_Derived, initGenesisCore_spec,
    C13B.start_of_genesis) and `ImportDemands` with both order hypotheses (relayer_export_import) -/
section Genesis
open Goat.Genesis Goat.C18 Goat.C18.Example

/-- `WfGenesis` is witnessed by `C13B.exGenesis` (`C13B.ex0_start`); the same genesis is in export form -/
example : CanonGenesis id C13B.exGenesis ∧ WfGenesis id C13B.exGenesis ∧ C13B.exGenesis.validators.length = 2 := by
  decide

/-- the export of the relayer store `C18.Example.r0` (five voter records, one public key) -/
example : ∃ r, ImportDemands addrOf dec (Finding.exportLit r0) r ∧
    (Finding.exportLit r0).voters.Pairwise (fun a b => addrOf a.address < addrOf b.address) ∧
    (Finding.exportLit r0).pubkeys.Pairwise (fun a b => Locking.bytesLt a.encode b.encode = true) ∧
    (Finding.exportLit r0).voters.length = 5 :=
  ⟨{ epoch := r0.epoch, proposer := r0.proposer, voters := r0.voters, lastElected := r0.lastElected, accepted := r0.accepted },
    by decide +kernel⟩

end Genesis

/-! ## C14 : the establishing steps succeed on a concrete state (C14.downtime_exact, evidence_tombstones,
    C14H.downtime_establishes_jailed, evidence_establishes_tomb); C14H has them only as hypotheses of examples -/
section Offences
open Goat.Locking Goat.C14H.Example

/-- `C14H.Example.s1`: validator `[1]` Active with 1000 btc, `maxMissed = 2`.  Fresh duplicate-vote evidence is
    processed and tombstones it -/
example : (∃ v, vget s1 [1] = some v ∧ v.status = .active ∧ Link s1 [1] v) ∧
    isStale 60 3 none { kind := 1, address := [1], height := 2, time := 55 } = false ∧
    ∃ s', handleEvidence s1 60 3 none { kind := 1, address := [1], height := 2, time := 55 } = .ok s' ∧
      ((vget s' [1]).map (·.status) == some Status.tombstoned) = true := by
  refine ⟨?_, by decide, ok_with _ (by decide +kernel)⟩
  cases hv : vget s1 [1] with
  | none => exact absurd hv (by decide +kernel)
  | some v => exact ⟨v, rfl, (s1_link v hv).2, (s1_link v hv).1⟩

/-- the state after one reported absence of `[1]` (first of the two absences of `C14H.Example.jailOps`) -/
def sMissedOnce : State :=
  runS (C11H.genesis params) (setup ++ [ .beginBlock 3 60 [{ address := [1], power := 1000, absent := true }] none [] ])

/-- a signed vote and a first absence of the Active validator are processed (the `else` branch of
    `downtime_exact`); the second absence reaches `maxMissed = 2` and jails it (the `then` branch) -/
example : (∃ s', handleVote s1 60 { address := [1], power := 1000, absent := false } = .ok s' ∧
      ((vget s' [1]).map (·.status) == some Status.active) = true) ∧
    ((vget sMissedOnce [1]).map (fun v => (v.status, v.missed)) == some (Status.active, 1)) = true ∧
    ∃ s', handleVote sMissedOnce 70 { address := [1], power := 1000, absent := true } = .ok s' ∧
      ((vget s' [1]).map (fun v => (v.status, v.power, v.jailedUntil)) == some (Status.downgrade, 0, 75)) = true :=
  -- one evaluation of the three tests; the two on an `Outcome` then give their existentials
  And.imp (ok_with _) (And.imp_right (ok_with _)) (by decide +kernel)

end Offences

/-! ## C13H.rejected_if_empty : a non-empty recorded set that EndBlocker empties (the only member is jailed) -/
section Emptied
open Goat.Locking Goat.C13H

def sEmptying : State :=
  { (default : State) with
    params := { (default : Params) with maxValidators := 2 },
    validators := [([1], mkV [11] 0 .downgrade)], ranking := [], valset := [([1], 5)] }

/-- the only validator record of `sEmptying` -/
theorem sEmptying_vget {a : Bytes} {v : Validator} (h : vget sEmptying a = some v) :
    a = [1] ∧ v = mkV [11] 0 .downgrade :=
  Prod.mk.inj (List.mem_singleton.mp (mem_of_vget h))

theorem sEmptying_rankOk : RankOk sEmptying where
  rank_nodup := List.nodup_nil
  rank_rec := nofun
  rank_complete := fun _ _ hv hst _ => absurd ((sEmptying_vget hv).2 ▸ hst) (by decide)
  valset_nodup := by decide
  valset_rec := fun _ _ hm => (Prod.mk.inj (List.mem_singleton.mp hm)).1 ▸ ⟨_, rfl⟩
  pending_out := fun _ _ hv hst => absurd ((sEmptying_vget hv).2 ▸ hst) (by decide)
  max_nonneg := by decide

theorem sEmptying_pkInj : PkInj sEmptying :=
  fun _ _ _ _ ha hb _ => (sEmptying_vget ha).1.trans (sEmptying_vget hb).1.symm

example : RankOk sEmptying ∧ PkInj sEmptying ∧ Sync sEmptying (cometOf sEmptying) ∧ sEmptying.valset ≠ [] ∧
    ∃ r, endBlocker sEmptying = .ok r ∧ decide (r.1.valset = []) = true :=
  ⟨sEmptying_rankOk, sEmptying_pkInj, sync_genesis _, by decide, ok_with _ (by decide +kernel)⟩

end Emptied

/-! ## C15 / C15H : an exiting unlock (`below_threshold_exits`, `exit_is_immediate`) and an exited record
    (`exited_unlock_exact`, `exited_unlock_queued`, `exited_stays_withdrawable`), directly on states of `C15H.Example` -/
section Exits
open Goat.Locking Goat.C15H.Example

/-- after the first unlock: `[1]` Pending (no EndBlocker has run) with 700 btc, threshold 500 -/
def sExit : State := (C15H.grun start (ops.take 2)).1
def r8 : UnlockReq := { id := 8, validator := [1], recipient := [9], token := "btc", tokenAddr := [], amount := 300 }
/-- after the second unlock: `[1]` Inactive with 400 btc -/
def sOut : State := (C15H.grun start (ops.take 3)).1

example : (∃ x, unlockCore sExit r8 = .ok x ∧ decide (x.2.1 = true ∧ x.2.2 = 300) = true) ∧
    ((vget sExit [1]).map (fun v => (v.status, v.power, amountOf v.locking "btc")) == some (Status.pending, 0, 700)) = true ∧
    ((tget (rankRemove sExit 0 [1]) "btc").map (·.threshold) == some 500) = true ∧
    exitingOf Status.pending (700 - unlockAmount 700 300) 500 = true :=
  And.imp_left (ok_with _) (by decide +kernel)

example : (∃ v, OutRec sOut [1] v ∧ v.status = .inactive) ∧ (tget sOut "btc").isSome = true :=
  ⟨C14H.Example.outB_sound sOut [1] Status.inactive (by decide) (by decide +kernel), by decide +kernel⟩

end Exits

/-! ## C18B : the hash clauses of `newBlockHashes_keeps_hash_clauses`; `tip_hash_missing_blocks_import` -/
section BtcGenesis
open Goat.Bitcoin Goat.C05H

/-- the bridge of `C03H.Example.s1` (one hash, at the tip 3): every clause with `lo = 3`, and the next hash is voted in -/
example :
    let s := C03H.Example.s1
    (∃ r, newBlockHashes rc0 "x" rel0 s voteV true 4 [hash32 1] = .ok r ∧ decide (r.2.tip = 4) = true) ∧
    (∀ e ∈ s.hashes, e.2.length = 32) ∧ (s.hashes.map (·.1)).Nodup ∧ 3 ≤ s.tip ∧
    (∀ k, (nlookup s.hashes k).isSome = true ↔ 3 ≤ k ∧ k ≤ s.tip) := by
  intro s
  refine ⟨ok_with _ (by decide +kernel), by decide, by decide, by decide, ?_⟩
  intro k
  -- the only hash is at height 3, which is the tip
  show (nlookup [(3, List.replicate 32 80)] k).isSome = true ↔ 3 ≤ k ∧ k ≤ 3
  rw [nlookup, List.find?_cons]
  by_cases hk : 3 = k
  · rw [beq_iff_eq.mpr hk, ← hk]; exact ⟨fun _ => ⟨Nat.le_refl 3, Nat.le_refl 3⟩, fun _ => rfl⟩
  · rw [beq_eq_false_iff_ne.mpr hk]
    exact ⟨nofun, fun h => absurd (Nat.le_antisymm h.1 h.2) hk⟩

/-- valid parameters and key, tip far from the maximum, no hash at the tip (`C18B.Example.s0` without its hashes) -/
example :
    let s : State := { C18B.Example.s0 with hashes := [] }
    paramsValidate s.params = true ∧ s.pubkey.validate = true ∧ s.tip + 1 < two64 ∧ nlookup s.hashes s.tip = none := by
  decide

end BtcGenesis

/-! ## C19R.decode_encode : a non-empty list of well-formed groups (gas, withdrawal, add-voter) -/
section Requests
open Goat.Requests Goat.C19R

example :
    let gs : List Group :=
      [.gas [{ height := 7, amount := 1000 }], .withdrawal [{ id := 1, amount := 2, txPrice := 3, address := [120] }],
       .cancel1 [{ id := 1 }, { id := 2 }]]
    gs.length ≤ 255 ∧ ∀ g ∈ gs, g.WF := by
  intro gs
  -- group by group, record by record
  refine ⟨by decide, List.forall_mem_cons.mpr ⟨?_, List.forall_mem_cons.mpr ⟨?_, List.forall_mem_singleton.mpr ?_⟩⟩⟩
  · exact List.forall_mem_singleton.mpr ⟨by decide, by decide⟩
  · exact ⟨List.forall_mem_singleton.mpr ⟨by decide, by decide, by decide, by decide⟩,
      fun r hr => Option.some.inj hr ▸ List.cons_ne_nil _ _⟩
  · exact List.forall_mem_cons.mpr ⟨(by decide : 1 < 2 ^ 64), List.forall_mem_singleton.mpr (by decide : 2 < 2 ^ 64)⟩

end Requests

/-! ## C06B : `NumRange` (encodeSysTx_eq_iff_norm) outside `InRange`: the negative amount of `C06B.exNegative` -/
section SysTxRange
open Goat.C06B

example : NumRange exNegative ∧ ¬ InRange exNegative := by
  simp only [NumRange, InRange, DataInRange, exNegative]
  decide

end SysTxRange

/-! ## conclusions decided by the hypotheses alone (not vacuous, but without content as implications) -/
section Degenerate

/-- `C04.C04_position_binding_ideal` assumes `IdealHash H`, which no function satisfies -/
theorem C04_position_binding_ideal_hyps_inconsistent (H : Bytes → Bytes) : ¬ C04.IdealHash H :=
  C04.idealHash_unsatisfiable H

/-- Why `C04.C04_position_binding`, `C04_accepted_is_leaf`, `C04_same_position_same_leaf` and
    `C03.C03_coinbase_only_at_zero` conclude `… ∨ RunCollision …` (a collision among the finitely many strings the run
    itself hashed) and not `… ∨ Collision64 H`: the latter follows from `Out32 H` alone, so a theorem concluding it
    would be a consequence of the pigeonhole lemma. -/
theorem C04_position_binding_conclusion_always (H : Bytes → Bytes) (hH : C04.Out32 H) : C04.Collision64 H :=
  C04.collision64_exists H hH

/-- the same for `C01S.processWithdrawal_doc_binds_or_collision`: its hypothesis "the digest is 32 bytes"
    alone gives the right disjunct of its conclusion — hence `C01X.processWithdrawal_doc_binds_explicit`, which names the
    colliding pair (the two pre-images, or the two transactions) -/
theorem processWithdrawal_doc_binds_or_collision_conclusion_always (c : Relayer.Crypto)
    (h : ∀ x, (c.sha256 x).length = 32) : C01S.Collision c.sha256 := by
  apply Classical.byContradiction
  intro hn
  exact C01S.ideal_hash_hyps_inconsistent c
    ⟨fun x y e => Classical.byContradiction fun hne => hn ⟨x, y, hne, e⟩, h⟩

end Degenerate

end Goat.NonVacuity
