/-
  C09 — the execution head advances only by valid child blocks; engine faults commit nothing.
-/
import GoatModel.App
import GoatModel.Driver
import GoatProofs.Lemmas.Outcome
namespace Goat.C09
open Goat.App

/-- **The head changes only by a direct child**: the execution-block message passes its structural
    checks only if it is authored by the block's consensus proposer who is also the fee recipient, its
    payload's parent is the recorded head with number + 1, it carries no blob gas and names the
    recorded beacon root. -/
theorem head_only_by_child (g : GState) (proposer comet : Bytes) (p p' : Payload)
    (h : newEthBlockChecks g proposer comet (some p) = .ok p') :
    p' = p ∧ proposer = comet ∧ proposer = p.feeRecipient ∧ p.parentHash = g.head.blockHash ∧
    p.blockNumber = g.head.blockNumber + 1 ∧ p.blobGasUsed = 0 ∧ p.beaconRoot = g.beaconRoot := by
  simp only [newEthBlockChecks, Outcome.guard_err_ok_iff, ne_eq, not_or, Decidable.not_not, Outcome.ok.injEq] at h
  obtain ⟨⟨h1, h2⟩, ⟨h3, h4⟩, h5, h6, rfl⟩ := h
  exact ⟨rfl, h1, h2, h3.symm, h4.symm, by omega, h6.symm⟩

/-- a missing payload never advances the head -/
theorem nil_payload_rejected (g : GState) (proposer comet : Bytes) : ∀ p, newEthBlockChecks g proposer comet none ≠ .ok p := by
  intro p h; unfold newEthBlockChecks at h; cases h

/-- **`Finalized`, exactly**: the end-of-block notification succeeds iff neither engine call errors
    or answers INVALID (SYNCING / ACCEPTED are not faults here). -/
theorem finalized_exact (newStatus fcuStatus : String) :
    finalized newStatus fcuStatus = .ok () ↔
      newStatus ≠ "ERROR" ∧ newStatus ≠ "INVALID" ∧ fcuStatus ≠ "ERROR" ∧ fcuStatus ≠ "INVALID" := by
  simp only [finalized, Outcome.guard_err_ok_iff, beq_iff_eq, and_true, ne_eq]

open Goat.Driver

theorem failBlock_not_committed (d : D) (eng : List String) (cls : String) : (failBlock d eng cls).2.1 = false := by
  unfold failBlock; split <;> rfl

theorem failBlock_restores (d : D) (eng : List String) (cls : String) (w0 : World.W) (g0 : GState)
    (hs : d.snap = some (w0, g0)) :
    (failBlock d eng cls).1.w = w0 ∧ (failBlock d eng cls).1.goat = g0 ∧ (failBlock d eng cls).1.snap = none := by
  unfold failBlock; rw [hs]; exact ⟨rfl, rfl, rfl⟩

/-- the end of a block either commits — after a fault-free engine notification and no failed step, and
    then at most the world changes while the saved state is dropped — or is `failBlock` -/
theorem endBlock_cases (d : D) (time : Int) (ns fs : String) :
    (d.failed = none ∧ finalized ns fs = .ok () ∧ ∃ w s, endBlock d time ns fs =
      ({ d with w := w, snap := none, halting := false, failed := none }, true, s)) ∨
    ∃ eng cls, endBlock d time ns fs = failBlock d eng cls := by
  unfold endBlock
  dsimp only
  cases d.failed with
  | some cls => exact Or.inr ⟨_, _, rfl⟩
  | none =>
    cases Relayer.endBlocker (World.relCrypto d.w.o) d.w.rel time with
    | err e => exact Or.inr ⟨_, _, rfl⟩
    | panic e => exact Or.inr ⟨_, _, rfl⟩
    | ok rel =>
      cases finalized ns fs with
      | err e => exact Or.inr ⟨_, _, rfl⟩
      | panic e => exact Or.inr ⟨_, _, rfl⟩
      | ok u =>
        cases Locking.endBlocker d.w.lock with
        | err e => exact Or.inr ⟨_, _, rfl⟩
        | panic e => exact Or.inr ⟨_, _, rfl⟩
        | ok q => exact Or.inl ⟨rfl, rfl, _, _, rfl⟩

/-- **A block that is not committed leaves nothing behind**: whatever happened inside the block
    (transactions, hooks), if its end-of-block step does not commit — an engine fault or a failing hook —
    the state is exactly the one saved when the block started. -/
theorem uncommitted_block_restores_prestate (d : D) (time : Int) (ns fs : String) (w0 : World.W) (g0 : GState)
    (hs : d.snap = some (w0, g0)) (hnc : (endBlock d time ns fs).2.1 = false) :
    (endBlock d time ns fs).1.w = w0 ∧ (endBlock d time ns fs).1.goat = g0 ∧ (endBlock d time ns fs).1.snap = none := by
  rcases endBlock_cases d time ns fs with ⟨_, _, w, s, h⟩ | ⟨eng, cls, h⟩
  · rw [h] at hnc; cases hnc
  · rw [h]; exact failBlock_restores d eng cls w0 g0 hs

/-- **An engine fault at the end of a block prevents the commit.** -/
theorem engine_fault_not_committed (d : D) (time : Int) (ns fs : String)
    (hf : finalized ns fs ≠ .ok ()) : (endBlock d time ns fs).2.1 = false := by
  rcases endBlock_cases d time ns fs with ⟨_, h, _⟩ | ⟨eng, cls, h⟩
  · exact absurd h hf
  · rw [h]; exact failBlock_not_committed d eng cls

/-- a committed block had a fault-free engine notification and no failed step before it -/
theorem committed_needs_engine_ok (d : D) (time : Int) (ns fs : String)
    (hc : (endBlock d time ns fs).2.1 = true) : finalized ns fs = .ok () ∧ d.failed = none := by
  rcases endBlock_cases d time ns fs with ⟨h1, h2, _⟩ | ⟨eng, cls, h⟩
  · exact ⟨h2, h1⟩
  · rw [h, failBlock_not_committed] at hc; cases hc

/-- when the execution-block message is applied its payload has passed the structural checks, the goat
    module's state is made of the payload and the operation's `headerhash`, and besides it only the
    world changes -/
theorem newEthBlock_ok {d d' : D} {o : Wire.Op} (h : newEthBlock d o = .ok d') :
    ∃ p w, payloadOf o = some p ∧
      newEthBlockChecks d.goat (o.bytes "proposer") (o.bytes "comet") (some p) = .ok p ∧
      d' = { d with w := w, goat := { head := { blockHash := p.blockHash, blockNumber := p.blockNumber, parentHash := p.parentHash },
                                      beaconRoot := o.bytes "headerhash" } } := by
  unfold newEthBlock at h
  dsimp only at h
  -- one `split` per stage of the handler (payload, structural checks, due transactions, dequeue check, request
  -- decoding, locking requests, bridge requests); every stage but the last answer ends in an error or a panic
  split at h
  · split at h <;> cases h
  rename_i p hp
  split at h
  · cases h
  · cases h
  rename_i p' hchk
  obtain rfl := (head_only_by_child _ _ _ _ _ hchk).1
  split at h
  · cases h
  · cases h
  split at h
  · cases h
  · cases h
  split at h
  · cases h
  split at h
  · cases h
  · cases h
  split at h
  · cases h
  · cases h
  cases h
  exact ⟨p', _, hp, hchk, rfl⟩

/-- **The head then becomes that payload, and the beacon root the finalising block's hash**: whenever
    the execution-block message is applied, its payload is a direct child of the head recorded
    before, authored by the consensus proposer, with no blob gas and the recorded beacon root; the new
    head is exactly (hash, number, parent) of the payload and the new beacon root is the hash of the
    consensus block being finalised. -/
theorem head_becomes_payload (d d' : D) (o : Wire.Op) (h : newEthBlock d o = .ok d') :
    ∃ p, payloadOf o = some p ∧
      o.bytes "proposer" = o.bytes "comet" ∧ o.bytes "proposer" = p.feeRecipient ∧
      p.parentHash = d.goat.head.blockHash ∧ p.blockNumber = d.goat.head.blockNumber + 1 ∧
      p.blobGasUsed = 0 ∧ p.beaconRoot = d.goat.beaconRoot ∧
      d'.goat.head = { blockHash := p.blockHash, blockNumber := p.blockNumber, parentHash := p.parentHash } ∧
      d'.goat.beaconRoot = o.bytes "headerhash" := by
  obtain ⟨p, w, hp, hchk, rfl⟩ := newEthBlock_ok h
  obtain ⟨_, h1, h2, h3, h4, h5, h6⟩ := head_only_by_child _ _ _ _ _ hchk
  exact ⟨p, hp, h1, h2, h3, h4, h5, h6, rfl, rfl⟩

theorem newEthBlock_keeps_snap (d d' : D) (o : Wire.Op) (h : newEthBlock d o = .ok d') : d'.snap = d.snap := by
  obtain ⟨_, _, _, _, rfl⟩ := newEthBlock_ok h
  rfl

/-- one transaction: the execution-block message is applied and answers "=> ok", or at most the world
    changes -/
theorem runTx_cases (d : D) (o : Wire.Op) :
    (∃ d', o.kind = "tx.ethblock" ∧ newEthBlock d o = .ok d' ∧ runTx d o = (d', "=> ok")) ∨
    ∃ w, (runTx d o).1 = { d with w := w } := by
  unfold runTx
  cases ante d o with
  | err e => exact Or.inr ⟨d.w, rfl⟩
  | panic e => exact Or.inr ⟨d.w, rfl⟩
  | ok u =>
    dsimp only
    by_cases hg : (o.str "oog" == "1") = true
    · rw [if_pos hg]; exact Or.inr ⟨d.w, rfl⟩
    rw [if_neg hg]
    by_cases hk : (o.kind == "tx.ethblock") = true
    · rw [if_pos hk]
      cases hd : newEthBlock d o with
      | ok d' => exact Or.inl ⟨d', beq_iff_eq.1 hk, rfl, rfl⟩
      | err e => exact Or.inr ⟨d.w, rfl⟩
      | panic e => exact Or.inr ⟨d.w, rfl⟩
    rw [if_neg hk]
    by_cases hn : (o.kind == "tx.generic") = true
    · rw [if_pos hn]; exact Or.inr ⟨d.w, rfl⟩
    · rw [if_neg hn]; exact Or.inr ⟨_, rfl⟩

/-- whenever the execution-block message is not applied the head and beacon root stay -/
theorem head_unchanged_on_failure (d : D) (o : Wire.Op) (hf : (runTx d o).2 ≠ "=> ok") :
    (runTx d o).1.goat = d.goat := by
  rcases runTx_cases d o with ⟨d', _, _, h⟩ | ⟨w, h⟩
  · rw [h] at hf; exact absurd rfl hf
  · rw [h]

/-- only the execution-block message moves the head: every other transaction kind leaves it -/
theorem only_ethblock_moves_head (d : D) (o : Wire.Op) (hk : o.kind ≠ "tx.ethblock") :
    (runTx d o).1.goat = d.goat := by
  rcases runTx_cases d o with ⟨d', h, _⟩ | ⟨w, h⟩
  · exact absurd h hk
  · rw [h]


/-! ### retrying after the fault clears gives the same result as a fault-free run -/

theorem runTx_keeps_snap (d : D) (o : Wire.Op) : (runTx d o).1.snap = d.snap := by
  rcases runTx_cases d o with ⟨d', _, hd, h⟩ | ⟨w, h⟩
  · rw [h]; exact newEthBlock_keeps_snap d d' o hd
  · rw [h]

/-- **Retry = fault-free run.**  Let a block be started on `d`, let `body` be whatever runs inside it
    (any composition of steps that do not touch the saved pre-state, e.g. transactions: `runTx_keeps_snap`),
    and let its end-of-block step not commit (engine error / INVALID at either call, or a failing hook).
    Then starting the next attempt from the resulting state is *the same state* as starting it from `d`:
    every later step — in particular the retried block once the fault has cleared — behaves exactly as if
    the faulty attempt had never happened. -/
theorem retry_equals_fault_free (d : D) (halt halt' : Bool) (body : D → D) (hsnap : ∀ x, (body x).snap = x.snap)
    (time : Int) (ns fs : String)
    (hnc : (endBlock (body (startBlock d halt)) time ns fs).2.1 = false) :
    startBlock (endBlock (body (startBlock d halt)) time ns fs).1 halt' = startBlock d halt' := by
  have hs : (body (startBlock d halt)).snap = some (d.w, d.goat) := by rw [hsnap]; rfl
  obtain ⟨h1, h2, _⟩ := uncommitted_block_restores_prestate _ time ns fs d.w d.goat hs hnc
  generalize (endBlock (body (startBlock d halt)) time ns fs).1 = r at h1 h2
  unfold startBlock
  rw [h1, h2]

/-- a block body made of transactions keeps the saved pre-state -/
theorem txs_keep_snap (ops : List Wire.Op) (d : D) : (ops.foldl (fun x o => (runTx x o).1) d).snap = d.snap := by
  induction ops generalizing d with
  | nil => rfl
  | cons o os ih => rw [List.foldl_cons, ih, runTx_keeps_snap]

end Goat.C09
