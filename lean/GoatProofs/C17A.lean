/-
  C17A — Bitcoin withdrawal-address decoding (second half of C17): theorems about GoatModel.Addr, the
  executable model of x/bitcoin/types/address.go DecodeBtcAddress and of the btcd / btcutil library
  functions it calls.

  `decodeBtcAddress net s` = DecodeBtcAddress(s, net) with `none` for every error; `decodeBytes` is the
  same function on the bytes of the string (Go strings need not be UTF-8), with the public-key parser
  as a parameter.  Nothing is left as a hypothesis: the bech32 checksum fact (`polymod_checksum`, by
  linearity of the BCH polymod over GF(2), `polyStep_xor`) and the bignum argument behind base58
  (positional notation, `digitsBE`) are proved in full.

  "Decoded to exactly the output script they encode" holds for the five standard types (the round trips)
  but NOT for every accepted string: `v1_20byte_decodes_to_v0_script`, true of the real function.
  `accepted_canonical` is the exact converse with that one exception, and injectivity holds in the form
  `decode_injective_on_types_partial` only (`decode_not_injective_on_types`).

  Modelled: the order of the checks in btcutil.DecodeAddress (last '1' at index > 1 and registered
  prefix — main, testnet3, regtest, simnet — then 66/130-character hex, then base58check), bech32
  character / case / length / separator rules, both checksum constants, witness-version and
  program-length rules and the mapping to address types, IsForNet, the P2PK rejection, PayToAddrScript.
  Validated against the real function on the strings of the kdrive `addr` traces and of a scratch driver
  covering witness versions 0..17, program lengths 0..41, both checksums, non-zero padding,
  "sb"/upper/mixed-case prefixes, extra '1's, non-ASCII and invalid UTF-8, control characters,
  66/130-character strings of several kinds, leading '1's, non-alphabet characters: no mismatch.
  Left out: elliptic-curve parsing of hex public keys (a parameter, shown irrelevant);
  SHA-256 is the project's `Goat.Sha256.dsha256`, never unfolded by a proof (the round trips hold for
  any function in its place); ConvertBits is modelled as bit-stream regrouping rather than by its
  shift loop; `strings.ToLower` by ASCII lower-casing (justified in GoatModel/Addr.lean).
-/
import GoatModel.Addr
import GoatProofs.Lemmas.Bytes
namespace Goat.C17A
open Goat Goat.Addr

/-! ### `strings.LastIndexByte` and inversion of the decision function -/

theorem lastIdx_eq_none_iff {c : UInt8} {bs : Bytes} : lastIdx c bs = none ↔ c ∉ bs := by
  induction bs with
  | nil => simp [lastIdx]
  | cons b rest ih =>
    unfold lastIdx
    cases h : lastIdx c rest with
    | some i =>
      have hm : c ∈ rest := Decidable.of_not_not fun hn => nomatch (ih.mpr hn).symm.trans h
      simp [hm]
    | none => simp [ih.mp h, eq_comm]

theorem lastIdx_some {c : UInt8} : ∀ (bs : Bytes) (i : Nat), lastIdx c bs = some i →
    i < bs.length ∧ bs[i]? = some c ∧ ∀ j : Nat, i < j → bs[j]? ≠ some c := by
  intro bs
  induction bs with
  | nil => intro i h; simp [lastIdx] at h
  | cons b rest ih =>
    intro i h
    unfold lastIdx at h
    split at h
    · rename_i k hk
      cases h
      obtain ⟨h1, h2, h3⟩ := ih k hk
      refine ⟨by simp; omega, by simpa using h2, ?_⟩
      intro j hj
      cases j with
      | zero => omega
      | succ j => simpa using h3 j (by omega)
    · rename_i hn
      split at h
      · rename_i hb
        cases h
        refine ⟨by simp, by simp [hb], ?_⟩
        intro j hj
        cases j with
        | zero => omega
        | succ j => simpa using fun h => lastIdx_eq_none_iff.mp hn (List.mem_of_getElem? h)
      · cases h

theorem ids_ne (net : Net) : net.p2pkhId ≠ net.p2shId := by cases net <;> decide

/-- the segwit branch is taken when the last '1' is at index > 1 and the text up to it is a registered prefix -/
theorem segwitBranch_ne_none {addr : Bytes} {one : Nat} (hone : lastIdx 0x31 addr = some one) (hgt : 1 < one)
    (hpre : isBech32SegwitPrefix (addr.take (one + 1)) = true) : segwitBranch addr ≠ none := by
  unfold segwitBranch
  simp [hone, hgt, hpre]

/-- what the segwit branch returns when it is taken -/
theorem segwitBranch_some {addr : Bytes} {a : Address} (h : segwitBranch addr = some (some a)) :
    ∃ one ver prog, lastIdx 0x31 addr = some one ∧ 1 < one ∧
      isBech32SegwitPrefix (addr.take (one + 1)) = true ∧
      decodeSegWit addr = some (ver, prog) ∧
      ((prog.length = 20 ∧ (ver = 0 ∨ ver = 1) ∧ a = .witnessPubKeyHash (lowerBytes (addr.take one)) prog) ∨
       (prog.length = 32 ∧ ver = 0 ∧ a = .witnessScriptHash (lowerBytes (addr.take one)) prog) ∨
       (prog.length = 32 ∧ ver = 1 ∧ a = .taproot (lowerBytes (addr.take one)) prog)) := by
  unfold segwitBranch at h
  cases hone : lastIdx 0x31 addr with
  | none => rw [hone] at h; cases h
  | some one =>
    simp only [hone, Option.ite_none_right_eq_some, Option.some.injEq] at h
    obtain ⟨hgt, hpre, h⟩ := h
    cases hds : decodeSegWit addr with
    | none => rw [hds] at h; cases h
    | some vp =>
      obtain ⟨ver, prog⟩ := vp
      have hlt := (lastIdx_some addr one hone).1
      have htake : (addr.take (one + 1)).take ((addr.take (one + 1)).length - 1) = addr.take one := by
        rw [List.take_take, List.length_take]
        congr 1
        omega
      simp only [hds, htake, Option.ite_none_left_eq_some] at h
      obtain ⟨hv, h⟩ := h
      refine ⟨one, ver, prog, rfl, hgt, hpre, rfl, ?_⟩
      by_cases h20 : prog.length = 20
      · rw [if_pos h20] at h
        cases h
        exact Or.inl ⟨h20, by omega, rfl⟩
      rw [if_neg h20, Option.ite_none_right_eq_some] at h
      obtain ⟨h32, h⟩ := h
      by_cases h1 : ver = 1
      · rw [if_pos h1] at h
        cases h
        exact Or.inr (Or.inr ⟨h32, h1, rfl⟩)
      · rw [if_neg h1] at h
        cases h
        exact Or.inr (Or.inl ⟨h32, by omega, rfl⟩)

/-- Inversion of the whole decision function. -/
theorem decodeBytes_inv {pk : Bytes → Bool} {net : Net} {addr sc : Bytes}
    (h : decodeBytes pk net addr = some sc) :
    (∃ one ver prog, lastIdx 0x31 addr = some one ∧ 1 < one ∧
      isBech32SegwitPrefix (addr.take (one + 1)) = true ∧
      decodeSegWit addr = some (ver, prog) ∧ lowerBytes (addr.take one) = net.hrp ∧
      ((prog.length = 20 ∧ (ver = 0 ∨ ver = 1) ∧ sc = [0x00, 0x14] ++ prog) ∨
       (prog.length = 32 ∧ ver = 0 ∧ sc = [0x00, 0x20] ++ prog) ∨
       (prog.length = 32 ∧ ver = 1 ∧ sc = [0x51, 0x20] ++ prog))) ∨
    (segwitBranch addr = none ∧ addr.length ≠ 130 ∧ addr.length ≠ 66 ∧
      ∃ payload id, checkDecode addr = some (payload, id) ∧ payload.length = 20 ∧
        ((id = net.p2pkhId ∧ sc = [0x76, 0xa9, 0x14] ++ payload ++ [0x88, 0xac]) ∨
         (id = net.p2shId ∧ sc = [0xa9, 0x14] ++ payload ++ [0x87]))) := by
  unfold decodeBytes at h
  cases hda : decodeAddress pk net addr with
  | none => rw [hda] at h; cases h
  | some a =>
    simp only [hda, Option.ite_none_left_eq_some, Bool.not_eq_true', Bool.not_eq_false] at h
    obtain ⟨hfor, h⟩ := h
    unfold decodeAddress at hda
    cases hsb : segwitBranch addr with
    | some r =>
      rw [hsb] at hda
      subst hda
      obtain ⟨one, ver, prog, h1, h2, h3, h4, h5⟩ := segwitBranch_some hsb
      refine Or.inl ⟨one, ver, prog, h1, h2, h3, h4, ?_⟩
      rcases h5 with ⟨hl, hv, rfl⟩ | ⟨hl, hv, rfl⟩ | ⟨hl, hv, rfl⟩ <;> cases h
      · exact ⟨of_decide_eq_true hfor, Or.inl ⟨hl, hv, rfl⟩⟩
      · exact ⟨of_decide_eq_true hfor, Or.inr (Or.inl ⟨hl, hv, rfl⟩)⟩
      · exact ⟨of_decide_eq_true hfor, Or.inr (Or.inr ⟨hl, hv, rfl⟩)⟩
    | none =>
      right
      simp only [hsb] at hda
      by_cases hlen : addr.length = 130 ∨ addr.length = 66
      · -- 66 / 130 characters: an error or an AddressPubKey, which is rejected
        rw [if_pos hlen] at hda
        cases hx : hexDecode addr with
        | none => rw [hx] at hda; cases hda
        | some ser =>
          simp only [hx, Option.ite_none_right_eq_some, Option.some.injEq] at hda
          rw [← hda.2] at h
          cases h
      · rw [if_neg hlen] at hda
        refine ⟨rfl, by omega, by omega, ?_⟩
        cases hcd : checkDecode addr with
        | none => rw [hcd] at hda; cases hda
        | some pi =>
          obtain ⟨payload, id⟩ := pi
          simp only [hcd, Option.ite_none_right_eq_some, Option.ite_none_left_eq_some] at hda
          obtain ⟨h20, _, hda⟩ := hda
          refine ⟨payload, id, rfl, h20, ?_⟩
          by_cases hid : id = net.p2pkhId
          · rw [if_pos hid] at hda
            cases hda
            cases h
            exact Or.inl ⟨hid, rfl⟩
          · rw [if_neg hid, Option.ite_none_right_eq_some] at hda
            obtain ⟨hid', hda⟩ := hda
            cases hda
            cases h
            exact Or.inr ⟨hid', rfl⟩

/-! ### Table lookup: `idxOf`, the two alphabets, and decoding a string symbol by symbol -/

theorem idxOf_some {c : UInt8} : ∀ {l : Bytes} {d : Nat}, idxOf c l = some d → l[d]? = some c := by
  intro l
  induction l with
  | nil => intro d h; cases h
  | cons b rest ih =>
    intro d h
    unfold idxOf at h
    split at h
    · rename_i hb
      cases h
      simp [hb]
    · cases hr : idxOf c rest with
      | none => simp [hr] at h
      | some k =>
        simp only [hr, Option.map_some, Option.some.injEq] at h
        subst h
        simpa using ih hr

/-- in a table without repetitions, `idxOf` finds every entry where it stands -/
theorem idxOf_of_getElem? {c : UInt8} : ∀ {l : Bytes} {d : Nat}, l.Nodup → l[d]? = some c →
    idxOf c l = some d := by
  intro l
  induction l with
  | nil => intro d _ h; simp at h
  | cons b rest ih =>
    intro d hl h
    rw [List.nodup_cons] at hl
    cases d with
    | zero =>
      simp only [List.getElem?_cons_zero, Option.some.injEq] at h
      simp [idxOf, h]
    | succ d =>
      simp only [List.getElem?_cons_succ] at h
      have hb : b ≠ c := fun hbc => hl.1 (hbc ▸ List.mem_of_getElem? h)
      simp [idxOf, hb, ih hl.2 h]

/-- `toValues` and `b58Digits` for an arbitrary table `t`: the index in `t` of every byte of the string -/
def indices (t : Bytes) : Bytes → Option (List Nat)
  | [] => some []
  | c :: rest =>
    match idxOf c t, indices t rest with
    | some v, some vs => some (v :: vs)
    | _, _ => none

theorem toValues_eq (l : Bytes) : toValues l = indices charset l := by
  induction l with
  | nil => rfl
  | cons c tl ih =>
    rw [toValues, indices, charsetIdx, ih]
    rfl

theorem b58Digits_eq (l : Bytes) : b58Digits l = indices alphabet l := by
  induction l with
  | nil => rfl
  | cons c tl ih =>
    rw [b58Digits, indices, b58Idx, ih]
    rfl

section
variable {t : Bytes} {f : Nat → UInt8} (hf : ∀ v, v < t.length → t[v]? = some (f v))
include hf

theorem indices_inv : ∀ {l : Bytes} {vs : List Nat}, indices t l = some vs →
    l = vs.map f ∧ ∀ v ∈ vs, v < t.length := by
  intro l
  induction l with
  | nil => intro vs h; cases h; simp
  | cons c tl ih =>
    intro vs h
    unfold indices at h
    split at h
    · rename_i v vs' hv hvs
      cases h
      obtain ⟨hlt, hc⟩ := List.getElem?_eq_some_iff.mp (idxOf_some hv)
      have hfv : f v = c := Option.some.inj ((hf v hlt).symm.trans (idxOf_some hv))
      obtain ⟨i1, i2⟩ := ih hvs
      exact ⟨by rw [List.map_cons, hfv, ← i1], List.forall_mem_cons.mpr ⟨hlt, i2⟩⟩
    · cases h

theorem indices_map (ht : t.Nodup) : ∀ vs : List Nat, (∀ v ∈ vs, v < t.length) →
    indices t (vs.map f) = some vs := by
  intro vs
  induction vs with
  | nil => intro _; rfl
  | cons v tl ih =>
    intro h
    rw [List.forall_mem_cons] at h
    simp only [List.map_cons, indices, idxOf_of_getElem? ht (hf v h.1), ih h.2]

end

theorem charset_nodup : charset.Nodup := by decide +kernel
theorem alphabet_nodup : alphabet.Nodup := by decide +kernel

theorem charset_props : ∀ c ∈ charset, c ≠ 0x31 ∧ 33 ≤ c ∧ c ≤ 126 ∧ isUpperB c = false := by decide
theorem alphabet_ascii : ∀ c ∈ alphabet, c < 128 := by decide

theorem charsetAt_getElem? (v : Nat) : charset[v % 32]? = some (charsetAt v) := by
  have hv : v % 32 < charset.length := Nat.mod_lt v (by decide)
  rw [charsetAt, List.getD_eq_getElem?_getD, List.getElem?_eq_getElem hv]
  rfl

theorem charsetAt_spec (v : Nat) (h : v < charset.length) : charset[v]? = some (charsetAt v) := by
  have := charsetAt_getElem? v
  rwa [show v % 32 = v from Nat.mod_eq_of_lt h] at this

theorem alphabetAt_spec (d : Nat) (h : d < alphabet.length) : alphabet[d]? = some (alphabetAt d) := by
  rw [alphabetAt, List.getD_eq_getElem?_getD, List.getElem?_eq_getElem h]
  rfl

theorem charsetAt_mem (v : Nat) : charsetAt v ∈ charset :=
  List.mem_of_getElem? (charsetAt_getElem? v)

theorem toValues_inv {l : Bytes} {vs : List Nat} (h : toValues l = some vs) :
    l = vs.map charsetAt ∧ ∀ v ∈ vs, v < 32 :=
  indices_inv charsetAt_spec (toValues_eq l ▸ h)

theorem toValues_map_charsetAt (l : List Nat) (h : ∀ v ∈ l, v < 32) : toValues (l.map charsetAt) = some l :=
  (toValues_eq _).trans (indices_map charsetAt_spec charset_nodup l h)

theorem b58Digits_inv {l : Bytes} {ds : List Nat} (h : b58Digits l = some ds) :
    l = ds.map alphabetAt ∧ ∀ d ∈ ds, d < 58 :=
  indices_inv alphabetAt_spec (b58Digits_eq l ▸ h)

theorem b58Digits_map (l : List Nat) (h : ∀ d ∈ l, d < 58) : b58Digits (l.map alphabetAt) = some l :=
  (b58Digits_eq _).trans (indices_map alphabetAt_spec alphabet_nodup l h)

theorem alphabetAt_eq_one {d : Nat} (h : d < 58) : alphabetAt d = 0x31 ↔ d = 0 := by
  constructor
  · intro h1
    have := idxOf_of_getElem? alphabet_nodup (alphabetAt_spec d h)
    rw [h1] at this
    exact (Option.some.inj this).symm
  · rintro rfl
    rfl

/-! ### The bech32 checksum: linearity of the BCH polymod -/

theorem tb_xor (x y : Bool) (g : Nat) : tb (x ^^ y) g = tb x g ^^^ tb y g := by
  cases x <;> cases y <;> simp [tb]

theorem polyG_xor (a b : Nat) : polyG (a ^^^ b) = polyG a ^^^ polyG b := by
  simp only [polyG, Nat.testBit_xor, tb_xor]
  ac_rfl

theorem polyStep_xor (a b u v : Nat) :
    polyStep (a ^^^ b) (u ^^^ v) = polyStep a u ^^^ polyStep b v := by
  simp only [polyStep, Nat.and_xor_distrib_right, Nat.shiftLeft_xor_distrib,
    Nat.shiftRight_xor_distrib, polyG_xor]
  ac_rfl

theorem tb_lt (b : Bool) (g : Nat) (hg : g < 2 ^ 30) : tb b g < 2 ^ 30 := by
  cases b <;> simp [tb, hg]

theorem polyG_lt (b : Nat) : polyG b < 2 ^ 30 := by
  -- an xor of five generator constants below 2^30, each switched by a bit of `b`
  unfold polyG
  repeat' apply Nat.xor_lt_two_pow
  all_goals apply tb_lt
  all_goals decide

theorem polyStep_lt (a v : Nat) (hv : v < 2 ^ 30) : polyStep a v < 2 ^ 30 := by
  unfold polyStep
  apply Nat.xor_lt_two_pow _ (polyG_lt _)
  apply Nat.xor_lt_two_pow _ hv
  have h1 : a &&& 0x1ffffff < 2 ^ 25 := Nat.and_lt_two_pow a (by decide)
  rw [Nat.shiftLeft_eq]
  have : (2:Nat) ^ 30 = 2 ^ 25 * 2 ^ 5 := by decide
  rw [this]
  exact Nat.mul_lt_mul_of_pos_right h1 (by decide)

theorem shl5_xor (x v : Nat) (hv : v < 32) : (x <<< 5) ^^^ v = x * 32 + v := by
  apply Nat.eq_of_testBit_eq
  intro j
  have hv' : v < 2 ^ 5 := hv
  rw [show x * 32 + v = 2 ^ 5 * x + v by omega, Nat.testBit_two_pow_mul_add x hv' j,
    Nat.testBit_xor, Nat.testBit_shiftLeft]
  by_cases hj : j < 5
  · have : ¬ j ≥ 5 := by omega
    simp [hj, this]
  · have hge : j ≥ 5 := by omega
    have : v.testBit j = false := by
      apply Nat.testBit_lt_two_pow
      exact Nat.lt_of_lt_of_le hv' (Nat.pow_le_pow_right (by decide) hge)
    simp [hj, hge, this]

theorem polyG_zero : polyG 0 = 0 := by decide

/-- below 2^25 nothing is fed back: a polymod round is one Horner step in base 32 -/
theorem polyStep_small (x v : Nat) (hx : x < 33554432) (hv : v < 32) : polyStep x v = x * 32 + v := by
  unfold polyStep
  have h1 : x &&& 0x1ffffff = x := by
    rw [show (0x1ffffff : Nat) = 2 ^ 25 - 1 by decide, Nat.and_two_pow_sub_one_eq_mod]
    exact Nat.mod_eq_of_lt hx
  have h2 : x >>> 25 = 0 := by
    rw [Nat.shiftRight_eq_div_pow]
    exact Nat.div_eq_of_lt hx
  rw [h1, h2, polyG_zero, Nat.xor_zero, shl5_xor x v hv]

theorem fold6_linear (S c0 c1 c2 c3 c4 c5 : Nat) :
    [c0, c1, c2, c3, c4, c5].foldl polyStep S =
      [0, 0, 0, 0, 0, 0].foldl polyStep S ^^^ [c0, c1, c2, c3, c4, c5].foldl polyStep 0 := by
  simp only [List.foldl]
  rw [← polyStep_xor, ← polyStep_xor, ← polyStep_xor, ← polyStep_xor, ← polyStep_xor, ← polyStep_xor]
  simp only [Nat.xor_zero, Nat.zero_xor]

theorem fold6_zero (c0 c1 c2 c3 c4 c5 : Nat) (h0 : c0 < 32) (h1 : c1 < 32) (h2 : c2 < 32)
    (h3 : c3 < 32) (h4 : c4 < 32) (h5 : c5 < 32) :
    [c0, c1, c2, c3, c4, c5].foldl polyStep 0 =
      ((((c0 * 32 + c1) * 32 + c2) * 32 + c3) * 32 + c4) * 32 + c5 := by
  simp only [List.foldl]
  rw [polyStep_small 0 c0 (by omega) h0, polyStep_small _ c1 (by omega) h1,
    polyStep_small _ c2 (by omega) h2, polyStep_small _ c3 (by omega) h3,
    polyStep_small _ c4 (by omega) h4, polyStep_small _ c5 (by omega) h5]
  omega

theorem polymod_append (hrp : Bytes) (data l : List Nat) :
    polymod hrp (data ++ l) = l.foldl polyStep (polymod hrp data) := by
  unfold polymod
  rw [← List.append_assoc, List.foldl_append]

/-- Six more symbols below 32 change the polymod, by linearity, from what six zeros give by the
    number the symbols spell in base 32. -/
theorem polymod_append6 (hrp : Bytes) (data : List Nat) {c0 c1 c2 c3 c4 c5 : Nat} (h0 : c0 < 32)
    (h1 : c1 < 32) (h2 : c2 < 32) (h3 : c3 < 32) (h4 : c4 < 32) (h5 : c5 < 32) :
    polymod hrp (data ++ [c0, c1, c2, c3, c4, c5]) = polymod hrp (data ++ [0, 0, 0, 0, 0, 0]) ^^^
      (((((c0 * 32 + c1) * 32 + c2) * 32 + c3) * 32 + c4) * 32 + c5) := by
  rw [polymod_append, polymod_append, fold6_linear, fold6_zero c0 c1 c2 c3 c4 c5 h0 h1 h2 h3 h4 h5]

theorem and_31 (n : Nat) : n &&& 31 = n % 32 := Nat.and_two_pow_sub_one_eq_mod n 5

theorem and_31_lt (n : Nat) : n &&& 31 < 32 := and_31 n ▸ Nat.mod_lt _ (by decide)

theorem shiftRight_add_five (x k : Nat) : x >>> (k + 5) = x >>> k / 32 := by
  rw [Nat.shiftRight_add, Nat.shiftRight_eq_div_pow _ 5]

/-- a number below 2^30 is spelt by its six base-32 digits -/
theorem base32_spell {pm : Nat} (h : pm < 2 ^ 30) :
    (((((pm >>> 25 &&& 31) * 32 + (pm >>> 20 &&& 31)) * 32 + (pm >>> 15 &&& 31)) * 32 +
      (pm >>> 10 &&& 31)) * 32 + (pm >>> 5 &&& 31)) * 32 + (pm >>> 0 &&& 31) = pm := by
  -- with the shifts as iterated division by 32 this is linear arithmetic
  simp only [and_31, shiftRight_add_five, Nat.shiftRight_zero]
  omega

theorem checksum_lt (hrp : Bytes) (data : List Nat) (ver : B32Version) :
    (bech32Checksum hrp data ver).length = 6 ∧ ∀ v ∈ bech32Checksum hrp data ver, v < 32 := by
  refine ⟨rfl, fun v hv => ?_⟩
  simp only [bech32Checksum, List.mem_cons, List.not_mem_nil, or_false] at hv
  rcases hv with rfl | rfl | rfl | rfl | rfl | rfl <;> exact and_31_lt _

theorem const_lt (ver : B32Version) : ver.const < 2 ^ 30 := by cases ver <;> decide

/-- **The bech32 checksum fact** (linearity of the BCH polymod): the six symbols written by
    `writeBech32Checksum` make `bech32Polymod` return the version's constant — for every
    human-readable part and every data (no side condition). -/
theorem polymod_checksum (hrp : Bytes) (data : List Nat) (ver : B32Version) :
    polymod hrp (data ++ bech32Checksum hrp data ver) = ver.const := by
  have hZ : polymod hrp (data ++ [0, 0, 0, 0, 0, 0]) < 2 ^ 30 := by
    rw [polymod_append]
    exact polyStep_lt _ _ (by decide)
  unfold bech32Checksum
  rw [polymod_append6 hrp data (and_31_lt _) (and_31_lt _) (and_31_lt _) (and_31_lt _) (and_31_lt _) (and_31_lt _),
    base32_spell (Nat.xor_lt_two_pow hZ (const_lt ver)), ← Nat.xor_assoc, Nat.xor_self, Nat.zero_xor]

theorem xor_left_cancel {a b c : Nat} (h : a ^^^ b = a ^^^ c) : b = c := by
  have := congrArg (a ^^^ ·) h
  simpa only [← Nat.xor_assoc, Nat.xor_self, Nat.zero_xor] using this

theorem horner_inj {x y c k : Nat} (hc : c < 32) (hk : k < 32) (h : x * 32 + c = y * 32 + k) :
    x = y ∧ c = k := by omega

/-- the six checksum symbols are determined by the rest of the string -/
theorem checksum_unique (hrp : Bytes) (data cs : List Nat) (ver : B32Version) (hl : cs.length = 6)
    (hlt : ∀ v ∈ cs, v < 32) (h : polymod hrp (data ++ cs) = ver.const) :
    cs = bech32Checksum hrp data ver := by
  obtain ⟨hkl, hklt⟩ := checksum_lt hrp data ver
  have hk := polymod_checksum hrp data ver
  generalize bech32Checksum hrp data ver = ck at hkl hklt hk ⊢
  match cs, hl, ck, hkl with
  | [c0, c1, c2, c3, c4, c5], _, [k0, k1, k2, k3, k4, k5], _ =>
    simp only [List.forall_mem_cons] at hlt hklt
    obtain ⟨b0, b1, b2, b3, b4, b5, _⟩ := hlt
    obtain ⟨d0, d1, d2, d3, d4, d5, _⟩ := hklt
    -- both strings give the same polymod, so by linearity they spell the same number
    rw [polymod_append6 hrp data b0 b1 b2 b3 b4 b5] at h
    rw [polymod_append6 hrp data d0 d1 d2 d3 d4 d5, ← h] at hk
    obtain ⟨e4, rfl⟩ := horner_inj d5 b5 (xor_left_cancel hk)
    obtain ⟨e3, rfl⟩ := horner_inj d4 b4 e4
    obtain ⟨e2, rfl⟩ := horner_inj d3 b3 e3
    obtain ⟨e1, rfl⟩ := horner_inj d2 b2 e2
    obtain ⟨rfl, rfl⟩ := horner_inj d1 b1 e1
    rfl

/-! ### ConvertBits as bit-stream regrouping: 5→8 and 8→5 undo each other -/

theorem bits5_val5 : ∀ a b c d e : Bool, bits5 (val5 a b c d e) = [a, b, c, d, e] := by decide +kernel

theorem val5_bits5 : ∀ v, v < 32 →
    val5 (v.testBit 4) (v.testBit 3) (v.testBit 2) (v.testBit 1) (v.testBit 0) = v := by decide +kernel

theorem val5_lt : ∀ a b c d e : Bool, val5 a b c d e < 32 := by decide

theorem bits8_val8 : ∀ a b c d e f g h : Bool,
    bits8 (UInt8.ofNat (val8 a b c d e f g h)) = [a, b, c, d, e, f, g, h] := by decide +kernel

theorem val8_bits_nat : ∀ n, n < 256 → val8 (n.testBit 7) (n.testBit 6) (n.testBit 5) (n.testBit 4)
    (n.testBit 3) (n.testBit 2) (n.testBit 1) (n.testBit 0) = n := by decide +kernel

theorem val8_bits8 (b : UInt8) : UInt8.ofNat (val8 (b.toNat.testBit 7) (b.toNat.testBit 6)
    (b.toNat.testBit 5) (b.toNat.testBit 4) (b.toNat.testBit 3) (b.toNat.testBit 2)
    (b.toNat.testBit 1) (b.toNat.testBit 0)) = b := by
  rw [val8_bits_nat _ b.toNat_lt]
  exact UInt8.ofNat_toNat

theorem length_flatMap_const {α β : Type} {f : α → List β} {n : Nat} (hf : ∀ a, (f a).length = n)
    (l : List α) : (l.flatMap f).length = n * l.length := by
  induction l with
  | nil => rfl
  | cons a tl ih => rw [List.flatMap_cons, List.length_append, ih, hf, List.length_cons, Nat.mul_succ, Nat.add_comm]

theorem flatMap_bits5_length (l : List Nat) : (l.flatMap bits5).length = 5 * l.length :=
  length_flatMap_const (f := bits5) (fun _ => rfl) l

theorem flatMap_bits8_length (p : Bytes) : (p.flatMap bits8).length = 8 * p.length :=
  length_flatMap_const (f := bits8) (fun _ => rfl) p

theorem regroup5_lt (bs : List Bool) : ∀ v ∈ regroup5 bs, v < 32 := by
  fun_induction regroup5 bs with
  | case1 a b c d e rest ih => exact List.forall_mem_cons.mpr ⟨val5_lt .., ih⟩
  | case2 a b c d => simpa using val5_lt a b c d false
  | case3 a b c => simpa using val5_lt a b c false false
  | case4 a b => simpa using val5_lt a b false false false
  | case5 a => simpa using val5_lt a false false false false
  | case6 => nofun

/-- regrouping into 5-bit groups with zero padding only appends fewer than five zero bits -/
theorem regroup5_bits (bs : List Bool) :
    ∃ k, k < 5 ∧ (regroup5 bs).flatMap bits5 = bs ++ List.replicate k false := by
  fun_induction regroup5 bs with
  | case1 a b c d e rest ih =>
    obtain ⟨k, hk, h⟩ := ih
    exact ⟨k, hk, by simp [List.flatMap_cons, bits5_val5, h]⟩
  | case2 a b c d => exact ⟨1, by decide, by simp [bits5_val5]⟩
  | case3 a b c => exact ⟨2, by decide, by simp [bits5_val5]⟩
  | case4 a b => exact ⟨3, by decide, by simp [bits5_val5]⟩
  | case5 a => exact ⟨4, by decide, by simp [bits5_val5]⟩
  | case6 => exact ⟨0, by decide, by simp⟩

theorem regroup5_length (bs : List Bool) : (regroup5 bs).length = (bs.length + 4) / 5 := by
  obtain ⟨k, hk, h⟩ := regroup5_bits bs
  have hl := congrArg List.length h
  rw [flatMap_bits5_length, List.length_append, List.length_replicate] at hl
  omega

theorem convert8to5_length (p : Bytes) : (convert8to5 p).length = (8 * p.length + 4) / 5 := by
  unfold convert8to5
  rw [regroup5_length, flatMap_bits8_length]

theorem regroup5_flatMap_bits5 (l : List Nat) (h : ∀ v ∈ l, v < 32) : regroup5 (l.flatMap bits5) = l := by
  induction l with
  | nil => rfl
  | cons v tl ih =>
    simp only [List.flatMap_cons, bits5, List.cons_append, List.nil_append, regroup5,
      val5_bits5 v (h v (by simp)), ih (fun w hw => h w (by simp [hw]))]

/-- padding zero bits that only complete the last group do not change the 5-bit regrouping -/
theorem regroup5_pad (bs : List Bool) (k : Nat) (hk : k < 5) (hm : (bs.length + k) % 5 = 0) :
    regroup5 (bs ++ List.replicate k false) = regroup5 bs := by
  obtain ⟨k', hk', h⟩ := regroup5_bits bs
  have hl := congrArg List.length h
  rw [flatMap_bits5_length, List.length_append, List.length_replicate] at hl
  have : k' = k := by omega
  rw [← this, ← h, regroup5_flatMap_bits5 _ (regroup5_lt bs)]

theorem regroup8_flatMap (prog : Bytes) (rest : List Bool) :
    regroup8 (prog.flatMap bits8 ++ rest) = (prog ++ (regroup8 rest).1, (regroup8 rest).2) := by
  induction prog with
  | nil => rfl
  | cons b tl ih =>
    simp only [List.flatMap_cons, bits8, List.cons_append, List.nil_append, regroup8, val8_bits8, ih]

theorem regroup8_short (k : Nat) (hk : k < 5) :
    regroup8 (List.replicate k false) = ([], List.replicate k false) := by
  have : k = 0 ∨ k = 1 ∨ k = 2 ∨ k = 3 ∨ k = 4 := by omega
  rcases this with rfl | rfl | rfl | rfl | rfl <;> rfl

theorem regroup8_spec (bs : List Bool) :
    bs = (regroup8 bs).1.flatMap bits8 ++ (regroup8 bs).2 := by
  fun_induction regroup8 bs with
  | case1 a b c d e f g h rest r ih =>
    have hr : r = regroup8 rest := rfl
    simp only [List.flatMap_cons, bits8_val8, hr, List.cons_append, List.nil_append]
    rw [← ih]
  | case2 rest hne => simp

/-- the groups of an accepted input hold whole bytes and at most four left-over bits: as many groups as
    `convert8to5` produces (`convert8to5_length`) -/
theorem convert5to8_length {rest : List Nat} {prog : Bytes} (h : convert5to8 rest = some prog) :
    rest.length = (8 * prog.length + 4) / 5 := by
  simp only [convert5to8, Option.ite_none_left_eq_some, Option.some.injEq] at h
  obtain ⟨hc, rfl⟩ := h
  have hl := congrArg List.length (regroup8_spec (rest.flatMap bits5))
  rw [flatMap_bits5_length, List.length_append, flatMap_bits8_length] at hl
  have hr := Nat.le_of_not_gt fun hh => hc (Or.inl hh)
  omega

/-- ConvertBits(·, 5, 8, false) ∘ ConvertBits(·, 8, 5, true) = id, for byte strings of every length -/
theorem convert5to8_convert8to5 (prog : Bytes) : convert5to8 (convert8to5 prog) = some prog := by
  unfold convert5to8 convert8to5
  obtain ⟨k, hk, h⟩ := regroup5_bits (prog.flatMap bits8)
  simp only [h, regroup8_flatMap, regroup8_short k hk, List.append_nil, List.length_replicate]
  simp
  omega

theorem all_false_eq_replicate (t : List Bool) (h : t.any id = false) : t = List.replicate t.length false := by
  induction t with
  | nil => rfl
  | cons b tl ih =>
    simp only [List.any_cons, id, Bool.or_eq_false_iff] at h
    rw [List.length_cons, List.replicate_succ, ← ih h.2, h.1]

/-- ConvertBits(·, 8, 5, true) ∘ ConvertBits(·, 5, 8, false) = id where the latter succeeds -/
theorem convert8to5_convert5to8 {rest : List Nat} {prog : Bytes} (hlt : ∀ v ∈ rest, v < 32)
    (h : convert5to8 rest = some prog) : convert8to5 prog = rest := by
  simp only [convert5to8] at h
  split at h
  · cases h
  · rename_i hc
    cases h
    have hspec := regroup8_spec (rest.flatMap bits5)
    generalize regroup8 (rest.flatMap bits5) = r at hc hspec
    obtain ⟨p, t⟩ := r
    simp only at hc hspec ⊢
    have ht1 : ¬ t.length > 4 := fun hh => hc (Or.inl hh)
    have ht2 : t.any id = false := by
      cases hh : t.any id
      · rfl
      · exact absurd (Or.inr hh) hc
    have ht := all_false_eq_replicate t ht2
    have hlen := congrArg List.length hspec
    rw [flatMap_bits5_length, List.length_append] at hlen
    unfold convert8to5
    rw [← regroup5_pad (p.flatMap bits8) t.length (by omega) (by omega), ← ht, ← hspec]
    exact regroup5_flatMap_bits5 rest hlt

/-! ### bech32 decode ∘ encode, segwit decode ∘ encode, the whole function on segwit addresses -/

theorem lastIdx_append (c : UInt8) (a b : Bytes) :
    lastIdx c (a ++ b) = match lastIdx c b with
      | some i => some (a.length + i)
      | none => lastIdx c a := by
  induction a with
  | nil => cases hb : lastIdx c b <;> simp [hb, lastIdx]
  | cons x a ih =>
    simp only [List.cons_append, lastIdx, ih]
    cases hb : lastIdx c b with
    | some i => simp; omega
    | none => simp

/-- the last `c` of `pre ++ c :: post` is at `pre.length` when `post` has none -/
theorem lastIdx_sep (c : UInt8) (pre post : Bytes) (h : c ∉ post) :
    lastIdx c (pre ++ c :: post) = some pre.length := by
  rw [lastIdx_append]
  simp [lastIdx, lastIdx_eq_none_iff.mpr h]

theorem asciiLower_of_not_upper {b : UInt8} (h : isUpperB b = false) : asciiLower b = b := by
  refine if_neg fun hh => ?_
  simp [isUpperB, hh.1, hh.2] at h

theorem lowerBytes_of_no_upper {bs : Bytes} (h : ∀ b ∈ bs, isUpperB b = false) : lowerBytes bs = bs := by
  induction bs with
  | nil => rfl
  | cons b tl ih =>
    simp only [lowerBytes, List.map_cons] at *
    rw [asciiLower_of_not_upper (h b (by simp)), ih (fun x hx => h x (by simp [hx]))]

theorem versionOfConst_const (ver : B32Version) : versionOfConst ver.const = some ver := by
  cases ver <;> decide

theorem versionOfConst_inv {p : Nat} {ver : B32Version} (h : versionOfConst p = some ver) :
    p = ver.const := by
  unfold versionOfConst at h
  split at h
  · cases h; assumption
  · rw [Option.ite_none_right_eq_some] at h
    obtain ⟨h, hv⟩ := h
    cases hv
    exact h

theorem bech32Encode_eq {h : Bytes} (hlow : lowerBytes h = h) (data : List Nat) (ver : B32Version) :
    bech32Encode h data ver = h ++ 0x31 :: (data ++ bech32Checksum h data ver).map charsetAt := by
  rw [bech32Encode, hlow, List.append_assoc]
  rfl

/-- shape of a bech32 string: separator position and prefix, for arbitrary data symbols -/
theorem bech32Encode_sep (h : Bytes) (data : List Nat) (ver : B32Version) (hlow : lowerBytes h = h) :
    lastIdx 0x31 (bech32Encode h data ver) = some h.length ∧
    (bech32Encode h data ver).take (h.length + 1) = h ++ [0x31] ∧
    (bech32Encode h data ver).take h.length = h := by
  rw [bech32Encode_eq hlow]
  refine ⟨?_, ?_, ?_⟩
  · apply lastIdx_sep
    intro hc
    obtain ⟨v, _, hv⟩ := List.mem_map.mp hc
    exact (charset_props _ (charsetAt_mem v)).1 hv
  · rw [List.take_append, List.take_of_length_le (Nat.le_succ _)]
    simp
  · simp

/-- a bech32 string over a printable lower-case human-readable part is printable and lower-case -/
theorem bech32Encode_printable (h : Bytes) (data : List Nat) (ver : B32Version)
    (hgood : ∀ b ∈ h, 33 ≤ b ∧ b ≤ 126 ∧ isUpperB b = false) :
    ∀ b ∈ bech32Encode h data ver, 33 ≤ b ∧ b ≤ 126 ∧ isUpperB b = false := by
  rw [bech32Encode_eq (lowerBytes_of_no_upper fun b hb => (hgood b hb).2.2)]
  intro b hb
  simp only [List.mem_append, List.mem_cons, List.mem_map] at hb
  rcases hb with hb | rfl | ⟨v, _, rfl⟩
  · exact hgood b hb
  · decide
  · exact (charset_props _ (charsetAt_mem v)).2

/-- bech32.DecodeGeneric ∘ bech32.Encode(M) for a well-formed lower-case human-readable part -/
theorem bech32Decode_encode (h : Bytes) (data : List Nat) (ver : B32Version)
    (hne : 1 ≤ h.length) (hgood : ∀ b ∈ h, 33 ≤ b ∧ b ≤ 126 ∧ isUpperB b = false)
    (hd : ∀ v ∈ data, v < 32) (hlen : h.length + data.length + 7 ≤ 90) :
    bech32Decode (bech32Encode h data ver) = some (h, data, ver) := by
  have hlow : lowerBytes h = h := lowerBytes_of_no_upper (fun b hb => (hgood b hb).2.2)
  obtain ⟨e6, _, e7⟩ := bech32Encode_sep h data ver hlow
  have hmem := bech32Encode_printable h data ver hgood
  obtain ⟨hcl, hcv⟩ := checksum_lt h data ver
  have e11 := polymod_checksum h data ver
  rw [bech32Encode_eq hlow] at e6 e7 hmem ⊢
  generalize bech32Checksum h data ver = cs at hcl hcv e6 e7 e11 hmem
  have e10 : toValues ((data ++ cs).map charsetAt) = some (data ++ cs) :=
    toValues_map_charsetAt _ fun v hv => (List.mem_append.mp hv).elim (hd v) (hcv v)
  generalize hs : h ++ 0x31 :: (data ++ cs).map charsetAt = s at e6 e7 hmem
  have hslen : s.length = h.length + 1 + (data.length + 6) := by
    rw [← hs]; simp [hcl]; omega
  have e8 : s.drop (h.length + 1) = (data ++ cs).map charsetAt := by
    rw [← hs]; simp
  have e3 : s.all (fun b => 33 ≤ b && b ≤ 126) = true :=
    List.all_eq_true.mpr fun b hb => by simp [(hmem b hb).1, (hmem b hb).2.1]
  have e4 : s.any isUpperB = false := List.any_eq_false.mpr fun b hb => by simp [(hmem b hb).2.2]
  have e5 : lowerBytes s = s := lowerBytes_of_no_upper (fun b hb => (hmem b hb).2.2)
  have e1 : ¬ s.length > 90 := by omega
  have e2 : ¬ s.length < 8 := by omega
  have e9 : ¬ (h.length < 1 ∨ h.length + 7 > s.length) := by omega
  unfold bech32Decode
  simp only [e1, e2, e3, e4, e5, e6, e7, e8, e9, e10, e11, versionOfConst_const, if_false,
    Bool.not_true, Bool.and_false, Bool.false_eq_true]
  simp [hcl]
/-- a human-readable part that bech32 accepts as it is: non-empty, printable, no upper case -/
def GoodHrp (h : Bytes) : Prop :=
  1 ≤ h.length ∧ h.length ≤ 18 ∧ ∀ b ∈ h, 33 ≤ b ∧ b ≤ 126 ∧ isUpperB b = false

theorem goodHrp_lower {h : Bytes} (hg : GoodHrp h) : lowerBytes h = h :=
  lowerBytes_of_no_upper (fun b hb => (hg.2.2 b hb).2.2)

/-- decodeSegWitAddress ∘ encodeSegWitAddress -/
theorem decodeSegWit_encode (h : Bytes) (ver : Nat) (prog : Bytes) (hg : GoodHrp h)
    (hver : ver = 0 ∨ ver = 1) (hlen : prog.length = 20 ∨ prog.length = 32) :
    decodeSegWit (encodeSegwitBytes h ver prog) = some (ver, prog) := by
  unfold encodeSegwitBytes decodeSegWit
  have hd : ∀ v ∈ ver :: convert8to5 prog, v < 32 := by
    intro v hv
    simp only [List.mem_cons] at hv
    rcases hv with rfl | hv
    · omega
    · exact regroup5_lt _ v hv
  have hl : h.length + (ver :: convert8to5 prog).length + 7 ≤ 90 := by
    simp only [List.length_cons, convert8to5_length]
    have := hg.2.1
    omega
  rw [bech32Decode_encode h _ _ hg.1 hg.2.2 hd hl]
  simp only [convert5to8_convert8to5]
  rcases hver with rfl | rfl <;> rcases hlen with hl | hl <;> simp [hl]

theorem net_hrp_good (net : Net) : GoodHrp net.hrp := by
  unfold GoodHrp
  cases net <;> decide

theorem net_prefix_registered (net : Net) : isBech32SegwitPrefix (net.hrp ++ [0x31]) = true := by
  cases net <;> decide

theorem net_hrp_len (net : Net) : 1 < net.hrp.length := by cases net <;> decide

/-- the whole function on a segwit address of the network, byte level -/
theorem segwit_roundtrip_bytes (pk : Bytes → Bool) (net : Net) (ver : Nat) (prog : Bytes)
    (hver : ver = 0 ∨ ver = 1) (hlen : prog.length = 20 ∨ prog.length = 32) :
    decodeBytes pk net (encodeSegwitBytes net.hrp ver prog) =
      some (if prog.length = 20 then [0x00, 0x14] ++ prog
            else if ver = 1 then [0x51, 0x20] ++ prog else [0x00, 0x20] ++ prog) := by
  have hg := net_hrp_good net
  have hds := decodeSegWit_encode net.hrp ver prog hg hver hlen
  obtain ⟨h1, h2, _⟩ := bech32Encode_sep net.hrp (ver :: convert8to5 prog)
    (if ver = 0 then .v0 else .vM) (goodHrp_lower hg)
  have hsb : segwitBranch (encodeSegwitBytes net.hrp ver prog) =
      some (if prog.length = 20 then some (.witnessPubKeyHash net.hrp prog)
            else if ver = 1 then some (.taproot net.hrp prog)
            else some (.witnessScriptHash net.hrp prog)) := by
    unfold segwitBranch
    unfold encodeSegwitBytes at hds ⊢
    simp only [h1, h2, net_hrp_len net, net_prefix_registered net, hds, if_true]
    have : ¬ (ver ≠ 0 ∧ ver ≠ 1) := by omega
    simp only [this, if_false]
    simp [goodHrp_lower hg]
    rcases hlen with hl | hl <;> simp [hl]
  unfold decodeBytes decodeAddress
  rw [hsb]
  rcases hlen with hl | hl
  · simp [hl, Address.isForNet, payToAddrScript]
  · rcases hver with rfl | rfl <;> simp [hl, Address.isForNet, payToAddrScript]

/-! ### Lean strings: ASCII bytes survive `String.ofList` / `toUTF8` -/

theorem utf8EncodeChar_ascii : ∀ n, n < 128 → String.utf8EncodeChar (Char.ofNat n) = [UInt8.ofNat n] := by
  decide +kernel

/-- an ASCII byte string survives the trip through a Lean `String` -/
theorem utf8_bytesToString (bs : Bytes) (h : ∀ b ∈ bs, b < 128) : utf8 (bytesToString bs) = bs := by
  unfold utf8 bytesToString
  rw [String.toUTF8_eq_toByteArray, String.toByteArray_ofList, List.utf8Encode, List.data_toByteArray]
  dsimp only
  induction bs with
  | nil => rfl
  | cons b tl ih =>
    have hb : b.toNat < 128 := by
      have := h b (by simp)
      exact UInt8.lt_iff_toNat_lt.mp this
    simp only [List.map_cons, List.flatMap_cons, utf8EncodeChar_ascii _ hb, UInt8.ofNat_toNat]
    rw [ih (fun x hx => h x (by simp [hx]))]
    rfl

theorem utf8_hrpStr (net : Net) : utf8 net.hrpStr = net.hrp := by cases net <;> decide

/-! ### Inversion of bech32 / segwit decoding; lengths of accepted segwit strings -/

/-- a property of bytes can be checked on the 256 values -/
theorem forall_uint8 (P : UInt8 → Prop) (h : ∀ n, n < 256 → P (UInt8.ofNat n)) : ∀ b, P b := by
  intro b
  have := h b.toNat b.toNat_lt
  rwa [UInt8.ofNat_toNat] at this

theorem asciiLower_eq_one : ∀ b : UInt8, asciiLower b = 0x31 ↔ b = 0x31 := by
  apply forall_uint8
  decide +kernel

theorem lastIdx_lower (bs : Bytes) : lastIdx 0x31 (lowerBytes bs) = lastIdx 0x31 bs := by
  induction bs with
  | nil => rfl
  | cons b tl ih =>
    simp only [lowerBytes, List.map_cons] at ih ⊢
    simp only [lastIdx, ih]
    cases lastIdx 0x31 tl with
    | some i => rfl
    | none =>
      by_cases hb : b = 0x31
      · simp [hb]; decide
      · have : asciiLower b ≠ 0x31 := fun h => hb ((asciiLower_eq_one b).mp h)
        simp [hb, this]

/-- Inversion of bech32.DecodeGeneric. -/
theorem bech32Decode_inv {bech hrp : Bytes} {data : List Nat} {ver : B32Version}
    (h : bech32Decode bech = some (hrp, data, ver)) :
    bech.length ≤ 90 ∧ (bech.all (fun b => 33 ≤ b && b ≤ 126) = true) ∧
    ¬ (bech.any isLowerB = true ∧ bech.any isUpperB = true) ∧
    ∃ one decoded, lastIdx 0x31 bech = some one ∧ 1 ≤ one ∧ one + 7 ≤ bech.length ∧
      hrp = (lowerBytes bech).take one ∧
      toValues ((lowerBytes bech).drop (one + 1)) = some decoded ∧
      polymod hrp decoded = ver.const ∧ data = decoded.take (decoded.length - 6) := by
  unfold bech32Decode at h
  simp only [Option.ite_none_left_eq_some, lastIdx_lower] at h
  obtain ⟨h1, h2, h3, h4, h⟩ := h
  cases hone : lastIdx 0x31 bech with
  | none => rw [hone] at h; cases h
  | some one =>
    simp only [hone, Option.ite_none_left_eq_some] at h
    obtain ⟨h5, h⟩ := h
    cases hv : toValues ((lowerBytes bech).drop (one + 1)) with
    | none => rw [hv] at h; cases h
    | some decoded =>
      simp only [hv] at h
      cases hc : versionOfConst (polymod ((lowerBytes bech).take one) decoded) with
      | none => rw [hc] at h; cases h
      | some v =>
        simp only [hc, Option.some.injEq, Prod.mk.injEq] at h
        obtain ⟨rfl, rfl, rfl⟩ := h
        have hlen : (lowerBytes bech).length = bech.length := List.length_map _
        refine ⟨by omega, by simpa using h3, by simpa using h4, one, decoded, rfl, by omega, by omega,
          rfl, hv, versionOfConst_inv hc, rfl⟩

/-- Inversion of decodeSegWitAddress. -/
theorem decodeSegWit_inv {addr : Bytes} {ver : Nat} {prog : Bytes}
    (h : decodeSegWit addr = some (ver, prog)) :
    ∃ hrp rest bver, bech32Decode addr = some (hrp, ver :: rest, bver) ∧ ver ≤ 16 ∧
      convert5to8 rest = some prog ∧ 2 ≤ prog.length ∧ prog.length ≤ 40 ∧
      (ver = 0 → (prog.length = 20 ∨ prog.length = 32) ∧ bver = .v0) ∧ (ver = 1 → bver = .vM) := by
  unfold decodeSegWit at h
  cases hb : bech32Decode addr with
  | none => rw [hb] at h; cases h
  | some r =>
    obtain ⟨hrp, data, bver⟩ := r
    rw [hb] at h
    cases data with
    | nil => cases h
    | cons version rest =>
      cases hp : convert5to8 rest with
      | none => simp [hp] at h
      | some p =>
        simp only [hp, Option.ite_none_left_eq_some, Option.some.injEq, Prod.mk.injEq] at h
        obtain ⟨hv, h1, h2, h3, h4, rfl, rfl⟩ := h
        refine ⟨hrp, rest, bver, rfl, by omega, hp, by omega, by omega, ?_, ?_⟩
        · intro h0
          exact ⟨by omega, Decidable.of_not_not fun hne => h3 ⟨h0, hne⟩⟩
        · intro h1'
          exact Decidable.of_not_not fun hne => h4 ⟨h1', hne⟩

/-- the byte length of a string accepted by the segwit branch: human-readable part, separator, version
    symbol, the symbols that hold the program, six checksum symbols -/
theorem segwit_accepted_length {addr : Bytes} {one ver : Nat} {prog : Bytes}
    (hone : lastIdx 0x31 addr = some one) (hds : decodeSegWit addr = some (ver, prog)) :
    addr.length = one + 8 + (8 * prog.length + 4) / 5 := by
  obtain ⟨hrp, rest, bver, hb, _, hc, _⟩ := decodeSegWit_inv hds
  obtain ⟨_, _, _, one', decoded, h1, h2, h3, _, h5, _, h7⟩ := bech32Decode_inv hb
  rw [hone] at h1
  cases h1
  have hdl := congrArg List.length (toValues_inv h5).1
  rw [List.length_map, List.length_drop, lowerBytes, List.length_map] at hdl
  have h7l := congrArg List.length h7
  simp only [List.length_cons, List.length_take] at h7l
  rw [← convert5to8_length hc]
  omega

/-! ### The public-key parser is irrelevant -/

theorem decodeBytes_indep (pk pk' : Bytes → Bool) (net : Net) (addr : Bytes) :
    decodeBytes pk net addr = decodeBytes pk' net addr := by
  unfold decodeBytes decodeAddress
  cases segwitBranch addr with
  | some r => rfl
  | none =>
    by_cases hl : addr.length = 130 ∨ addr.length = 66
    · simp only [hl, if_true]
      cases hexDecode addr with
      | none => rfl
      | some ser => cases h1 : pk ser <;> cases h2 : pk' ser <;> simp [h1, h2, Address.isForNet]
    · simp only [hl, if_false]

/-- `DecodeBtcAddress` does not depend on whether a 33/65-byte hex string is a curve point. -/
theorem decode_indep_pubkeyParses (pk : Bytes → Bool) (net : Net) (s : String) :
    decodeBtcAddressWith pk net s = decodeBtcAddress net s :=
  decodeBytes_indep pk _ net (utf8 s)

/-! ### Soundness: only the five standard forms -/

/-- the five standard output-script forms -/
inductive StdScript : Bytes → Prop
  | p2pkh (h : Bytes) : h.length = 20 → StdScript ([0x76, 0xa9, 0x14] ++ h ++ [0x88, 0xac])
  | p2sh (h : Bytes) : h.length = 20 → StdScript ([0xa9, 0x14] ++ h ++ [0x87])
  | p2wpkh (p : Bytes) : p.length = 20 → StdScript ([0x00, 0x14] ++ p)
  | p2wsh (p : Bytes) : p.length = 32 → StdScript ([0x00, 0x20] ++ p)
  | p2tr (p : Bytes) : p.length = 32 → StdScript ([0x51, 0x20] ++ p)

/-- a pay-to-pubkey script: push of a 33- or 65-byte key, OP_CHECKSIG -/
def IsP2PK (sc : Bytes) : Prop :=
  ∃ key : Bytes, (key.length = 33 ∨ key.length = 65) ∧ sc = UInt8.ofNat key.length :: key ++ [0xac]

theorem stdScript_not_p2pk {sc : Bytes} (h : StdScript sc) : ¬ IsP2PK sc := by
  rintro ⟨key, hk, hsc⟩
  have hl := congrArg List.length hsc
  -- 25, 23, 22, 34 and 34 bytes against 35 or 67
  cases h <;> simp at hl <;> omega

theorem decode_sound_bytes {pk : Bytes → Bool} {net : Net} {addr sc : Bytes}
    (h : decodeBytes pk net addr = some sc) : StdScript sc ∧ ¬ IsP2PK sc := by
  have hs : StdScript sc := by
    rcases decodeBytes_inv h with ⟨_, _, prog, _, _, _, _, _, h6⟩ | ⟨_, _, _, payload, _, _, hl, h4⟩
    · rcases h6 with ⟨hl, _, rfl⟩ | ⟨hl, _, rfl⟩ | ⟨hl, _, rfl⟩
      · exact .p2wpkh prog hl
      · exact .p2wsh prog hl
      · exact .p2tr prog hl
    · rcases h4 with ⟨_, rfl⟩ | ⟨_, rfl⟩
      · exact .p2pkh payload hl
      · exact .p2sh payload hl
  exact ⟨hs, stdScript_not_p2pk hs⟩

/-- **decode_sound**: whatever `DecodeBtcAddress` returns is exactly one of the five standard forms
    (P2PKH `76 a9 14 <20> 88 ac`, P2SH `a9 14 <20> 87`, P2WPKH `00 14 <20>`, P2WSH `00 20 <32>`,
    P2TR `51 20 <32>`) and never a pay-to-pubkey script. -/
theorem decode_sound {net : Net} {s : String} {sc : Bytes} (h : decodeBtcAddress net s = some sc) :
    StdScript sc ∧ ¬ IsP2PK sc :=
  decode_sound_bytes h

/-! ### Hex public keys (66 / 130 characters) are rejected -/

theorem net_hrp_len2 (net : Net) : net.hrp.length = 2 ∨ net.hrp.length = 4 := by cases net <;> decide

/-- an accepted segwit string has 42, 44, 62 or 64 bytes -/
theorem segwit_accepted_length_net {net : Net} {addr : Bytes} {one ver : Nat} {prog : Bytes}
    (hone : lastIdx 0x31 addr = some one) (hds : decodeSegWit addr = some (ver, prog))
    (hhrp : lowerBytes (addr.take one) = net.hrp) (hpl : prog.length = 20 ∨ prog.length = 32) :
    addr.length = 42 ∨ addr.length = 44 ∨ addr.length = 62 ∨ addr.length = 64 := by
  have h1 := segwit_accepted_length hone hds
  have hlt := (lastIdx_some addr one hone).1
  have h4 := congrArg List.length hhrp
  rw [lowerBytes, List.length_map, List.length_take, Nat.min_eq_left (Nat.le_of_lt hlt)] at h4
  -- `one` is 2 or 4, the program takes 32 or 52 symbols
  rcases net_hrp_len2 net with hn | hn <;> rcases hpl with hp | hp <;> rw [h1, h4, hn, hp] <;> decide

/-- **p2pk_rejected** (byte level): every string of 66 or 130 bytes is rejected, whatever the
    public-key parser says — no accepted address has that length. -/
theorem p2pk_rejected_bytes (pk : Bytes → Bool) (net : Net) (addr : Bytes)
    (hlen : addr.length = 66 ∨ addr.length = 130) : decodeBytes pk net addr = none := by
  cases h : decodeBytes pk net addr with
  | none => rfl
  | some sc =>
    exfalso
    rcases decodeBytes_inv h with ⟨one, ver, prog, h1, _, _, h4, h5, h6⟩ | ⟨_, h2, h3, _⟩
    · have := segwit_accepted_length_net h1 h4 h5 (by omega)
      omega
    · omega

theorem p2pk_rejected (pk : Bytes → Bool) (net : Net) (s : String)
    (hlen : (utf8 s).length = 66 ∨ (utf8 s).length = 130) : decodeBtcAddressWith pk net s = none :=
  p2pk_rejected_bytes pk net _ hlen

/-! ### Foreign networks -/

/-- A string taken by the segwit branch (last '1' at index > 1, registered prefix) whose lower-cased
    human-readable part is not the one of `net` is rejected; nothing else is tried. -/
theorem segwit_foreign_rejected_bytes (pk : Bytes → Bool) (net : Net) (addr : Bytes) (one : Nat)
    (hone : lastIdx 0x31 addr = some one) (hgt : 1 < one)
    (hpre : isBech32SegwitPrefix (addr.take (one + 1)) = true)
    (hhrp : lowerBytes (addr.take one) ≠ net.hrp) : decodeBytes pk net addr = none := by
  cases h : decodeBytes pk net addr with
  | none => rfl
  | some sc =>
    exfalso
    rcases decodeBytes_inv h with ⟨one', _, _, h1, _, _, _, h5, _⟩ | ⟨hsb, _⟩
    · rw [hone] at h1; cases h1
      exact hhrp h5
    · exact segwitBranch_ne_none hone hgt hpre hsb

theorem utf8_encodeSegwit (net : Net) (ver : Nat) (prog : Bytes) :
    utf8 (encodeSegwit net.hrpStr ver prog) = encodeSegwitBytes net.hrp ver prog := by
  unfold encodeSegwit
  rw [utf8_hrpStr]
  refine utf8_bytesToString _ fun b hb => ?_
  have := (bech32Encode_printable _ _ _ (net_hrp_good net).2.2 b hb).2.1
  exact Nat.lt_of_le_of_lt (UInt8.le_iff_toNat_le.mp this) (by decide)

/-! ### Round trips, segwit -/

theorem segwit_roundtrip (net : Net) (ver : Nat) (prog : Bytes) (hver : ver = 0 ∨ ver = 1)
    (hlen : prog.length = 20 ∨ prog.length = 32) :
    decodeBtcAddress net (encodeSegwit net.hrpStr ver prog) =
      some (if prog.length = 20 then [0x00, 0x14] ++ prog
            else if ver = 1 then [0x51, 0x20] ++ prog else [0x00, 0x20] ++ prog) := by
  unfold decodeBtcAddress decodeBtcAddressWith
  rw [utf8_encodeSegwit, segwit_roundtrip_bytes _ net ver prog hver hlen]

/-- P2WPKH: `hrp1q…` of a 20-byte program decodes to `00 14 prog`. -/
theorem roundtrip_p2wpkh (net : Net) (prog : Bytes) (h : prog.length = 20) :
    decodeBtcAddress net (encodeSegwit net.hrpStr 0 prog) = some ([0x00, 0x14] ++ prog) := by
  simp [segwit_roundtrip net 0 prog (Or.inl rfl) (Or.inl h), h]

/-- P2WSH: `hrp1q…` of a 32-byte program decodes to `00 20 prog`. -/
theorem roundtrip_p2wsh (net : Net) (prog : Bytes) (h : prog.length = 32) :
    decodeBtcAddress net (encodeSegwit net.hrpStr 0 prog) = some ([0x00, 0x20] ++ prog) := by
  simp [segwit_roundtrip net 0 prog (Or.inl rfl) (Or.inr h), h]

/-- P2TR: `hrp1p…` (bech32m) of a 32-byte program decodes to `51 20 prog`. -/
theorem roundtrip_p2tr (net : Net) (prog : Bytes) (h : prog.length = 32) :
    decodeBtcAddress net (encodeSegwit net.hrpStr 1 prog) = some ([0x51, 0x20] ++ prog) := by
  simp [segwit_roundtrip net 1 prog (Or.inr rfl) (Or.inr h), h]

/-- **Quirk (a genuine deviation from "decoded to exactly the script they encode")**: a witness
    version 1 address with a 20-byte program (valid bech32m; it denotes the output `51 14 prog`) is
    ACCEPTED and decoded to the version-0 script `00 14 prog`: btcutil.DecodeAddress dispatches on the
    program length only and builds an AddressWitnessPubKeyHash, whose version is hard-wired to 0. -/
theorem v1_20byte_decodes_to_v0_script (net : Net) (prog : Bytes) (h : prog.length = 20) :
    decodeBtcAddress net (encodeSegwit net.hrpStr 1 prog) = some ([0x00, 0x14] ++ prog) := by
  simp [segwit_roundtrip net 1 prog (Or.inr rfl) (Or.inl h), h]

/-! ### Foreign networks, segwit -/

/-- A well-formed segwit string for a registered human-readable part other than the one of `net`
    is rejected — for every witness version and program (byte level). -/
theorem foreign_segwit_rejected_bytes (pk : Bytes → Bool) (net : Net) (h : Bytes) (hg : GoodHrp h)
    (h2 : 1 < h.length) (hreg : isBech32SegwitPrefix (h ++ [0x31]) = true) (hne : h ≠ net.hrp)
    (ver : Nat) (prog : Bytes) : decodeBytes pk net (encodeSegwitBytes h ver prog) = none := by
  unfold encodeSegwitBytes
  obtain ⟨e1, e2, e3⟩ := bech32Encode_sep h (ver :: convert8to5 prog) (if ver = 0 then .v0 else .vM)
    (goodHrp_lower hg)
  apply segwit_foreign_rejected_bytes pk net _ h.length e1 h2
  · rw [e2]; exact hreg
  · rw [e3, goodHrp_lower hg]; exact hne

/-- **foreign_network_rejected (segwit)**: an address carrying the human-readable part of another
    of the four networks is rejected unless that network has the same human-readable part
    (testnet3 and signet share "tb", so their addresses are interchangeable). -/
theorem foreign_network_rejected_segwit (net net' : Net) (hne : net'.hrp ≠ net.hrp) (ver : Nat)
    (prog : Bytes) : decodeBtcAddress net (encodeSegwit net'.hrpStr ver prog) = none := by
  unfold decodeBtcAddress decodeBtcAddressWith
  rw [utf8_encodeSegwit]
  exact foreign_segwit_rejected_bytes _ net net'.hrp (net_hrp_good net') (net_hrp_len net')
    (net_prefix_registered net') hne ver prog

/-- simnet ("sb") is registered in chaincfg, so its addresses enter the segwit branch and are
    rejected by every GOAT network. -/
theorem simnet_segwit_rejected (pk : Bytes → Bool) (net : Net) (ver : Nat) (prog : Bytes) :
    decodeBytes pk net (encodeSegwitBytes [0x73, 0x62] ver prog) = none := by
  apply foreign_segwit_rejected_bytes
  · unfold GoodHrp; decide
  · decide
  · decide
  · cases net <;> decide

/-! ### Positional notation (the bignum argument behind base58) -/

/-- little-endian digits, no trailing zero digit; `fuel ≥ x` suffices -/
def digitsLE (base : Nat) : Nat → Nat → List Nat
  | 0, _ => []
  | fuel + 1, x => if x = 0 then [] else (x % base) :: digitsLE base fuel (x / base)

def ofDigitsLE (base : Nat) : List Nat → Nat
  | [] => 0
  | d :: ds => d + base * ofDigitsLE base ds

theorem div_le_fuel {base fuel x : Nat} (hb : 2 ≤ base) (hx : x ≤ fuel + 1) (h0 : x ≠ 0) :
    x / base ≤ fuel := by
  have : x / base < x := Nat.div_lt_self (by omega) (by omega)
  omega

theorem ofDigitsLE_digitsLE (base : Nat) (hb : 2 ≤ base) : ∀ fuel x, x ≤ fuel →
    ofDigitsLE base (digitsLE base fuel x) = x := by
  intro fuel
  induction fuel with
  | zero => intro x hx; have : x = 0 := by omega
            subst this; rfl
  | succ fuel ih =>
    intro x hx
    unfold digitsLE
    by_cases h0 : x = 0
    · simp [h0, ofDigitsLE]
    · simp only [h0, if_false, ofDigitsLE, ih _ (div_le_fuel hb hx h0)]
      exact Nat.mod_add_div x base

theorem digitsLE_lt (base : Nat) (hb : 2 ≤ base) : ∀ fuel x, ∀ d ∈ digitsLE base fuel x, d < base := by
  intro fuel
  induction fuel with
  | zero => intro x d hd; simp [digitsLE] at hd
  | succ fuel ih =>
    intro x d hd
    unfold digitsLE at hd
    split at hd
    · cases hd
    · simp only [List.mem_cons] at hd
      rcases hd with rfl | hd
      · exact Nat.mod_lt _ (by omega)
      · exact ih _ d hd

theorem digitsLE_zero (base fuel : Nat) : digitsLE base fuel 0 = [] := by
  cases fuel <;> simp [digitsLE]

/-- the most significant digit `t` and the number of digits below it bracket the number -/
theorem digitsLE_top (base : Nat) (hb : 2 ≤ base) : ∀ fuel x, x ≤ fuel → x ≠ 0 →
    ∃ t ds, digitsLE base fuel x = ds ++ [t] ∧ 1 ≤ t ∧ t < base ∧
      t * base ^ ds.length ≤ x ∧ x < (t + 1) * base ^ ds.length := by
  intro fuel
  induction fuel with
  | zero => intro x hx h0; omega
  | succ fuel ih =>
    intro x hx h0
    unfold digitsLE
    simp only [h0, if_false]
    have hdm := Nat.div_add_mod x base
    have hr : x % base < base := Nat.mod_lt _ (by omega)
    by_cases hq : x / base = 0
    · rw [hq, digitsLE_zero]
      refine ⟨x % base, [], rfl, ?_, hr, ?_, ?_⟩
      · rw [hq] at hdm; omega
      · rw [hq] at hdm; simp; omega
      · rw [hq] at hdm; simp; omega
    · obtain ⟨t, ds, hds, ht1, ht2, hlo, hhi⟩ := ih (x / base) (div_le_fuel hb hx h0) hq
      refine ⟨t, (x % base) :: ds, by rw [hds]; rfl, ht1, ht2, ?_, ?_⟩
      · simp only [List.length_cons, Nat.pow_succ]
        have := Nat.mul_le_mul_right base hlo
        rw [Nat.mul_assoc] at this
        have e : x / base * base = base * (x / base) := Nat.mul_comm _ _
        omega
      · simp only [List.length_cons, Nat.pow_succ]
        have h1 : x / base + 1 ≤ (t + 1) * base ^ ds.length := hhi
        have := Nat.mul_le_mul_right base h1
        rw [Nat.mul_assoc, Nat.add_mul] at this
        have e : x / base * base = base * (x / base) := Nat.mul_comm _ _
        omega

/-- the most significant digit is not zero -/
theorem digitsLE_getLast (base : Nat) (hb : 2 ≤ base) (fuel x : Nat) (hx : x ≤ fuel) :
    (digitsLE base fuel x).getLast? ≠ some 0 := by
  by_cases h0 : x = 0
  · rw [h0, digitsLE_zero]
    nofun
  · obtain ⟨t, ds, hds, ht1, _⟩ := digitsLE_top base hb fuel x hx h0
    rw [hds, List.getLast?_concat]
    exact fun h => absurd (Option.some.inj h) (by omega)

/-- a number at least `t * b ^ n` with `t ≥ 1` needs more than `n` digits in base `b` -/
theorem pow_index_lt {b t n x e : Nat} (hb : 2 ≤ b) (ht : 1 ≤ t) (h : t * b ^ n ≤ x) (hx : x < b ^ e) :
    n < e :=
  (Nat.pow_lt_pow_iff_right hb).mp (Nat.lt_of_le_of_lt (Nat.le_trans (Nat.le_mul_of_pos_left _ ht) h) hx)

theorem digitsLE_length_le (base : Nat) (hb : 2 ≤ base) (n fuel x : Nat) (hx : x ≤ fuel) (hn : x < base ^ n) :
    (digitsLE base fuel x).length ≤ n := by
  by_cases h0 : x = 0
  · rw [h0, digitsLE_zero]
    exact Nat.zero_le n
  · obtain ⟨t, ds, hds, ht1, _, hlo, _⟩ := digitsLE_top base hb fuel x hx h0
    rw [hds, List.length_append]
    exact pow_index_lt hb ht1 hlo hn

/-- uniqueness of the representation -/
theorem digitsLE_ofDigitsLE (base : Nat) (hb : 2 ≤ base) : ∀ (ds : List Nat) (fuel : Nat),
    (∀ d ∈ ds, d < base) → ds.getLast? ≠ some 0 → ofDigitsLE base ds ≤ fuel →
    digitsLE base fuel (ofDigitsLE base ds) = ds := by
  intro ds
  induction ds with
  | nil => intro fuel _ _ _; cases fuel <;> simp [digitsLE, ofDigitsLE]
  | cons d ds ih =>
    intro fuel hlt hlast hf
    have hd : d < base := hlt d (by simp)
    have hne : ofDigitsLE base (d :: ds) ≠ 0 := by
      simp only [ofDigitsLE]
      cases ds with
      | nil =>
        simp only [List.getLast?_singleton, ne_eq, Option.some.injEq] at hlast
        simp [ofDigitsLE]; exact hlast
      | cons e es =>
        intro h
        have h2 : base * ofDigitsLE base (e :: es) = 0 := by omega
        have h3 : ofDigitsLE base (e :: es) = 0 := by
          rcases Nat.mul_eq_zero.mp h2 with h | h
          · omega
          · exact h
        rw [List.getLast?_cons_cons] at hlast
        have := ih 0 (fun x hx => hlt x (by simp [hx])) hlast (by omega)
        rw [h3] at this
        simp [digitsLE] at this
    cases fuel with
    | zero => omega
    | succ fuel =>
      unfold digitsLE
      simp only [hne, if_false]
      have hm : ofDigitsLE base (d :: ds) % base = d := by
        simp only [ofDigitsLE]
        rw [Nat.add_mul_mod_self_left]
        exact Nat.mod_eq_of_lt hd
      have hq : ofDigitsLE base (d :: ds) / base = ofDigitsLE base ds := by
        simp only [ofDigitsLE]
        rw [Nat.add_mul_div_left _ _ (by omega : 0 < base), Nat.div_eq_of_lt hd, Nat.zero_add]
      rw [hm, hq]
      congr 1
      apply ih fuel (fun x hx => hlt x (by simp [hx]))
      · cases ds with
        | nil => simp
        | cons e es => rw [List.getLast?_cons_cons] at hlast; exact hlast
      · have := div_le_fuel hb hf hne
        rw [hq] at this
        exact this

theorem ofDigits_snoc (base : Nat) (ds : List Nat) (d : Nat) :
    ofDigits base (ds ++ [d]) = ofDigits base ds * base + d := by
  simp [ofDigits, List.foldl_append]

theorem ofDigitsLE_eq (base : Nat) (ds : List Nat) : ofDigitsLE base ds = ofDigits base ds.reverse := by
  induction ds with
  | nil => rfl
  | cons d ds ih =>
    rw [List.reverse_cons, ofDigits_snoc, ← ih, ofDigitsLE]
    rw [Nat.mul_comm, Nat.add_comm]

theorem ofDigits_eq (base : Nat) (ds : List Nat) : ofDigits base ds = ofDigitsLE base ds.reverse := by
  rw [ofDigitsLE_eq, List.reverse_reverse]

theorem ofDigits_zeros (base k : Nat) (ds : List Nat) :
    ofDigits base (List.replicate k 0 ++ ds) = ofDigits base ds := by
  induction k with
  | zero => simp
  | succ k ih =>
    rw [List.replicate_succ, List.cons_append]
    unfold ofDigits at ih ⊢
    simpa [List.foldl_cons] using ih

/-- big-endian digits of `x` with no leading zero: what `big.Int` yields in a base -/
def digitsBE (base x : Nat) : List Nat := (digitsLE base x x).reverse

/-- the digit strings `digitsBE` produces: digits below the base, no leading zero -/
def Canon (base : Nat) (ds : List Nat) : Prop := (∀ d ∈ ds, d < base) ∧ ds.head? ≠ some 0

section
variable {base : Nat} (hb : 2 ≤ base)
include hb

theorem digitsBE_canon (x : Nat) : Canon base (digitsBE base x) :=
  ⟨fun d hd => digitsLE_lt base hb x x d (List.mem_reverse.mp hd),
   List.head?_reverse ▸ digitsLE_getLast base hb x x (Nat.le_refl x)⟩

theorem ofDigits_digitsBE (x : Nat) : ofDigits base (digitsBE base x) = x := by
  rw [ofDigits_eq, digitsBE, List.reverse_reverse, ofDigitsLE_digitsLE base hb x x (Nat.le_refl x)]

theorem digitsBE_ofDigits {ds : List Nat} (h : Canon base ds) : digitsBE base (ofDigits base ds) = ds := by
  rw [digitsBE, ofDigits_eq, digitsLE_ofDigitsLE base hb _ _ (fun d hd => h.1 d (List.mem_reverse.mp hd))
    (List.getLast?_reverse ▸ h.2) (Nat.le_refl _), List.reverse_reverse]

end

/-- every digit string is some zeros followed by a canonical one -/
theorem split_zeros {base : Nat} : ∀ {ds : List Nat}, (∀ d ∈ ds, d < base) →
    ∃ k ds', ds = List.replicate k 0 ++ ds' ∧ Canon base ds' := by
  intro ds
  induction ds with
  | nil => intro _; exact ⟨0, [], rfl, nofun, nofun⟩
  | cons d tl ih =>
    intro h
    by_cases hd : d = 0
    · obtain ⟨k, ds', h1, h2⟩ := ih (fun x hx => h x (List.mem_cons_of_mem _ hx))
      exact ⟨k + 1, ds', by rw [hd, h1, List.replicate_succ, List.cons_append], h2⟩
    · exact ⟨0, d :: tl, rfl, h, by simpa using hd⟩

theorem forall_zeros_append {base k : Nat} {ds : List Nat} (hb : 0 < base) (h : ∀ d ∈ ds, d < base) :
    ∀ d ∈ List.replicate k 0 ++ ds, d < base := by
  intro d hd
  rcases List.mem_append.mp hd with hd | hd
  · rw [(List.mem_replicate.mp hd).2]
    exact hb
  · exact h d hd

/-! ### base58: Decode and Encode undo each other, CheckDecode ∘ CheckEncode, first character, lengths -/

theorem digits58LE_eq (fuel x : Nat) : digits58LE fuel x = digitsLE 58 fuel x := by
  induction fuel generalizing x with
  | zero => rfl
  | succ fuel ih => simp only [digits58LE, digitsLE, ih]

theorem natBytesLE_eq (fuel x : Nat) : natBytesLE fuel x = (digitsLE 256 fuel x).map UInt8.ofNat := by
  induction fuel generalizing x with
  | zero => rfl
  | succ fuel ih =>
    simp only [natBytesLE, digitsLE, ih]
    split <;> simp

theorem beToNat_eq (bs : Bytes) : beToNat bs = ofDigits 256 (bs.map UInt8.toNat) := by
  simp [beToNat, ofDigits, List.foldl_map]

theorem countLeading_replicate (c : UInt8) (k : Nat) (rest : Bytes) (h : rest.head? ≠ some c) :
    countLeading c (List.replicate k c ++ rest) = k := by
  induction k with
  | zero =>
    cases rest with
    | nil => rfl
    | cons b tl =>
      simp only [List.head?_cons, ne_eq, Option.some.injEq] at h
      simp [countLeading, h]
  | succ k ih => simp [List.replicate_succ, countLeading, ih]

/-- a byte string is its leading zero bytes followed by the rest, which does not start with zero -/
theorem split_leading (c : UInt8) (b : Bytes) :
    b = List.replicate (countLeading c b) c ++ b.drop (countLeading c b) ∧
    (b.drop (countLeading c b)).head? ≠ some c := by
  induction b with
  | nil => simp [countLeading]
  | cons x tl ih =>
    unfold countLeading
    by_cases hx : x = c
    · subst hx
      simp only [if_true, List.replicate_succ, List.drop_succ_cons, List.cons_append]
      exact ⟨by rw [← ih.1], ih.2⟩
    · simp [hx]

/-- a map that sends 0, and of the digits that follow only 0, to `c` turns leading zeros into leading `c`s -/
theorem countLeading_map {f : Nat → UInt8} {c : UInt8} (h0 : f 0 = c) (k : Nat) {ds : List Nat}
    (hf : ∀ d ∈ ds, f d = c → d = 0) (hh : ds.head? ≠ some 0) :
    countLeading c ((List.replicate k 0 ++ ds).map f) = k := by
  rw [List.map_append, List.map_replicate, h0]
  apply countLeading_replicate
  cases ds with
  | nil => nofun
  | cons t ts =>
    intro h
    exact hh (congrArg some (hf t (List.mem_cons_self ..) (Option.some.inj h)))

theorem map_ofNat_toNat (b : Bytes) : (b.map UInt8.toNat).map UInt8.ofNat = b := by
  induction b with
  | nil => rfl
  | cons a tl ih => rw [List.map_cons, List.map_cons, ih, UInt8.ofNat_toNat]

theorem map_toNat_ofNat {ds : List Nat} (h : ∀ d ∈ ds, d < 256) : (ds.map UInt8.ofNat).map UInt8.toNat = ds := by
  induction ds with
  | nil => rfl
  | cons d tl ih =>
    rw [List.forall_mem_cons] at h
    rw [List.map_cons, List.map_cons, ih h.2, UInt8.toNat_ofNat_of_lt' h.1]

theorem natBytesBE_eq (x : Nat) : natBytesBE x = (digitsBE 256 x).map UInt8.ofNat := by
  rw [natBytesBE, natBytesLE_eq, digitsBE, List.map_reverse]

/-- base58.Encode keeps the number of leading zeros and writes the number the rest spells in base 58 -/
theorem base58Encode_eq {b : Bytes} {k : Nat} {ds : List Nat}
    (hb : b.map UInt8.toNat = List.replicate k 0 ++ ds) (hc : Canon 256 ds) :
    base58Encode b = (List.replicate k 0 ++ digitsBE 58 (ofDigits 256 ds)).map alphabetAt := by
  have hk : countLeading 0 b = k := by
    have := countLeading_map (f := UInt8.ofNat) rfl k
      (fun d hd h => by simpa [Nat.mod_eq_of_lt (hc.1 d hd)] using congrArg UInt8.toNat h) hc.2
    rwa [← hb, map_ofNat_toNat] at this
  rw [base58Encode, hk, beToNat_eq, hb, ofDigits_zeros, digits58LE_eq, List.map_append, List.map_replicate]
  rfl

/-- base58.Decode does the same from base 58 to base 256 -/
theorem base58Decode_eq {s : Bytes} {k : Nat} {ds : List Nat}
    (hs : b58Digits s = some (List.replicate k 0 ++ ds)) (hc : Canon 58 ds) :
    base58Decode s = (List.replicate k 0 ++ digitsBE 256 (ofDigits 58 ds)).map UInt8.ofNat := by
  have hk : countLeading 0x31 s = k := by
    rw [(b58Digits_inv hs).1]
    exact countLeading_map rfl k (fun d hd => (alphabetAt_eq_one (hc.1 d hd)).mp) hc.2
  rw [base58Decode, hs]
  simp only [hk, ofDigits_zeros, natBytesBE_eq, List.map_append, List.map_replicate]
  rfl

/-- **base58.Decode ∘ base58.Encode = id** on byte strings of every length. -/
theorem base58Decode_encode (b : Bytes) : base58Decode (base58Encode b) = b := by
  obtain ⟨k, ds, hb, hc⟩ := split_zeros (base := 256) (ds := b.map UInt8.toNat)
    (fun d hd => by obtain ⟨a, _, rfl⟩ := List.mem_map.mp hd; exact a.toNat_lt)
  have hD := digitsBE_canon (base := 58) (by decide) (ofDigits 256 ds)
  rw [base58Encode_eq hb hc, base58Decode_eq (b58Digits_map _ (forall_zeros_append (by decide) hD.1)) hD,
    ofDigits_digitsBE (by decide),
    digitsBE_ofDigits (by decide) hc, ← hb, map_ofNat_toNat]

/-- **base58.Encode ∘ base58.Decode = id** on strings over the alphabet. -/
theorem base58Encode_decode (s : Bytes) (ds : List Nat) (h : b58Digits s = some ds) :
    base58Encode (base58Decode s) = s := by
  obtain ⟨hs, hlt⟩ := b58Digits_inv h
  obtain ⟨k, ds', rfl, hc⟩ := split_zeros hlt
  have hE := digitsBE_canon (base := 256) (by decide) (ofDigits 58 ds')
  rw [base58Decode_eq h hc, base58Encode_eq (map_toNat_ofNat (forall_zeros_append (by decide) hE.1)) hE,
    ofDigits_digitsBE (by decide),
    digitsBE_ofDigits (by decide) hc, hs]

theorem checksum4_length (bs : Bytes) : (checksum4 bs).length = 4 := by
  simp [checksum4, List.length_take]

/-- base58.CheckDecode ∘ base58.CheckEncode -/
theorem checkDecode_encode (v : UInt8) (payload : Bytes) :
    checkDecode (encodeBase58CheckBytes v payload) = some (payload, v) := by
  unfold checkDecode encodeBase58CheckBytes
  simp only [base58Decode_encode]
  have h4 := checksum4_length (v :: payload)
  generalize hck : checksum4 (v :: payload) = ck at h4
  have e1 : ¬ (v :: payload ++ ck).length < 5 := by simp [h4]
  have e3 : (v :: payload ++ ck).length - 4 = (v :: payload).length := by simp [h4]
  have e4 : (v :: payload ++ ck).take (v :: payload).length = v :: payload := List.take_left'  rfl
  have e5 : (v :: payload ++ ck).drop (v :: payload).length = ck := List.drop_left' rfl
  rw [if_neg e1, e3, e4, e5]
  simp [hck]

/-- Inversion of base58.CheckDecode: the decoded bytes are version, payload, checksum. -/
theorem checkDecode_inv {s payload : Bytes} {v : UInt8} (h : checkDecode s = some (payload, v)) :
    base58Decode s = v :: payload ++ checksum4 (v :: payload) := by
  unfold checkDecode at h
  generalize base58Decode s = decoded at h ⊢
  simp only [Option.ite_none_left_eq_some] at h
  obtain ⟨hlen, h⟩ := h
  cases decoded with
  | nil => cases h
  | cons version tl =>
    simp only [Option.ite_none_right_eq_some, Option.some.injEq, Prod.mk.injEq] at h
    obtain ⟨hck, hp, rfl⟩ := h
    rw [List.length_cons] at hlen hck hp
    rw [show tl.length + 1 - 4 = (tl.length - 4) + 1 by omega, List.take_succ_cons] at hck hp
    rw [List.drop_succ_cons, List.drop_zero] at hp
    rw [hp] at hck
    rw [hck, ← hp, ← List.take_succ_cons, List.take_append_drop]

/-- **A string accepted by base58.CheckDecode is exactly the CheckEncode of what it decodes to.** -/
theorem checkDecode_canonical {addr payload : Bytes} {id : UInt8}
    (h : checkDecode addr = some (payload, id)) : addr = encodeBase58CheckBytes id payload := by
  have hd := checkDecode_inv h
  cases hds : b58Digits addr with
  | none =>
    rw [base58Decode, hds] at hd
    cases hd
  | some ds => rw [encodeBase58CheckBytes, ← hd, base58Encode_decode addr ds hds]

/-- a number whose leading base-`b` digit is `t`, with `n` digits below it, and which lies in `[lo, hi)`
    inside `[b ^ e, b ^ (e + 1))`, has `n = e`, and `t` is between the leading digits of `lo` and of `hi` -/
theorem top_range {b x lo hi e tlo thi t n : Nat} (hlo : lo ≤ x) (hhi : x < hi)
    (h1 : b ^ e ≤ lo) (h2 : hi ≤ b ^ (e + 1)) (h3 : tlo * b ^ e ≤ lo) (h4 : hi ≤ (thi + 1) * b ^ e)
    (ht1 : 1 ≤ t) (ht2 : t < b) (ht3 : t * b ^ n ≤ x) (ht4 : x < (t + 1) * b ^ n) :
    tlo ≤ t ∧ t ≤ thi := by
  have hb : 2 ≤ b := by omega
  have hle : (t + 1) * b ^ n ≤ b ^ (n + 1) := Nat.pow_succ' ▸ Nat.mul_le_mul_right _ ht2
  have hn : n = e := Nat.le_antisymm
    (Nat.lt_succ_iff.mp (pow_index_lt hb ht1 ht3 (Nat.lt_of_lt_of_le hhi h2)))
    (Nat.lt_succ_iff.mp (pow_index_lt hb (Nat.le_refl 1) (by omega : 1 * b ^ e ≤ x) (Nat.lt_of_lt_of_le ht4 hle)))
  subst hn
  constructor
  · have : tlo * b ^ n < (t + 1) * b ^ n := by omega
    have := Nat.lt_of_mul_lt_mul_right this
    omega
  · have : t * b ^ n < (thi + 1) * b ^ n := by omega
    have := Nat.lt_of_mul_lt_mul_right this
    omega

/-- the segwit branch is not taken by a string whose first byte is not b/B, t/T or s/S -/
theorem segwitBranch_none_of_head (s : Bytes) (c : UInt8) (hh : s.head? = some c)
    (hc : asciiLower c ≠ 0x62 ∧ asciiLower c ≠ 0x74 ∧ asciiLower c ≠ 0x73) : segwitBranch s = none := by
  unfold segwitBranch
  cases hone : lastIdx 0x31 s with
  | none => rfl
  | some one =>
    simp only
    by_cases hgt : one > 1
    · simp only [hgt, if_true]
      cases s with
      | nil => simp at hh
      | cons x tl =>
        simp only [List.head?_cons, Option.some.injEq] at hh
        subst hh
        have : isBech32SegwitPrefix (List.take (one + 1) (x :: tl)) = false := by
          simp only [List.take_succ_cons, isBech32SegwitPrefix, registeredPrefixes, lowerBytes, List.map_cons]
          simp [hc.1, hc.2.1, hc.2.2]
        rw [this]
        simp
    · simp [hgt]

/-- first character of base58.Encode(v :: rest) for v ≠ 0, through the most significant base-58 digit -/
theorem base58Encode_head (v : UInt8) (rest : Bytes) (hv : v ≠ 0) :
    ∃ t n, (base58Encode (v :: rest)).head? = some (alphabetAt t) ∧ 1 ≤ t ∧ t < 58 ∧
      t * 58 ^ n ≤ beToNat (v :: rest) ∧ beToNat (v :: rest) < (t + 1) * 58 ^ n ∧
      (base58Encode (v :: rest)).length = n + 1 := by
  have hx0 : beToNat (v :: rest) ≠ 0 := by
    rw [beToNat_cons]
    have : v.toNat ≠ 0 := fun h => hv (UInt8.toNat_inj.mp (by simpa using h))
    have hp : 0 < 256 ^ rest.length := Nat.pow_pos (by decide)
    have : 1 * 256 ^ rest.length ≤ v.toNat * 256 ^ rest.length := Nat.mul_le_mul_right _ (by omega)
    omega
  have hs : base58Encode (v :: rest) =
      (digitsLE 58 (beToNat (v :: rest)) (beToNat (v :: rest))).reverse.map alphabetAt := by
    unfold base58Encode
    simp [countLeading, hv, digits58LE_eq]
  generalize beToNat (v :: rest) = x at hx0 hs
  obtain ⟨t, ds, hds, ht1, ht2, hlo, hhi⟩ := digitsLE_top 58 (by decide) x x (Nat.le_refl _) hx0
  rw [hds] at hs
  refine ⟨t, ds.length, ?_, ht1, ht2, hlo, hhi, ?_⟩
  · rw [hs]; simp
  · rw [hs]; simp

theorem beToNat_zeros (k : Nat) (b : Bytes) : beToNat (List.replicate k 0 ++ b) = beToNat b := by
  rw [beToNat_eq, beToNat_eq, List.map_append, List.map_replicate]
  exact ofDigits_zeros 256 k _

/-- a base58 string is at most twice as long as the bytes it encodes -/
theorem base58Encode_length_le (b : Bytes) : (base58Encode b).length ≤ 2 * b.length := by
  obtain ⟨hsplit, _⟩ := split_leading 0 b
  generalize hk : countLeading 0 b = k at hsplit
  generalize b.drop k = b' at hsplit
  have hx : beToNat b = beToNat b' := by rw [hsplit, beToNat_zeros]
  have hlt : beToNat b < 58 ^ (2 * b'.length) := by
    rw [hx, Nat.pow_mul]
    exact Nat.lt_of_lt_of_le (beToNat_lt b') (Nat.pow_le_pow_left (by decide) _)
  have hD := digitsLE_length_le 58 (by decide) _ (beToNat b) _ (Nat.le_refl _) hlt
  unfold base58Encode
  simp only [hk, digits58LE_eq, List.length_append, List.length_replicate, List.length_map,
    List.length_reverse]
  have : b.length = k + b'.length := by rw [hsplit]; simp
  omega

theorem base58Encode_zero_head (rest : Bytes) : (base58Encode (0 :: rest)).head? = some 0x31 := by
  unfold base58Encode
  simp [countLeading, List.replicate_succ]

/-- The segwit branch is not taken by base58.Encode(v :: rest), v ≠ 0, when the leading base-58 digits that
    the range of numbers `[v * 256 ^ m, (v + 1) * 256 ^ m)` allows (it lies within `[58 ^ e, 58 ^ (e + 1))`)
    are not written b/B, t/T or s/S. -/
theorem base58_not_segwit_of_range (v : UInt8) (rest : Bytes) (hv : v ≠ 0) {m e tlo thi : Nat}
    (hr : rest.length = m) (h1 : 58 ^ e ≤ v.toNat * 256 ^ m) (h2 : (v.toNat + 1) * 256 ^ m ≤ 58 ^ (e + 1))
    (h3 : tlo * 58 ^ e ≤ v.toNat * 256 ^ m) (h4 : (v.toNat + 1) * 256 ^ m ≤ (thi + 1) * 58 ^ e)
    (hc : ∀ t, t ≤ thi → tlo ≤ t → asciiLower (alphabetAt t) ≠ 0x62 ∧ asciiLower (alphabetAt t) ≠ 0x74 ∧
      asciiLower (alphabetAt t) ≠ 0x73) :
    segwitBranch (base58Encode (v :: rest)) = none := by
  obtain ⟨t, n, hh, ht1, ht2, hlo, hhi, _⟩ := base58Encode_head v rest hv
  have hx := beToNat_cons v rest
  have hlt := beToNat_lt rest
  rw [hr] at hx hlt
  have ht := top_range (lo := v.toNat * 256 ^ m) (hi := (v.toNat + 1) * 256 ^ m) (by omega)
    (by rw [hx, Nat.add_mul]; omega) h1 h2 h3 h4 ht1 ht2 hlo hhi
  exact segwitBranch_none_of_head _ _ hh (hc t ht.2 ht.1)

/-- the segwit branch is not taken by the base58check encoding of a 25-byte string whose version
    byte is one of 0x00, 0x05, 0x6f, 0xc4 (the first character is '1', '3', 'm'/'n', '2'). -/
theorem base58_not_segwit (v : UInt8) (rest : Bytes) (hr : rest.length = 24)
    (hv : v = 0x00 ∨ v = 0x05 ∨ v = 0x6f ∨ v = 0xc4) : segwitBranch (base58Encode (v :: rest)) = none := by
  rcases hv with rfl | rfl | rfl | rfl
  · exact segwitBranch_none_of_head _ _ (base58Encode_zero_head rest) (by decide)
  · exact base58_not_segwit_of_range 0x05 rest (by decide) hr (e := 33) (tlo := 2) (thi := 2)
      (by decide) (by decide) (by decide) (by decide) (by decide)
  · exact base58_not_segwit_of_range 0x6f rest (by decide) hr (e := 33) (tlo := 44) (thi := 45)
      (by decide) (by decide) (by decide) (by decide) (by decide)
  · exact base58_not_segwit_of_range 0xc4 rest (by decide) hr (e := 34) (tlo := 1) (thi := 1)
      (by decide) (by decide) (by decide) (by decide) (by decide)

theorem net_ids (net : Net) : (net.p2pkhId = 0x00 ∨ net.p2pkhId = 0x05 ∨ net.p2pkhId = 0x6f ∨ net.p2pkhId = 0xc4) ∧
    (net.p2shId = 0x00 ∨ net.p2shId = 0x05 ∨ net.p2shId = 0x6f ∨ net.p2shId = 0xc4) := by
  cases net <;> decide

/-- the whole function on a base58check address of the network, byte level -/
theorem base58_roundtrip_bytes (pk : Bytes → Bool) (net : Net) (v : UInt8) (payload : Bytes)
    (hl : payload.length = 20) (hv : v = net.p2pkhId ∨ v = net.p2shId) :
    decodeBytes pk net (encodeBase58CheckBytes v payload) =
      some (if v = net.p2pkhId then [0x76, 0xa9, 0x14] ++ payload ++ [0x88, 0xac]
            else [0xa9, 0x14] ++ payload ++ [0x87]) := by
  have hcd := checkDecode_encode v payload
  have hrest : (payload ++ checksum4 (v :: payload)).length = 24 := by
    simp [hl, checksum4_length]
  have hv4 : v = 0x00 ∨ v = 0x05 ∨ v = 0x6f ∨ v = 0xc4 := by
    rcases hv with rfl | rfl
    · exact (net_ids net).1
    · exact (net_ids net).2
  have hsb : segwitBranch (encodeBase58CheckBytes v payload) = none := by
    unfold encodeBase58CheckBytes
    exact base58_not_segwit v _ hrest hv4
  have hlen : (encodeBase58CheckBytes v payload).length ≤ 50 := by
    unfold encodeBase58CheckBytes
    have := base58Encode_length_le (v :: payload ++ checksum4 (v :: payload))
    simp only [List.cons_append, List.length_cons, hrest] at this
    simpa using this
  have hne : ¬ ((encodeBase58CheckBytes v payload).length = 130 ∨
      (encodeBase58CheckBytes v payload).length = 66) := by omega
  unfold decodeBytes decodeAddress
  simp only [hsb, hne, if_false, hcd, hl, if_true]
  have hids := ids_ne net
  rcases hv with rfl | rfl
  · simp [hids, Address.isForNet, payToAddrScript]
  · simp [hids.symm, Address.isForNet, payToAddrScript]

theorem encodeBase58Check_ascii (v : UInt8) (payload : Bytes) :
    ∀ b ∈ encodeBase58CheckBytes v payload, b < 128 := by
  unfold encodeBase58CheckBytes base58Encode
  intro b hb
  simp only [List.mem_append, List.mem_replicate, List.mem_map, List.mem_reverse] at hb
  rcases hb with ⟨_, rfl⟩ | ⟨d, hd, rfl⟩
  · decide
  · rw [digits58LE_eq] at hd
    exact alphabet_ascii _ (List.mem_of_getElem? (alphabetAt_spec d (digitsLE_lt 58 (by decide) _ _ d hd)))

theorem utf8_encodeBase58Check (v : UInt8) (payload : Bytes) :
    utf8 (encodeBase58Check v payload) = encodeBase58CheckBytes v payload :=
  utf8_bytesToString _ (encodeBase58Check_ascii v payload)

/-! ### Round trips, base58check -/

/-- P2PKH: the base58check string of (PubKeyHashAddrID, 20-byte hash) decodes to `76 a9 14 h 88 ac`. -/
theorem roundtrip_p2pkh (net : Net) (h : Bytes) (hl : h.length = 20) :
    decodeBtcAddress net (encodeBase58Check net.p2pkhId h) =
      some ([0x76, 0xa9, 0x14] ++ h ++ [0x88, 0xac]) := by
  unfold decodeBtcAddress decodeBtcAddressWith
  rw [utf8_encodeBase58Check, base58_roundtrip_bytes _ net _ h hl (Or.inl rfl)]
  simp

/-- P2SH: the base58check string of (ScriptHashAddrID, 20-byte hash) decodes to `a9 14 h 87`. -/
theorem roundtrip_p2sh (net : Net) (h : Bytes) (hl : h.length = 20) :
    decodeBtcAddress net (encodeBase58Check net.p2shId h) = some ([0xa9, 0x14] ++ h ++ [0x87]) := by
  unfold decodeBtcAddress decodeBtcAddressWith
  rw [utf8_encodeBase58Check, base58_roundtrip_bytes _ net _ h hl (Or.inr rfl)]
  simp [(ids_ne net).symm]

/-! ### Foreign networks, base58check -/

/-- A base58check address (20-byte hash) whose version byte is neither the P2PKH nor the P2SH id of
    `net` is rejected — whatever the byte is (byte level). -/
theorem foreign_base58_rejected_bytes (pk : Bytes → Bool) (net : Net) (v : UInt8) (payload : Bytes)
    (hl : payload.length = 20) (h1 : v ≠ net.p2pkhId) (h2 : v ≠ net.p2shId) :
    decodeBytes pk net (encodeBase58CheckBytes v payload) = none := by
  cases h : decodeBytes pk net (encodeBase58CheckBytes v payload) with
  | none => rfl
  | some sc =>
    exfalso
    rcases decodeBytes_inv h with ⟨one, ver, prog, a1, a2, a3, a4, a5, a6⟩ | ⟨_, _, _, p, id, b1, _, b3⟩
    · -- the segwit branch: impossible for a string of this shape
      have hsb := segwitBranch_ne_none a1 a2 a3
      have hlen := segwit_accepted_length_net a1 a4 a5 (by omega)
      unfold encodeBase58CheckBytes at hsb hlen
      by_cases hv0 : v = 0
      · subst hv0
        exact hsb (segwitBranch_none_of_head _ _ (base58Encode_zero_head _) (by decide))
      · obtain ⟨t, n, _, ht1, _, hlo, _, hn⟩ := base58Encode_head v (payload ++ checksum4 (v :: payload)) hv0
        have hx := beToNat_lt (v :: (payload ++ checksum4 (v :: payload)))
        have h25 : (v :: (payload ++ checksum4 (v :: payload))).length = 25 := by
          simp [hl, checksum4_length]
        rw [h25] at hx
        -- fewer than 256 ^ 25 < 58 ^ 35 numbers: at most 35 characters
        have hn35 : n < 35 := pow_index_lt (by decide) ht1 hlo (Nat.lt_trans hx (by decide))
        simp only [List.cons_append] at hlen
        omega
    · rw [checkDecode_encode] at b1
      simp only [Option.some.injEq, Prod.mk.injEq] at b1
      obtain ⟨_, rfl⟩ := b1
      rcases b3 with ⟨hid, _⟩ | ⟨hid, _⟩
      · exact h1 hid
      · exact h2 hid

/-- **foreign_network_rejected (base58check)**: a P2PKH / P2SH address of another network is rejected
    unless the two networks use the same version bytes (testnet3, signet and regtest all use 0x6f /
    0xc4, so their base58 addresses are interchangeable; mainnet's 0x00 / 0x05 are its own). -/
theorem foreign_network_rejected_base58 (net net' : Net) (h : Bytes) (hl : h.length = 20)
    (hne : net'.p2pkhId ≠ net.p2pkhId) :
    decodeBtcAddress net (encodeBase58Check net'.p2pkhId h) = none ∧
    decodeBtcAddress net (encodeBase58Check net'.p2shId h) = none := by
  have hall : net'.p2pkhId ≠ net.p2pkhId ∧ net'.p2pkhId ≠ net.p2shId ∧
      net'.p2shId ≠ net.p2pkhId ∧ net'.p2shId ≠ net.p2shId := by
    revert hne; cases net <;> cases net' <;> decide
  unfold decodeBtcAddress decodeBtcAddressWith
  rw [utf8_encodeBase58Check, utf8_encodeBase58Check]
  exact ⟨foreign_base58_rejected_bytes _ net _ h hl hall.1 hall.2.1,
    foreign_base58_rejected_bytes _ net _ h hl hall.2.2.1 hall.2.2.2⟩

/-! ### Converse direction: an accepted string IS the canonical encoding (used for injectivity) -/

theorem lowerBytes_take (bs : Bytes) (n : Nat) : lowerBytes (bs.take n) = (lowerBytes bs).take n := by
  simp [lowerBytes, List.map_take]

theorem asciiLower_not_upper : ∀ a : UInt8, isUpperB (asciiLower a) = false := by
  apply forall_uint8
  decide +kernel

/-- split a list at an index holding a known element -/
theorem split_at_idx (l : Bytes) (i : Nat) (c : UInt8) (h : l[i]? = some c) :
    l = l.take i ++ c :: l.drop (i + 1) := by
  obtain ⟨hi, rfl⟩ := List.getElem?_eq_some_iff.mp h
  rw [← List.drop_eq_getElem_cons hi, List.take_append_drop]

theorem lowerBytes_idem (bs : Bytes) : lowerBytes (lowerBytes bs) = lowerBytes bs := by
  apply lowerBytes_of_no_upper
  intro b hb
  obtain ⟨a, _, rfl⟩ := List.mem_map.mp hb
  exact asciiLower_not_upper a

/-- **A string accepted by bech32.DecodeGeneric is, up to case, the Encode(M) of what it decodes to.** -/
theorem bech32Decode_canonical {bech hrp : Bytes} {data : List Nat} {ver : B32Version}
    (h : bech32Decode bech = some (hrp, data, ver)) :
    lowerBytes bech = bech32Encode hrp data ver ∧ ∀ v ∈ data, v < 32 := by
  obtain ⟨_, _, _, one, decoded, h1, h2, h3, h4, h5, h6, h7⟩ := bech32Decode_inv h
  -- the lower-cased string splits at the separator
  have hsplit := split_at_idx _ one 0x31 (lastIdx_some _ _ (lastIdx_lower bech ▸ h1)).2.1
  -- the data part: symbols below 32, the last six of them the checksum
  obtain ⟨hd1, hd2⟩ := toValues_inv h5
  have hdl := congrArg List.length hd1
  rw [List.length_map, List.length_drop, lowerBytes, List.length_map] at hdl
  have hdec : decoded = data ++ decoded.drop (decoded.length - 6) := by
    rw [h7]
    exact (List.take_append_drop _ _).symm
  generalize hcs : decoded.drop (decoded.length - 6) = cs at hdec
  have hcsl : cs.length = 6 := by rw [← hcs, List.length_drop]; omega
  rw [hdec] at h6 hd2
  have hck := checksum_unique hrp data cs ver hcsl (fun v hv => hd2 v (List.mem_append_right _ hv)) h6
  refine ⟨?_, fun v hv => hd2 v (List.mem_append_left _ hv)⟩
  have hll : lowerBytes hrp = hrp := by rw [h4, ← lowerBytes_take, lowerBytes_idem]
  rw [bech32Encode_eq hll, ← hck, ← hdec, ← hd1, h4]
  exact hsplit

/-- **An accepted segwit string is, up to case, the canonical encoding** of its witness version and
    program for the human-readable part it carries. -/
theorem segwit_accepted_canonical {addr : Bytes} {one ver : Nat} {prog : Bytes}
    (hone : lastIdx 0x31 addr = some one) (hds : decodeSegWit addr = some (ver, prog))
    (hver : ver = 0 ∨ ver = 1) :
    lowerBytes addr = encodeSegwitBytes (lowerBytes (addr.take one)) ver prog := by
  obtain ⟨hrp, rest, bver, hb, _, hc, _, _, hv0, hv1⟩ := decodeSegWit_inv hds
  obtain ⟨_, _, _, one', _, h1, _, _, h4, _⟩ := bech32Decode_inv hb
  obtain ⟨hcan, hlt⟩ := bech32Decode_canonical hb
  rw [hone] at h1
  cases h1
  have hbver : bver = (if ver = 0 then B32Version.v0 else B32Version.vM) := by
    rcases hver with rfl | rfl
    · simpa using (hv0 rfl).2
    · simpa using hv1 rfl
  rw [encodeSegwitBytes, convert8to5_convert5to8 (fun v hv => hlt v (List.mem_cons_of_mem _ hv)) hc,
    ← hbver, lowerBytes_take, ← h4]
  exact hcan

/-- **Completeness-style characterisation**: every accepted string is (for segwit: up to ASCII case)
    the canonical encoding of the script it is decoded to — except that a 20-byte program may carry
    witness version 0 or 1 and gets the version-0 script either way. -/
theorem accepted_canonical {pk : Bytes → Bool} {net : Net} {addr sc : Bytes}
    (h : decodeBytes pk net addr = some sc) :
    (∃ ver prog, (ver = 0 ∨ ver = 1) ∧ lowerBytes addr = encodeSegwitBytes net.hrp ver prog ∧
      ((prog.length = 20 ∧ sc = [0x00, 0x14] ++ prog) ∨
       (prog.length = 32 ∧ ver = 0 ∧ sc = [0x00, 0x20] ++ prog) ∨
       (prog.length = 32 ∧ ver = 1 ∧ sc = [0x51, 0x20] ++ prog))) ∨
    (∃ payload, payload.length = 20 ∧
      ((addr = encodeBase58CheckBytes net.p2pkhId payload ∧ sc = [0x76, 0xa9, 0x14] ++ payload ++ [0x88, 0xac]) ∨
       (addr = encodeBase58CheckBytes net.p2shId payload ∧ sc = [0xa9, 0x14] ++ payload ++ [0x87]))) := by
  rcases decodeBytes_inv h with ⟨one, ver, prog, a1, _, _, a4, a5, a6⟩ | ⟨_, _, _, payload, id, b1, b2, b3⟩
  · left
    have hver : ver = 0 ∨ ver = 1 := by omega
    have hc := segwit_accepted_canonical a1 a4 hver
    rw [a5] at hc
    exact ⟨ver, prog, hver, hc, a6.imp_left fun ⟨hl, _, hs⟩ => ⟨hl, hs⟩⟩
  · right
    have hc := checkDecode_canonical b1
    refine ⟨payload, b2, ?_⟩
    rcases b3 with ⟨rfl, hs⟩ | ⟨rfl, hs⟩
    · exact Or.inl ⟨hc, hs⟩
    · exact Or.inr ⟨hc, hs⟩

/-- **decode_injective_on_types, the exact statement** (byte level): two accepted strings with the
    same script are equal (base58check), or equal up to ASCII case (bech32 / bech32m), or they are the
    version-0 and the version-1 encoding of the same 20-byte program (the btcutil quirk). -/
theorem decode_injective_partial_bytes {pk pk' : Bytes → Bool} {net : Net} {s1 s2 sc : Bytes}
    (h1 : decodeBytes pk net s1 = some sc) (h2 : decodeBytes pk' net s2 = some sc) :
    s1 = s2 ∨ lowerBytes s1 = lowerBytes s2 ∨
    (∃ p v1 v2, p.length = 20 ∧ sc = [0x00, 0x14] ++ p ∧ v1 ≠ v2 ∧
      lowerBytes s1 = encodeSegwitBytes net.hrp v1 p ∧ lowerBytes s2 = encodeSegwitBytes net.hrp v2 p) := by
  -- the script fixes the form of the address and, with it, the program or hash; the twenty mixed pairs
  -- of forms are excluded by an opcode in which the two scripts differ
  rcases accepted_canonical h1 with
    ⟨v1, p1, _, c1, ⟨e1, rfl⟩ | ⟨_, rfl, rfl⟩ | ⟨_, rfl, rfl⟩⟩ | ⟨q1, _, ⟨rfl, rfl⟩ | ⟨rfl, rfl⟩⟩ <;>
  rcases accepted_canonical h2 with
    ⟨v2, p2, _, c2, ⟨_, hs⟩ | ⟨_, rfl, hs⟩ | ⟨_, rfl, hs⟩⟩ | ⟨q2, _, ⟨rfl, hs⟩ | ⟨rfl, hs⟩⟩ <;>
  simp +decide only [List.cons_append, List.nil_append, List.cons.injEq, List.append_cancel_right_eq,
    false_and, and_false, true_and] at hs <;>
  subst hs
  · by_cases hv : v1 = v2
    · exact Or.inr (Or.inl (by rw [c1, c2, hv]))
    · exact Or.inr (Or.inr ⟨_, v1, v2, e1, rfl, hv, c1, c2⟩)
  · exact Or.inr (Or.inl (c1.trans c2.symm))
  · exact Or.inr (Or.inl (c1.trans c2.symm))
  · exact Or.inl rfl
  · exact Or.inl rfl

theorem utf8_injective {s1 s2 : String} (h : utf8 s1 = utf8 s2) : s1 = s2 := by
  unfold utf8 at h
  apply String.toByteArray_inj.mp
  apply ByteArray.ext
  rw [String.toUTF8_eq_toByteArray, String.toUTF8_eq_toByteArray] at h
  exact Array.toList_inj.mp h

/-! ### Injectivity -/

/-- `decode_injective_on_types` at full strength ("different accepted strings with the same script
    differ only by case") is FALSE, of the model and of the real function: the witness-version-1 and
    the witness-version-0 address of the same 20-byte program are both accepted on mainnet and give the
    same script (the first string was decoded by the real DecodeBtcAddress to this script). -/
theorem decode_not_injective_on_types :
    ∃ s1 s2 sc, decodeBtcAddress .mainnet s1 = some sc ∧ decodeBtcAddress .mainnet s2 = some sc ∧
      lowerBytes (utf8 s1) ≠ lowerBytes (utf8 s2) :=
  ⟨"bc1p79tajyyu2dh27wgxnwelexakq2fk693hrcjnk7", "bc1q79tajyyu2dh27wgxnwelexakq2fk693ha6457h",
   [0x00, 0x14, 0xf1, 0x57, 0xd9, 0x10, 0x9c, 0x53, 0x6e, 0xaf, 0x39, 0x06, 0x9b, 0xb3, 0xfc, 0x9b,
    0xb6, 0x02, 0x93, 0x6d, 0x16, 0x37], by decide +kernel, by decide +kernel, by decide +kernel⟩

/-- **decode_injective_on_types_partial**: the strongest true statement.  Two accepted strings with
    the same script are the same string (always so for base58check), or differ only by ASCII case
    (bech32: all-lower vs all-upper), or are the version-0 / version-1 encodings of one 20-byte
    program. -/
theorem decode_injective_on_types_partial {net : Net} {s1 s2 : String} {sc : Bytes}
    (h1 : decodeBtcAddress net s1 = some sc) (h2 : decodeBtcAddress net s2 = some sc) :
    s1 = s2 ∨ lowerBytes (utf8 s1) = lowerBytes (utf8 s2) ∨
    (∃ p v1 v2, p.length = 20 ∧ sc = [0x00, 0x14] ++ p ∧ v1 ≠ v2 ∧
      lowerBytes (utf8 s1) = encodeSegwitBytes net.hrp v1 p ∧
      lowerBytes (utf8 s2) = encodeSegwitBytes net.hrp v2 p) :=
  (decode_injective_partial_bytes h1 h2).imp_left utf8_injective

/-- Apart from the 20-byte quirk the decoder is injective up to case: for scripts that are not
    P2WPKH-shaped, equal scripts mean equal strings up to ASCII case. -/
theorem decode_injective_except_p2wpkh {net : Net} {s1 s2 : String} {sc : Bytes}
    (h1 : decodeBtcAddress net s1 = some sc) (h2 : decodeBtcAddress net s2 = some sc)
    (hsc : sc.take 2 ≠ [0x00, 0x14]) : lowerBytes (utf8 s1) = lowerBytes (utf8 s2) := by
  rcases decode_injective_on_types_partial h1 h2 with h | h | ⟨p, _, _, _, rfl, _⟩
  · rw [h]
  · exact h
  · exact absurd rfl hsc

/-! ### Foreign networks: summary, and the networks that share parameters -/

/-- **foreign_network_rejected**: for two of the four networks, (i) if their human-readable parts differ,
    every segwit address (any witness version and program) encoded for `net'` is rejected on `net`;
    (ii) if their P2PKH version bytes differ, every P2PKH and P2SH address of `net'` is rejected on
    `net`.  (The hypotheses fail exactly for the pairs that share parameters: testnet3/signet share
    both; regtest shares the version bytes 0x6f/0xc4 with them but not "bcrt".) -/
theorem foreign_network_rejected (net net' : Net) :
    (net'.hrp ≠ net.hrp → ∀ ver prog, decodeBtcAddress net (encodeSegwit net'.hrpStr ver prog) = none) ∧
    (net'.p2pkhId ≠ net.p2pkhId → ∀ h : Bytes, h.length = 20 →
      decodeBtcAddress net (encodeBase58Check net'.p2pkhId h) = none ∧
      decodeBtcAddress net (encodeBase58Check net'.p2shId h) = none) :=
  ⟨fun hne ver prog => foreign_network_rejected_segwit net net' hne ver prog,
   fun hne h hl => foreign_network_rejected_base58 net net' h hl hne⟩

/-- which pairs of networks are told apart by segwit addresses / by base58 addresses -/
theorem network_parameters_distinct :
    (∀ net net' : Net, net'.hrp ≠ net.hrp ↔
      ¬ (net = net' ∨ (net = .testnet3 ∧ net' = .signet) ∨ (net = .signet ∧ net' = .testnet3))) ∧
    (∀ net net' : Net, net'.p2pkhId ≠ net.p2pkhId ↔ ((net = .mainnet) ≠ (net' = .mainnet))) := by
  constructor <;> intro net net' <;> cases net <;> cases net' <;> decide

theorem isForNet_congr {net net' : Net} (h1 : net.hrp = net'.hrp) (h2 : net.p2pkhId = net'.p2pkhId)
    (h3 : net.p2shId = net'.p2shId) (a : Address) : a.isForNet net = a.isForNet net' := by
  cases a <;> simp [Address.isForNet, h1, h2, h3]

/-- the function depends on the network only through its three parameters -/
theorem decodeBytes_congr (pk : Bytes → Bool) {net net' : Net} (h1 : net.hrp = net'.hrp)
    (h2 : net.p2pkhId = net'.p2pkhId) (h3 : net.p2shId = net'.p2shId) (addr : Bytes) :
    decodeBytes pk net addr = decodeBytes pk net' addr := by
  unfold decodeBytes decodeAddress
  simp only [h2, h3, isForNet_congr h1 h2 h3]

/-- testnet3 and signet accept exactly the same strings with the same scripts: a signet address is
    NOT rejected on testnet3 and vice versa (same "tb", same version bytes). -/
theorem testnet3_signet_same (s : String) : decodeBtcAddress .testnet3 s = decodeBtcAddress .signet s :=
  decodeBytes_congr _ rfl rfl rfl _

/-- regtest, testnet3 and signet share the base58 version bytes: a regtest P2PKH / P2SH address is
    accepted on testnet3 (and so on) — base58check addresses do not tell these networks apart. -/
theorem regtest_legacy_accepted_on_testnet3 (h : Bytes) (hl : h.length = 20) :
    decodeBtcAddress .testnet3 (encodeBase58Check Net.regtest.p2pkhId h) =
      some ([0x76, 0xa9, 0x14] ++ h ++ [0x88, 0xac]) ∧
    decodeBtcAddress .testnet3 (encodeBase58Check Net.regtest.p2shId h) =
      some ([0xa9, 0x14] ++ h ++ [0x87]) :=
  ⟨roundtrip_p2pkh .testnet3 h hl, roundtrip_p2sh .testnet3 h hl⟩

/-- Every accepted string carries the parameters of `net` itself: it is (up to case) a segwit encoding
    under `net`'s human-readable part or a base58check encoding under one of `net`'s two version
    bytes.  (Corollary of `accepted_canonical`; the most general form of "foreign ⇒ rejected".) -/
theorem accepted_only_own_network {pk : Bytes → Bool} {net : Net} {addr sc : Bytes}
    (h : decodeBytes pk net addr = some sc) :
    (∃ ver prog, lowerBytes addr = encodeSegwitBytes net.hrp ver prog) ∨
    (∃ payload, addr = encodeBase58CheckBytes net.p2pkhId payload ∨
      addr = encodeBase58CheckBytes net.p2shId payload) := by
  rcases accepted_canonical h with ⟨ver, prog, _, hc, _⟩ | ⟨payload, _, hc⟩
  · exact Or.inl ⟨ver, prog, hc⟩
  · exact Or.inr ⟨payload, hc.imp And.left And.left⟩

/-! ### Non-vacuity: well-known addresses

  The bech32 / bech32m vectors are evaluated by the kernel (`decide +kernel`, no extra axiom).  The
  base58check vectors need SHA-256, whose model (GoatModel/Sha256.lean) uses `while` loops that the
  kernel cannot unfold, so they are checked by evaluation (`#guard`); the general theorems above do
  not depend on them. -/

private def hx (s : String) : Option Bytes := fromHex s

-- BIP-173 P2WPKH vector, lower and upper case; mixed case, wrong network, bad checksum are rejected
example : decodeBtcAddress .mainnet "bc1qw508d6qejxtdg4y5r3zarvary0c5xw7kv8f3t4"
    = hx "0014751e76e8199196d454941c45d1b3a323f1433bd6" := by decide +kernel
example : decodeBtcAddress .mainnet "BC1QW508D6QEJXTDG4Y5R3ZARVARY0C5XW7KV8F3T4"
    = hx "0014751e76e8199196d454941c45d1b3a323f1433bd6" := by decide +kernel
example : decodeBtcAddress .mainnet "bc1qw508d6qejxtdg4y5r3zarvary0c5xW7kv8f3t4" = none := by decide +kernel
example : decodeBtcAddress .mainnet "Bc1qw508d6qejxtdg4y5r3zarvary0c5xw7kv8f3t4" = none := by decide +kernel
example : decodeBtcAddress .mainnet "bc1qw508d6qejxtdg4y5r3zarvary0c5xw7kv8f3t5" = none := by decide +kernel
example : decodeBtcAddress .testnet3 "bc1qw508d6qejxtdg4y5r3zarvary0c5xw7kv8f3t4" = none := by decide +kernel
example : decodeBtcAddress .regtest "bc1qw508d6qejxtdg4y5r3zarvary0c5xw7kv8f3t4" = none := by decide +kernel
-- BIP-173 P2WSH testnet vector: accepted on testnet3 and signet (same "tb"), not elsewhere
example : decodeBtcAddress .testnet3 "tb1qrp33g0q5c5txsp9arysrx4k6zdkfs4nce4xj0gdcccefvpysxf3q0sl5k7"
    = hx "00201863143c14c5166804bd19203356da136c985678cd4d27a1b8c6329604903262" := by decide +kernel
example : decodeBtcAddress .signet "tb1qrp33g0q5c5txsp9arysrx4k6zdkfs4nce4xj0gdcccefvpysxf3q0sl5k7"
    = hx "00201863143c14c5166804bd19203356da136c985678cd4d27a1b8c6329604903262" := by decide +kernel
example : decodeBtcAddress .mainnet "tb1qrp33g0q5c5txsp9arysrx4k6zdkfs4nce4xj0gdcccefvpysxf3q0sl5k7"
    = none := by decide +kernel
example : decodeBtcAddress .regtest "tb1qrp33g0q5c5txsp9arysrx4k6zdkfs4nce4xj0gdcccefvpysxf3q0sl5k7"
    = none := by decide +kernel
-- BIP-350 P2TR mainnet vector
example : decodeBtcAddress .mainnet "bc1p0xlxvlhemja6c4dqv22uapctqupfhlxm9h8z3k2e72q4k9hcz7vqzk5jj0"
    = hx "512079be667ef9dcbbac55a06295ce870b07029bfcdb2dce28d959f2815b16f81798" := by decide +kernel
-- regtest addresses (produced by btcutil, decoded by the real function in the traces)
example : decodeBtcAddress .regtest "bcrt1qqccu35lv6pkghvqnjhs83qtah6gy3ttx9c0qky"
    = hx "00140631c8d3ecd06c8bb01395e078817dbe9048ad66" := by decide +kernel
example : decodeBtcAddress .regtest "bcrt1phhu565xljwmecp22ue4205hj6qpdcfy6a6q5asa538qjn0a2d4gqrungwn"
    = hx "5120bdf94d50df93b79c054ae66aa7d2f2d002dc249aee814ec3b489c129bfaa6d50" := by decide +kernel
example : decodeBtcAddress .mainnet "bcrt1qqccu35lv6pkghvqnjhs83qtah6gy3ttx9c0qky" = none := by decide +kernel
-- BIP-350 valid segwit addresses that btcutil does not support: v1 with 40 bytes, v16 with 2 bytes
example : decodeBtcAddress .mainnet
    "bc1pw508d6qejxtdg4y5r3zarvary0c5xw7kw508d6qejxtdg4y5r3zarvary0c5xw7kt5nd6y" = none := by
  decide +kernel
example : decodeBtcAddress .mainnet "BC1SW50QGDZ25J" = none := by decide +kernel
-- BIP-350 invalid: version 0 with a bech32m checksum, version 1 with a bech32 checksum
example : decodeBtcAddress .mainnet "bc1qw508d6qejxtdg4y5r3zarvary0c5xw7kemeawh" = none := by
  decide +kernel
example : decodeBtcAddress .mainnet "bc1p0xlxvlhemja6c4dqv22uapctqupfhlxm9h8z3k2e72q4k9hcz7vqh2y7hd"
    = none := by decide +kernel
-- the quirk, on the string the real DecodeBtcAddress was run on (mainnet, witness v1, 20 bytes):
example : decodeBtcAddress .mainnet "bc1p79tajyyu2dh27wgxnwelexakq2fk693hrcjnk7"
    = hx "0014f157d9109c536eaf39069bb3fc9bb602936d1637" := by decide +kernel
-- hex public keys (the secp256k1 generator, compressed and uncompressed): rejected either way
example : decodeBtcAddressWith (fun _ => true) .mainnet
    "0279be667ef9dcbbac55a06295ce870b07029bfcdb2dce28d959f2815b16f81798" = none := by decide +kernel
example : decodeBtcAddressWith (fun _ => false) .mainnet
    "0279be667ef9dcbbac55a06295ce870b07029bfcdb2dce28d959f2815b16f81798" = none := by decide +kernel
example : decodeBtcAddressWith (fun _ => true) .regtest
    "0479be667ef9dcbbac55a06295ce870b07029bfcdb2dce28d959f2815b16f81798483ada7726a3c4655da4fbfc0e1108a8fd17b448a68554199c47d08ffb10d4b8"
    = none := by decide +kernel
-- the encoders produce the well-known strings
example : encodeSegwit "bc" 0 ((hx "751e76e8199196d454941c45d1b3a323f1433bd6").getD [])
    = "bc1qw508d6qejxtdg4y5r3zarvary0c5xw7kv8f3t4" := by decide +kernel
example : encodeSegwit "bc" 1 ((hx "79be667ef9dcbbac55a06295ce870b07029bfcdb2dce28d959f2815b16f81798").getD [])
    = "bc1p0xlxvlhemja6c4dqv22uapctqupfhlxm9h8z3k2e72q4k9hcz7vqzk5jj0" := by decide +kernel

-- base58check (evaluated, SHA-256 involved)
#guard decodeBtcAddress .mainnet "1BvBMSEYstWetqTFn5Au4m4GFg7xJaNVN2"
    == hx "76a91477bff20c60e522dfaa3350c39b030a5d004e839a88ac"
#guard decodeBtcAddress .mainnet "3J98t1WpEZ73CNmQviecrnyiWrnqRhWNLy"
    == hx "a914b472a266d0bd89c13706a4132ccfb16f7c3b9fcb87"
#guard decodeBtcAddress .regtest "mfkwyMjVzW2wkBmePJr1zqRH5Ujf6ezrhf"
    == hx "76a91402a58dec6d41fbcc06ae214ea201006af864786a88ac"
#guard decodeBtcAddress .testnet3 "mfkwyMjVzW2wkBmePJr1zqRH5Ujf6ezrhf"
    == hx "76a91402a58dec6d41fbcc06ae214ea201006af864786a88ac"
#guard decodeBtcAddress .mainnet "mfkwyMjVzW2wkBmePJr1zqRH5Ujf6ezrhf" == none
#guard decodeBtcAddress .testnet3 "1BvBMSEYstWetqTFn5Au4m4GFg7xJaNVN2" == none
#guard decodeBtcAddress .signet "3J98t1WpEZ73CNmQviecrnyiWrnqRhWNLy" == none
#guard decodeBtcAddress .mainnet "1BvBMSEYstWetqTFn5Au4m4GFg7xJaNVN3" == none   -- checksum
#guard decodeBtcAddress .mainnet "1BvBMSEYstWetqTFn5Au4m4GFg7xJaNVN0" == none   -- '0' is not base58
#guard encodeBase58Check 0x00 ((hx "77bff20c60e522dfaa3350c39b030a5d004e839a").getD [])
    == "1BvBMSEYstWetqTFn5Au4m4GFg7xJaNVN2"
#guard encodeBase58Check 0x05 ((hx "b472a266d0bd89c13706a4132ccfb16f7c3b9fcb").getD [])
    == "3J98t1WpEZ73CNmQviecrnyiWrnqRhWNLy"

end Goat.C17A
