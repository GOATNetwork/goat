/-
  C14H — history-level theorems for C14 (downtime jails and slashes once; double-signing tombstones
  for good), over the locking model `GoatModel/Locking.lean`.

  Property C14 (verbatim): "An active validator absent for the configured number of blocks within a
  signing window is demoted, loses its voting power, is slashed by the downtime fraction exactly once
  for that offence and stays out until the jail time has passed and it again meets every token
  threshold. A validator with unexpired double-sign or light-client-attack evidence is slashed by the
  double-sign fraction and tombstoned permanently: it never regains voting power or validator-set
  membership, whatever is locked to it later. Validators that are not active are not counted for
  downtime, and evidence older than both age limits is ignored."

  Histories are lists of `C11H.Op` (processRequests, beginBlock, endBlocker, dequeue); `runS` is the
  state component of `C11H.run` (`Lemmas/LockingHist.lean`, `runS_eq_run`); a failing operation leaves
  the state unchanged.  `Tomb s a`: tombstoned, power 0, not ranked, not indexed; `Jailed s a J`: Downgrade,
  jailed until `J`, power 0, not ranked, not indexed.  Both are established by the offence from `Link` (the
  ranking / index entries of `a` are the ones its record accounts for — an invariant of the model,
  `Goat.Locking.reachable_linked`, and a consequence of `C18.Derived`, `link_of_derived`) and kept by every
  history (for `Jailed`: while the block times are ≤ `J`).
-/
import GoatProofs.Lemmas.LockingHist
import GoatProofs.Lemmas.LockingOps
import GoatProofs.C14
import GoatProofs.C18
namespace Goat.C14H
open Goat Goat.Locking
open Goat.C11H (Op)

/-! ## tombstoned for good -/

/-- **The invariant of a tombstoned validator**: it has a record with status Tombstoned and power 0,
    no ranking entry and no entry in the per-token locking index. -/
def Tomb (s : State) (a : Bytes) : Prop := ∃ v, OutRec s a v ∧ v.status = .tombstoned

theorem tomb_iff (s : State) (a : Bytes) :
    Tomb s a ↔ ∃ v, vget s a = some v ∧ v.status = .tombstoned ∧ v.power = 0 ∧
      (∀ p, (p, a) ∉ s.ranking) ∧ (∀ d x, ((d, a), x) ∉ s.lockingIdx) := by
  constructor
  · rintro ⟨v, ho, hs⟩
    exact ⟨v, ho.vrec, hs, ho.power, ho.unranked, ho.unindexed⟩
  · rintro ⟨v, h1, h2, h3, h4, h5⟩
    exact ⟨v, ⟨h1, by rw [h2]; decide, h3, h4, h5⟩, h2⟩

/-- the hypothesis `Link` of the establishing theorems is a consequence of `C18.Derived` (the relation
    between primary and derived data at committed states) for distinct validator addresses -/
theorem link_of_derived (s : State) (hd : C18.Derived s) (hn : (s.validators.map (·.1)).Nodup) (a : Bytes) (v : Validator)
    (hv : vget s a = some v) : Link s a v := by
  constructor
  · intro p hp
    obtain ⟨v', hm, _, hpw, _⟩ := (hd.rank_mem p a).mp hp
    cases hv.symm.trans (vget_of_mem hn hm)
    exact hpw.symm
  · intro d x hp
    obtain ⟨v', hm, _, hl⟩ := (hd.idx_mem d a x).mp hp
    cases hv.symm.trans (vget_of_mem hn hm)
    exact List.mem_map.mpr ⟨(d, x), hl, rfl⟩

/-- **handleEvidence establishes `Tomb`**: unexpired duplicate-vote / light-client-attack evidence
    against a validator that is not yet tombstoned slashes its holding by the double-sign fraction and
    leaves it `Tomb`; the recorded set is not touched by this step (the next EndBlocker removes it:
    `tombstone_leaves_valset`). -/
theorem evidence_establishes_tomb (s s' : State) (now height : Int) (maxAge : Option (Int × Int)) (e : Evidence)
    (v : Validator) (hk : e.kind = 1 ∨ e.kind = 2) (hfresh : isStale now height maxAge e = false)
    (hv : vget s e.address = some v) (hs : v.status ≠ .tombstoned) (hl : Link s e.address v)
    (hok : handleEvidence s now height maxAge e = .ok s') :
    Tomb s' e.address ∧ s'.valset = s.valset ∧
    ∃ v', vget s' e.address = some v' ∧
      v'.locking = (slashAll (rankRemove s v.power e.address) e.address v s.params.slashDoubleSign).2 := by
  obtain ⟨v', ho, h1, _, h3, h4, _⟩ := handleEvidence_establishes s s' now height maxAge e v hk hfresh hv hs hl hok
  exact ⟨⟨v', ho, h1⟩, h4, v', ho.vrec, h3⟩

/-- second evidence against a tombstoned validator: nothing happens (not slashed again) -/
theorem tomb_not_slashed_again (s : State) (a : Bytes) (h : Tomb s a) (now height : Int) (maxAge : Option (Int × Int))
    (e : Evidence) (he : e.address = a) : handleEvidence s now height maxAge e = .ok s := by
  obtain ⟨v, ho, hs⟩ := h
  exact C14.tombstoned_not_slashed_again s now height maxAge e v (he ▸ ho.vrec) hs

theorem noRejoin_of_tombstoned {v : Validator} (hs : v.status = .tombstoned) (ops : List Op) : NoRejoin v ops :=
  Or.inl (by rw [hs]; decide)

/-- **Tombstoning is permanent (one operation)**: whatever the operation — requests that create, lock
    to, unlock from or claim for the validator, weight changes, votes, further evidence, EndBlocker,
    hand-over — the validator is still `Tomb` afterwards, does not enter the recorded set, and a
    successful EndBlocker leaves it outside the recorded set. -/
theorem tombstone_step (s : State) (a : Bytes) (op : Op) (h : Tomb s a) :
    Tomb (step s op) a ∧ (a ∉ s.valset.map (·.1) → a ∉ (step s op).valset.map (·.1)) ∧
    (∀ s' ups, op = .endBlocker → endBlocker s = .ok (s', ups) → a ∉ (step s op).valset.map (·.1)) := by
  obtain ⟨v, ho, hs⟩ := h
  rcases step_out s op a v ho with h1 | ⟨now, _, h1⟩
  · obtain ⟨v', o, l, _, m1, m2⟩ := h1
    exact ⟨⟨v', o, l.tombstoned hs⟩, m1, m2⟩
  · have := h1.1; rw [hs] at this; cases this

/-- **Tombstoning is permanent (any history)**: from a state in which `a` is `Tomb`, after any finite
    history of operations `a` is still tombstoned with power 0, not ranked, not indexed — whatever is
    locked to it later — and if it was outside the recorded set it still is. -/
theorem tombstone_permanent (s : State) (a : Bytes) (ops : List Op) (h : Tomb s a) :
    Tomb (runS s ops) a ∧ (a ∉ s.valset.map (·.1) → a ∉ (runS s ops).valset.map (·.1)) := by
  obtain ⟨v, ho, hs⟩ := h
  obtain ⟨v', o, l, _, m⟩ := runS_out a ops s v ho (noRejoin_of_tombstoned hs ops)
  exact ⟨⟨v', o, l.tombstoned hs⟩, m⟩

theorem tombstone_permanent' (s : State) (a : Bytes) (ops : List Op) (h : Tomb s a) :
    ∃ v, vget (runS s ops) a = some v ∧ v.status = .tombstoned ∧ v.power = 0 ∧
      (∀ p, (p, a) ∉ (runS s ops).ranking) ∧ (∀ d x, ((d, a), x) ∉ (runS s ops).lockingIdx) :=
  (tomb_iff _ _).mp (tombstone_permanent s a ops h).1

/-- **Out of the recorded set after the next EndBlocker, forever**: once an EndBlocker has succeeded
    after the tombstoning, the validator is not in the recorded set at any later point. -/
theorem tombstone_leaves_valset (s : State) (a : Bytes) (xs ys : List Op) (h : Tomb s a) (s1 : State) (ups : List Update)
    (hend : endBlocker (runS s xs) = .ok (s1, ups)) :
    a ∉ (runS s (xs ++ .endBlocker :: ys)).valset.map (·.1) := by
  obtain ⟨v, ho, hs⟩ := h
  exact runS_out_valset a xs ys s v ho (noRejoin_of_tombstoned hs _) s1 ups hend

/-- the same when the EndBlocker is the very next operation -/
theorem tombstone_leaves_valset_next (s : State) (a : Bytes) (ys : List Op) (h : Tomb s a) (s1 : State) (ups : List Update)
    (hend : endBlocker s = .ok (s1, ups)) : a ∉ (runS s (.endBlocker :: ys)).valset.map (·.1) :=
  tombstone_leaves_valset s a [] ys h s1 ups hend

/-! ## jailed for downtime -/

theorem out_cases {st : Status} (h : 0 < outLevel st) : st = .downgrade ∨ st = .inactive ∨ st = .tombstoned := by
  cases st with
  | pending => cases h
  | active => cases h
  | downgrade => exact Or.inl rfl
  | inactive => exact Or.inr (Or.inl rfl)
  | tombstoned => exact Or.inr (Or.inr rfl)

/-- a validator demoted for downtime: Downgrade, jailed until `J`, power 0, not ranked, not indexed -/
def Jailed (s : State) (a : Bytes) (J : Int) : Prop := ∃ v, OutRec s a v ∧ v.status = .downgrade ∧ v.jailedUntil = J

/-- **The demoting vote record establishes `Jailed`** with `J = now + downtimeJail`; the holding is
    slashed by the downtime fraction in this very step. -/
theorem downtime_establishes_jailed (s s' : State) (now : Int) (vi : VoteInfo) (v : Validator)
    (hv : vget s vi.address = some v) (hs : v.status = .active) (hl : Link s vi.address v)
    (hdown : ((if vi.absent then v.missed + 1 else v.missed : Nat) : Int) ≥ s.params.maxMissed)
    (hok : handleVote s now vi = .ok s') :
    Jailed s' vi.address (now + s.params.downtimeJail) ∧ s'.valset = s.valset := by
  obtain ⟨v', ho, h1, h2, _, h4, _⟩ := handleVote_establishes s s' now vi v hv hs hl hdown hok
  exact ⟨⟨v', ho, h1, h2⟩, h4⟩

/-- **A jailed validator stays out while the block times are within its jail time.**  After any
    history all of whose block times are ≤ `J` the validator is neither Active nor Pending (it is
    Downgrade with the same jail time, or has become Inactive or Tombstoned), has power 0, is neither
    ranked nor indexed, and has not entered the recorded set. -/
theorem jailed_stays_out (s : State) (a : Bytes) (J : Int) (ops : List Op) (h : Jailed s a J)
    (ht : ∀ op ∈ ops, ∀ now, opTime op = some now → now ≤ J) :
    ∃ v', OutRec (runS s ops) a v' ∧ v'.jailedUntil = J ∧
      (v'.status = .downgrade ∨ v'.status = .inactive ∨ v'.status = .tombstoned) ∧
      (a ∉ s.valset.map (·.1) → a ∉ (runS s ops).valset.map (·.1)) := by
  obtain ⟨v, ho, _, hj⟩ := h
  obtain ⟨v', o, l, _, m⟩ := runS_out a ops s v ho (Or.inr (by rw [hj]; exact ht))
  exact ⟨v', o, l.jail.trans hj, out_cases o.out, m⟩

/-- … and it is out of the recorded set once an EndBlocker has succeeded -/
theorem jailed_leaves_valset (s : State) (a : Bytes) (J : Int) (xs ys : List Op) (h : Jailed s a J)
    (ht : ∀ op ∈ xs ++ .endBlocker :: ys, ∀ now, opTime op = some now → now ≤ J) (s1 : State) (ups : List Update)
    (hend : endBlocker (runS s xs) = .ok (s1, ups)) :
    a ∉ (runS s (xs ++ .endBlocker :: ys)).valset.map (·.1) := by
  obtain ⟨v, ho, _, hj⟩ := h
  exact runS_out_valset a xs ys s v ho (Or.inr (by rw [hj]; exact ht)) s1 ups hend

/-- **Back only after the jail time, with every threshold met.**  If a jailed validator is Active or
    Pending after an operation, that operation is a request batch with block time `now > J`, in which a
    `lockOne` for it made it Pending and found `isAllGTE holdings thresholds`. -/
theorem rejoin_only_after_jail (s : State) (a : Bytes) (J : Int) (op : Op) (h : Jailed s a J) (v' : Validator)
    (hv' : vget (step s op) a = some v') (hap : v'.status = .active ∨ v'.status = .pending) :
    ∃ now, opTime op = some now ∧ now > J ∧
      ∃ si coins sj vj, lockOne si now a coins = .ok sj ∧ vget sj a = some vj ∧ vj.status = .pending ∧
        isAllGTE vj.locking si.threshold = true := by
  obtain ⟨v, ho, _, hj⟩ := h
  rcases step_out s op a v ho with h1 | ⟨now, hn, h1⟩
  · obtain ⟨w, o, _⟩ := h1
    have := o.vrec
    rw [hv'] at this
    cases this
    rcases hap with hap | hap
    · exact absurd hap (out_ne_active o.out)
    · exact absurd hap (out_ne_pending o.out)
  · exact ⟨now, hn, hj ▸ h1.2.1, h1.2.2⟩

/-- **`lockOne` on a jailed validator, exactly**: the coins are credited in any case; it becomes
    Pending iff the block time is after the jail time and the new holding meets every token threshold;
    otherwise it stays Downgrade. -/
theorem lockOne_jailed_exact (s s' : State) (now : Int) (a : Bytes) (coins : Coins) (v : Validator)
    (hv : vget s a = some v) (hs : v.status = .downgrade) (hok : lockOne s now a coins = .ok s') :
    ∃ v', vget s' a = some v' ∧ v'.locking = addCoins v.locking coins ∧ v'.jailedUntil = v.jailedUntil ∧
      (v'.status = .pending ∨ v'.status = .downgrade) ∧
      (v'.status = .pending ↔ (now > v.jailedUntil ∧ isAllGTE (addCoins v.locking coins) s.threshold = true)) := by
  obtain ⟨w, hw, h⟩ := lockOne_ok hok
  rw [hv] at hw
  cases hw
  rw [hs] at h
  rcases h with ⟨h1 | h1, _⟩ | ⟨⟨_, hc⟩, pw, s₂, _, rfl⟩ | ⟨h1 | h1 | ⟨_, hc⟩, rfl⟩
  · cases h1
  · cases h1
  · exact ⟨_, vget_vset_same _ _ _, rfl, rfl, Or.inl rfl, fun _ => hc, fun _ => rfl⟩
  · cases h1
  · cases h1
  · exact ⟨_, vget_vset_same _ _ _, rfl, rfl, Or.inr rfl, fun h => (by cases h), fun h => absurd h hc⟩

/-! ## at the level of the entry point: BeginBlock -/

/-- **A block with fresh double-sign evidence tombstones for good.**  If `a` is not yet tombstoned and
    its ranking / index entries are the ones its record accounts for (`Link`; true at committed states:
    `link_of_derived`), then a successful BeginBlock carrying unexpired duplicate-vote or
    light-client-attack evidence against `a` ends with `a` in `Tomb` — whatever else the block contains
    (rewards, other votes and evidence, also a downtime demotion of `a` earlier in the same block). -/
theorem beginBlock_tombstones (s s' : State) (height now : Int) (votes : List VoteInfo) (maxAge : Option (Int × Int))
    (evs : List Evidence) (a : Bytes) (v : Validator) (hv : vget s a = some v) (hnt : v.status ≠ .tombstoned)
    (hl : Link s a v) (e : Evidence) (he : e ∈ evs) (hea : e.address = a) (hk : e.kind = 1 ∨ e.kind = 2)
    (hfresh : isStale now height maxAge e = false) (hok : beginBlock s height now votes maxAge evs = .ok s') :
    Tomb s' a := by
  have ok : LinkedOK (fun w => w.status ≠ .tombstoned) (fun w => w.status = .tombstoned) (now + s.params.downtimeJail) :=
    { cong := fun v w h1 _ h2 => h1 ▸ h2
      later := fun v w l _ h => l.tombstoned h
      down := fun v' h _ => Or.inl (by rw [h]; decide)
      tomb := fun v' h => h }
  obtain ⟨s1, s3, h1, h3, hok⟩ := beginBlock_ok hok
  obtain ⟨l3, _⟩ := beginBlock_votes_linked ok s s1 s3 height now votes a rfl (Or.inl ⟨v, hv, hnt, hl⟩) h1 h3
  obtain ⟨pre, post, rfl⟩ := List.append_of_mem he
  obtain ⟨s4, h4, hok⟩ := foldlM_append_ok _ pre (e :: post) s3 s' hok
  obtain ⟨s5, h5, h6⟩ := foldlM_cons_ok _ e post s4 s' hok
  have l4 := evidences_linked ok now height maxAge a pre s3 s4 l3 h4
  have t5 : Tomb s5 a := by
    subst hea
    rcases l4 with ⟨w, w1, w2, w3⟩ | ⟨w, w1, w2⟩
    · obtain ⟨v', o, e1, _⟩ := handleEvidence_establishes s4 s5 now height maxAge e w hk hfresh w1 w2 w3 h5
      exact ⟨v', o, e1⟩
    · obtain ⟨w', o, l, _⟩ := handleEvidence_out s4 s5 now height maxAge e e.address w w1 h5
      exact ⟨w', o, l.tombstoned w2⟩
  obtain ⟨w, ow, hw⟩ := t5
  obtain ⟨w', o, l, _⟩ := stays_foldlM a w s5 _
    (fun b x b' u ou hstep => handleEvidence_out b b' now height maxAge x a u ou hstep) post s5 s' (Stays.refl ow) h6
  exact ⟨w', o, l.tombstoned hw⟩

/-- **A block that demotes for downtime jails.**  If `a` is Active (entries as its record accounts for)
    before a successful BeginBlock and Downgrade after it, then it is `Jailed` until the block time plus
    the jail duration: power 0, not ranked, not indexed, slashed in this block. -/
theorem beginBlock_jails (s s' : State) (height now : Int) (votes : List VoteInfo) (maxAge : Option (Int × Int))
    (evs : List Evidence) (a : Bytes) (v v' : Validator) (hv : vget s a = some v) (hs : v.status = .active)
    (hl : Link s a v) (hok : beginBlock s height now votes maxAge evs = .ok s')
    (hv' : vget s' a = some v') (hd : v'.status = .downgrade) :
    Jailed s' a (now + s.params.downtimeJail) := by
  have ok : LinkedOK (fun w => w.status = .active)
      (fun w => w.status = .downgrade → w.jailedUntil = now + s.params.downtimeJail) (now + s.params.downtimeJail) :=
    { cong := fun v w h1 _ h2 => h1 ▸ h2
      down := fun v' _ h => Or.inr (fun _ => h)
      tomb := fun v' h h' => by rw [h] at h'; cases h'
      -- an out record that is Downgrade later was Downgrade, with the same jail time
      later := by
        intro v w l hout h hw
        rw [l.jail]
        apply h
        have hl := l.level
        rw [hw] at hl
        rcases out_cases hout with h1 | h1 | h1
        · exact h1
        · rw [h1] at hl
          exact absurd hl (by decide)
        · rw [h1] at hl
          exact absurd hl (by decide) }
  obtain ⟨s1, s3, h1, h3, hok⟩ := beginBlock_ok hok
  obtain ⟨l3, _⟩ := beginBlock_votes_linked ok s s1 s3 height now votes a rfl (Or.inl ⟨v, hv, hs, hl⟩) h1 h3
  rcases evidences_linked ok now height maxAge a evs s3 s' l3 hok with ⟨w, w1, w2, _⟩ | ⟨w, w1, w2⟩
  · rw [hv'] at w1; cases w1
    rw [hd] at w2; cases w2
  · have := w1.vrec
    rw [hv'] at this; cases this
    exact ⟨v', w1, hd, w2 hd⟩

/-! ## from genesis: no hypothesis on the state

  `Link` is an invariant of the model: `Goat.Locking.reachable_linked` (every writer keeps `LA`, given
  slash fractions ≤ 1 as `Params.Validate` demands).  So for every state reached from the empty state by
  any history the establishing theorems apply without hypothesis on the state. -/

/-- **Tombstoned for good, from genesis.**  Start from the empty state (slash fractions ≤ 1), run any
    history `ops1`; if the next BeginBlock succeeds and carries unexpired duplicate-vote or
    light-client-attack evidence against a validator that is not yet tombstoned, then after any further
    history `ops2` that validator is tombstoned with power 0, not ranked, not indexed. -/
theorem tombstoned_forever_from_genesis (p : Params) (hp : p.slashDowntime ≤ e18 ∧ p.slashDoubleSign ≤ e18)
    (ops1 : List Op) (height now : Int) (votes : List VoteInfo) (maxAge : Option (Int × Int)) (evs : List Evidence)
    (e : Evidence) (he : e ∈ evs) (hk : e.kind = 1 ∨ e.kind = 2) (hfresh : isStale now height maxAge e = false)
    (v : Validator) (hv : vget (runS (C11H.genesis p) ops1) e.address = some v) (hnt : v.status ≠ .tombstoned)
    (s' : State) (hok : beginBlock (runS (C11H.genesis p) ops1) height now votes maxAge evs = .ok s') (ops2 : List Op) :
    Tomb (runS s' ops2) e.address :=
  (tombstone_permanent s' e.address ops2
    (beginBlock_tombstones _ s' height now votes maxAge evs e.address v hv hnt (reachable_linked p hp ops1 e.address v hv).link
      e he rfl hk hfresh hok)).1

/-- … and it is out of the recorded set from the next successful EndBlocker on -/
theorem tombstoned_leaves_valset_from_genesis (p : Params) (hp : p.slashDowntime ≤ e18 ∧ p.slashDoubleSign ≤ e18)
    (ops1 : List Op) (height now : Int) (votes : List VoteInfo) (maxAge : Option (Int × Int)) (evs : List Evidence)
    (e : Evidence) (he : e ∈ evs) (hk : e.kind = 1 ∨ e.kind = 2) (hfresh : isStale now height maxAge e = false)
    (v : Validator) (hv : vget (runS (C11H.genesis p) ops1) e.address = some v) (hnt : v.status ≠ .tombstoned)
    (s' : State) (hok : beginBlock (runS (C11H.genesis p) ops1) height now votes maxAge evs = .ok s')
    (xs ys : List Op) (s1 : State) (ups : List Update) (hend : endBlocker (runS s' xs) = .ok (s1, ups)) :
    e.address ∉ (runS s' (xs ++ .endBlocker :: ys)).valset.map (·.1) :=
  tombstone_leaves_valset s' e.address xs ys
    (beginBlock_tombstones _ s' height now votes maxAge evs e.address v hv hnt (reachable_linked p hp ops1 e.address v hv).link
      e he rfl hk hfresh hok) s1 ups hend

/-- **Jailed, from genesis.**  In any state reached from the empty state, a BeginBlock that turns an
    Active validator into a Downgrade one leaves it `Jailed` until block time + jail duration; hence
    (`jailed_stays_out`) it stays out while block times are within the jail time. -/
theorem jailed_from_genesis (p : Params) (hp : p.slashDowntime ≤ e18 ∧ p.slashDoubleSign ≤ e18)
    (ops1 : List Op) (height now : Int) (votes : List VoteInfo) (maxAge : Option (Int × Int)) (evs : List Evidence)
    (a : Bytes) (v v' : Validator) (hv : vget (runS (C11H.genesis p) ops1) a = some v) (hs : v.status = .active)
    (s' : State) (hok : beginBlock (runS (C11H.genesis p) ops1) height now votes maxAge evs = .ok s')
    (hv' : vget s' a = some v') (hd : v'.status = .downgrade) :
    Jailed s' a (now + p.downtimeJail) := by
  have := beginBlock_jails _ s' height now votes maxAge evs a v v' hv hs (reachable_linked p hp ops1 a v hv).link hok hv' hd
  rw [runS_params] at this
  exact this

/-! ## slashed once per offence

  `handleVote` slashes (by the downtime fraction) exactly in the step in which it demotes an Active
  validator to Downgrade (`C14.downtime_exact`, `downtime_establishes_jailed`); a validator that is not
  Active is not counted and not slashed (`C14.non_active_not_counted`).  So "once per offence" is: every
  demotion is backed by `maxMissed` absences of its own.  Stated with a ghost counter: the number of
  absences reported for the validator since it last became Active (`crun`); the counter is reset when —
  and only when — EndBlocker (re-)activates the validator, which also resets both window counters
  (`activation_only_by_endBlocker`).  `slashed_once_per_offence`: whenever an operation demotes the
  validator, the ghost counter (including the absences of that operation) has reached `maxMissed`.
  Between two demotions there is an activation (the status has to come back to Active, only EndBlocker
  does that), hence the absences backing them are disjoint. -/

/-- the absences of `a` reported by an operation that went through -/
def absStep (a : Bytes) (s : State) : Op → Nat
  | .beginBlock height now votes maxAge evs =>
    match beginBlock s height now votes maxAge evs with
    | .ok _ => absCount a votes
    | _ => 0
  | _ => 0

/-- the record of `a` before and after one operation: it is Active afterwards only if it was Active,
    with at most the absences reported by the operation more on its counter, or if the operation is an
    EndBlocker that starts both window counters at zero; it is Downgrade afterwards only if it was, or
    if it was Active and a successful BeginBlock brought its counter to the maximum -/
structure StepRel (a : Bytes) (s : State) (op : Op) (v v' : Validator) : Prop where
  active : v'.status = .active →
    (v.status = .active ∧ v'.missed ≤ v.missed + absStep a s op) ∨ (op = .endBlocker ∧ v'.missed = 0 ∧ v'.offset = 0)
  downgrade : v'.status = .downgrade → v.status = .downgrade ∨
    ∃ height now votes maxAge evs s', op = .beginBlock height now votes maxAge evs ∧
      beginBlock s height now votes maxAge evs = .ok s' ∧ v.status = .active ∧
      s.params.maxMissed ≤ ((v.missed + absCount a votes : Nat) : Int)

theorem StepRel.refl (a : Bytes) (s : State) (op : Op) (v : Validator) : StepRel a s op v v :=
  ⟨fun h => Or.inl ⟨h, Nat.le_add_right _ _⟩, Or.inl⟩

/-- **Every operation, at the level of one record**: request batches keep counters and never
    activate / demote; BeginBlock moves the counters by at most the reported absences and demotes only
    when they reach the maximum; EndBlocker only lowers counters and activates with counters at zero. -/
theorem step_rel (s : State) (op : Op) (a : Bytes) (v : Validator) (hv : vget s a = some v) :
    ∃ v', vget (step s op) a = some v' ∧ StepRel a s op v v' := by
  rcases step_cases s op with h | ⟨hash160, hasAccount, height, now, r, accs, rfl, h⟩ |
    ⟨height, now, votes, maxAge, evs, rfl, h⟩ | ⟨ups, rfl, h⟩ | ⟨_, h⟩
  · exact ⟨v, by rw [h]; exact hv, StepRel.refl a s _ v⟩
  · obtain ⟨v', h1, q⟩ := processRequests_quiet hash160 hasAccount s _ height now r accs a h v hv
    refine ⟨v', h1, fun k => Or.inl ⟨q.active k, ?_⟩, fun k => Or.inl (q.downgrade k)⟩
    rw [q.missed]
    exact Nat.le_add_right _ _
  · obtain ⟨v', h1, q⟩ := beginBlock_rel s _ height now votes maxAge evs a h v hv
    refine ⟨v', h1, fun k => Or.inl ?_, fun k => (q.downgrade k).imp_right fun k' => ⟨height, now, votes, maxAge, evs, _, rfl, h, k'⟩⟩
    simp only [absStep, h]
    exact q.active k
  · obtain ⟨v', h1, q⟩ := endBlocker_rel s _ ups a h v hv
    refine ⟨v', h1, fun k => (q.active k).imp (fun k' => ⟨k', ?_⟩) (fun k' => ⟨rfl, k'⟩), fun k => Or.inl (q.downgrade k)⟩
    exact Nat.le_trans q.missed (Nat.le_add_right _ _)
  · exact ⟨v, by rw [h]; exact (dequeue_keep s a).vrec.trans hv, StepRel.refl a s _ v⟩

/-- **Only EndBlocker activates, and it resets the window counters**: if `a` is not Active before an
    operation and Active after it, the operation is EndBlocker and both counters are zero. -/
theorem activation_only_by_endBlocker (s : State) (op : Op) (a : Bytes) (v v' : Validator) (hv : vget s a = some v)
    (hs : v.status ≠ .active) (hv' : vget (step s op) a = some v') (hs' : v'.status = .active) :
    op = .endBlocker ∧ v'.missed = 0 ∧ v'.offset = 0 := by
  obtain ⟨w, hw, hr⟩ := step_rel s op a v hv
  rw [hv'] at hw
  cases hw
  exact (hr.active hs').resolve_left (fun h => hs h.1)

/-- **Only BeginBlock demotes, and only on `maxMissed` absences**: if `a` is not Downgrade before an
    operation and Downgrade after it, the operation is a successful BeginBlock, `a` was Active, and its
    missed-block counter plus the absences reported in this block reach the maximum. -/
theorem demotion_only_by_beginBlock (s : State) (op : Op) (a : Bytes) (v v' : Validator) (hv : vget s a = some v)
    (hs : v.status ≠ .downgrade) (hv' : vget (step s op) a = some v') (hs' : v'.status = .downgrade) :
    ∃ height now votes maxAge evs s', op = .beginBlock height now votes maxAge evs ∧
      beginBlock s height now votes maxAge evs = .ok s' ∧ v.status = .active ∧
      s.params.maxMissed ≤ ((v.missed + absCount a votes : Nat) : Int) := by
  obtain ⟨w, hw, hr⟩ := step_rel s op a v hv
  rw [hv'] at hw
  cases hw
  exact (hr.downgrade hs').resolve_left hs

def statusAt (s : State) (a : Bytes) : Option Status := (vget s a).map (·.status)

/-- state and ghost counter: the absences of `a` reported since it last became Active -/
def cstep (a : Bytes) (sn : State × Nat) (op : Op) : State × Nat :=
  (step sn.1 op,
   if statusAt sn.1 a ≠ some .active ∧ statusAt (step sn.1 op) a = some .active then 0
   else sn.2 + absStep a sn.1 op)

theorem cstep_snd {a : Bytes} {sn : State × Nat} {op : Op} {v v' : Validator} (hv : vget sn.1 a = some v)
    (hv' : vget (step sn.1 op) a = some v') :
    (cstep a sn op).2 = if v.status ≠ .active ∧ v'.status = .active then 0 else sn.2 + absStep a sn.1 op := by
  simp only [cstep, statusAt, hv, hv', Option.map_some, ne_eq, Option.some.injEq]

def crun (a : Bytes) (sn : State × Nat) (ops : List Op) : State × Nat := ops.foldl (cstep a) sn

theorem crun_fst (a : Bytes) (ops : List Op) : ∀ sn : State × Nat, (crun a sn ops).1 = runS sn.1 ops := by
  induction ops with
  | nil => intro sn; rfl
  | cons op ops ih => intro sn; exact ih (cstep a sn op)

/-- the validator exists and, while Active, its missed-block counter is at most the ghost counter -/
def Counted (a : Bytes) (sn : State × Nat) : Prop := ∃ v, vget sn.1 a = some v ∧ (v.status = .active → v.missed ≤ sn.2)

theorem counted_step (a : Bytes) (sn : State × Nat) (op : Op) (h : Counted a sn) : Counted a (cstep a sn op) := by
  obtain ⟨s, n⟩ := sn
  obtain ⟨v, hv, hc⟩ := h
  obtain ⟨v', hv', hr⟩ := step_rel s op a v hv
  refine ⟨v', hv', fun hs' => ?_⟩
  rw [cstep_snd hv hv']
  rcases hr.active hs' with ⟨hs, hm⟩ | ⟨_, h0, _⟩
  · rw [if_neg (fun k => k.1 hs)]
    exact Nat.le_trans hm (Nat.add_le_add_right (hc hs) _)
  · rw [h0]
    exact Nat.zero_le _

theorem counted_run (a : Bytes) (ops : List Op) : ∀ sn : State × Nat, Counted a sn → Counted a (crun a sn ops) := by
  induction ops with
  | nil => intro sn h; exact h
  | cons op ops ih => intro sn h; exact ih _ (counted_step a sn op h)

/-- **Slashed once per offence.**  Start anywhere with the ghost counter at least the validator's
    missed-block counter (e.g. right after its activation: both 0).  After any history, if the next
    operation demotes the validator (Active before, Downgrade after — the step in which `handleVote`
    slashes by the downtime fraction), then the absences reported for it since it last became Active,
    including those of this operation, have reached `maxMissed`. -/
theorem slashed_once_per_offence (a : Bytes) (sn0 : State × Nat) (ops : List Op) (h0 : Counted a sn0) (op : Op)
    (v v' : Validator) (hv : vget (crun a sn0 ops).1 a = some v) (hs : v.status = .active)
    (hv' : vget (step (crun a sn0 ops).1 op) a = some v') (hs' : v'.status = .downgrade) :
    (crun a sn0 ops).1.params.maxMissed ≤ (((crun a sn0 ops).2 + absStep a (crun a sn0 ops).1 op : Nat) : Int) := by
  obtain ⟨w, hw, hc⟩ := counted_run a ops sn0 h0
  rw [hv] at hw; cases hw
  have hm := hc hs
  obtain ⟨height, now, votes, maxAge, evs, s', rfl, hok, _, hle⟩ :=
    demotion_only_by_beginBlock _ op a v v' hv (by rw [hs]; decide) hv' hs'
  simp only [absStep, hok]
  exact Int.le_trans hle (Int.ofNat_le.mpr (Nat.add_le_add_right hm _))

/-- after the demotion the ghost counter is not reset until EndBlocker re-activates the validator with
    both window counters at zero: the next demotion needs `maxMissed` fresh absences -/
theorem reactivation_resets (a : Bytes) (sn : State × Nat) (op : Op) (v v' : Validator) (hv : vget sn.1 a = some v)
    (hs : v.status ≠ .active) (hv' : vget (step sn.1 op) a = some v') (hs' : v'.status = .active) :
    op = .endBlocker ∧ (cstep a sn op).2 = 0 ∧ v'.missed = 0 ∧ v'.offset = 0 := by
  obtain ⟨h1, h2, h3⟩ := activation_only_by_endBlocker sn.1 op a v v' hv hs hv' hs'
  refine ⟨h1, ?_, h2, h3⟩
  rw [cstep_snd hv hv']
  exact if_pos ⟨hs, hs'⟩

/-! ## non-vacuity: concrete histories -/

namespace Example
open Goat.C11H (genesis)

def params : Params :=
  { unlockDuration := 10, exitingDuration := 20, downtimeJail := 5, maxValidators := 10, signedBlocksWindow := 100,
    maxMissed := 2, slashDoubleSign := 50000000000000000, slashDowntime := 10000000000000000,
    halvingInterval := 1000, initialReward := 0 }

def e18i : Int := 1000000000000000000

/-- t=50: token "btc" (weight 1, threshold 500), validator `[1]` created with 1000 btc; EndBlocker
    makes it Active with power 1000 and records it -/
def setup : List Op :=
  [ .process id (fun _ => false) 1 50
      { gas := [0], weights := [("btc", 1)], thresholds := [("btc", 500 * e18i)],
        creates := [{ validator := [1], compressed := [1] }],
        locks := [{ validator := [1], token := "btc", amount := 1000 * e18i }] },
    .endBlocker ]

def s1 : State := runS (genesis params) setup

/-- a comparable summary of a state: per validator (status, power, holding) and (missed, offset,
    jailedUntil); ranking; recorded set; size of the locking index -/
structure Snap where
  recs : List (Nat × Nat × Coins)
  counters : List (Nat × Nat × Int)
  ranking : List (Nat × Bytes)
  valset : List (Bytes × Nat)
  idx : Nat
  deriving DecidableEq, Repr

def snap (s : State) : Snap :=
  { recs := s.validators.map (fun e : Bytes × Validator => (e.2.status.toNat, e.2.power, e.2.locking)),
    counters := s.validators.map (fun e : Bytes × Validator => (e.2.missed, e.2.offset, e.2.jailedUntil)),
    ranking := s.ranking, valset := s.valset, idx := s.lockingIdx.length }

example : snap s1 = ⟨[(1, 1000, [("btc", 1000 * e18i)])], [(0, 0, 0)], [(1000, [1])], [([1], 1000)], 1⟩ := by decide +kernel

/-- executable check of `OutRec` with a given status -/
def outB (s : State) (a : Bytes) (st : Status) : Bool :=
  match vget s a with
  | some v => v.status == st && v.power == 0 && s.ranking.all (fun e => e.2 != a) && s.lockingIdx.all (fun e => e.1.2 != a)
  | none => false

theorem outB_sound (s : State) (a : Bytes) (st : Status) (hst : 0 < outLevel st) (h : outB s a st = true) :
    ∃ v, OutRec s a v ∧ v.status = st := by
  unfold outB at h
  cases hv : vget s a with
  | none => rw [hv] at h; cases h
  | some v =>
    rw [hv] at h
    simp only [Bool.and_eq_true, beq_iff_eq, List.all_eq_true, bne_iff_ne, ne_eq] at h
    obtain ⟨⟨⟨h1, h2⟩, h3⟩, h4⟩ := h
    refine ⟨v, ⟨hv, by rw [h1]; exact hst, h2, ?_, ?_⟩, h1⟩
    · intro p hp; exact h3 (p, a) hp rfl
    · intro d x hp; exact h4 ((d, a), x) hp rfl

/-! ### tombstoning -/

/-- t=60: BeginBlock with duplicate-vote evidence against `[1]` -/
def tombOps : List Op := setup ++ [ .beginBlock 3 60 [] none [{ kind := 1, address := [1], height := 2, time := 55 }] ]

def s2 : State := runS (genesis params) tombOps

/-- after the evidence: Tombstoned (status 3), power 0, holding slashed by 5 %, un-ranked, un-indexed — but
    still in the recorded set until EndBlocker runs -/
example : snap s2 = ⟨[(3, 0, [("btc", 950 * e18i)])], [(0, 0, 0)], [], [([1], 1000)], 0⟩ := by decide +kernel

theorem s2_tomb : Tomb s2 [1] :=
  outB_sound s2 [1] Status.tombstoned (by decide : 0 < outLevel Status.tombstoned) (by decide +kernel)

/-- hence after *any* further history it is tombstoned with power 0, not ranked, not indexed -/
example (ops : List Op) : Tomb (runS s2 ops) [1] := (tombstone_permanent s2 [1] ops s2_tomb).1

/-- … and out of the recorded set from the next EndBlocker on (which succeeds here) -/
theorem s2_endBlocker_ok : ∃ s' ups, endBlocker s2 = .ok (s', ups) := by
  have hok : (endBlocker s2).isOk = true := by decide +kernel
  generalize endBlocker s2 = r at hok
  cases r with
  | ok p => exact ⟨p.1, p.2, rfl⟩
  | err e => cases hok
  | panic e => cases hok

example (ys : List Op) : [1] ∉ (runS s2 (.endBlocker :: ys)).valset.map (·.1) := by
  obtain ⟨s', ups, h⟩ := s2_endBlocker_ok
  exact tombstone_leaves_valset_next s2 [1] ys s2_tomb s' ups h

/-- e.g.: EndBlocker, then the token weight is tripled and 7000 btc are locked to `[1]`, EndBlocker again:
    the coins are credited, the validator stays Tombstoned with power 0, outside ranking and recorded set -/
def moreOps : List Op :=
  [ .endBlocker,
    .process id (fun _ => false) 4 70
      { gas := [0], weights := [("btc", 3)], locks := [{ validator := [1], token := "btc", amount := 7000 * e18i }] },
    .endBlocker ]

example : snap (runS s2 moreOps) = ⟨[(3, 0, [("btc", 7950 * e18i)])], [(0, 0, 0)], [], [], 0⟩ := by decide +kernel

/-- `Link` holds in `s1` (and the validator is Active there) -/
theorem s1_link (v : Validator) (hv : vget s1 [1] = some v) : Link s1 [1] v ∧ v.status = .active := by
  have h : s1.ranking = [(1000, [1])] ∧ s1.lockingIdx.map (·.1) = [("btc", [1])] ∧
      (vget s1 [1]).map (fun v => (v.power, v.locking.map (·.1), v.status)) = some (1000, ["btc"], .active) := by
    decide +kernel
  obtain ⟨hr, hi, hp⟩ := h
  rw [hv] at hp
  simp only [Option.map_some, Option.some.injEq, Prod.mk.injEq] at hp
  refine ⟨⟨fun p hp' => ?_, fun d x hp' => ?_⟩, hp.2.2⟩
  · rw [hr] at hp'
    rw [hp.1, (Prod.mk.inj (List.mem_singleton.mp hp')).1]
  · have : (d, [1]) ∈ s1.lockingIdx.map (·.1) := List.mem_map.mpr ⟨_, hp', rfl⟩
    rw [hi] at this
    rw [hp.2.1, (Prod.mk.inj (List.mem_singleton.mp this)).1]
    exact List.mem_singleton.mpr rfl

theorem s1_rec : ∃ v, vget s1 [1] = some v ∧ Link s1 [1] v ∧ v.status = .active := by
  cases hv : vget s1 [1] with
  | none => exact absurd hv (by decide +kernel)
  | some v => exact ⟨v, rfl, s1_link v hv⟩

/-- the establishing step on the example: `handleEvidence` in `s1` -/
example (s' : State) (h : handleEvidence s1 60 3 none { kind := 1, address := [1], height := 2, time := 55 } = .ok s') :
    Tomb s' [1] := by
  obtain ⟨v, hv, hl, hs⟩ := s1_rec
  exact (evidence_establishes_tomb s1 s' 60 3 none _ v (Or.inl rfl) rfl hv (by rw [hs]; decide) hl h).1

/-- … and the whole BeginBlock (`beginBlock_tombstones`) -/
example (s' : State)
    (h : beginBlock s1 3 60 [] none [{ kind := 1, address := [1], height := 2, time := 55 }] = .ok s') : Tomb s' [1] := by
  obtain ⟨v, hv, hl, hs⟩ := s1_rec
  exact beginBlock_tombstones s1 s' 3 60 [] none _ [1] v hv (by rw [hs]; decide) hl _ List.mem_cons_self rfl (Or.inl rfl) rfl h

/-- **`Link` is needed** (and what would happen in the Go code if the derived index ever disagreed with
    the holdings): with a stale index entry `("eth", [1])` the slash does not remove it, a later weight
    change of "eth" walks the index, gives the tombstoned validator power 5 and ranks it — and EndBlocker
    then fails (`status-in-ranking`). -/
def bad : State :=
  { s1 with tokens := s1.tokens ++ [("eth", { weight := 1, threshold := 0 })],
            lockingIdx := s1.lockingIdx ++ [(("eth", [1]), 5 * e18i)] }

def badOps : List Op :=
  [ .beginBlock 3 60 [] none [{ kind := 1, address := [1], height := 2, time := 55 }],
    .process id (fun _ => false) 4 70 { gas := [0], weights := [("eth", 2)] } ]

example : (snap (runS bad badOps)).recs = [(3, 5, [("btc", 950 * e18i)])] ∧ (snap (runS bad badOps)).ranking = [(5, [1])] ∧
    (endBlocker (runS bad badOps)).cls = "err:status-in-ranking" := by decide +kernel

/-! ### jailing, slashing once -/

/-- t=60 and t=70: `[1]` is reported absent twice (`maxMissed = 2`) -/
def jailOps : List Op :=
  setup ++ [ .beginBlock 3 60 [{ address := [1], power := 1000, absent := true }] none [],
             .beginBlock 4 70 [{ address := [1], power := 1000, absent := true }] none [] ]

def s3 : State := runS (genesis params) jailOps

/-- after the second absence: Downgrade (status 2), power 0, slashed by 1 %, jailed until 70 + 5 -/
example : snap s3 = ⟨[(2, 0, [("btc", 990 * e18i)])], [(2, 2, 75)], [], [([1], 1000)], 0⟩ := by decide +kernel

theorem s3_jailed : Jailed s3 [1] 75 := by
  have h : outB s3 [1] Status.downgrade = true ∧ (vget s3 [1]).map (·.jailedUntil) = some 75 := by decide +kernel
  obtain ⟨v, ho, hs⟩ := outB_sound s3 [1] Status.downgrade (by decide : 0 < outLevel Status.downgrade) h.1
  have hj := h.2
  rw [ho.vrec] at hj
  exact ⟨v, ho, hs, Option.some.inj hj⟩

def lockAt (t : Int) : List Op :=
  [ .endBlocker,
    .process id (fun _ => false) 5 t { gas := [0], locks := [{ validator := [1], token := "btc", amount := 10 * e18i }] } ]

/-- a lock at time 75 (not after the jail time) leaves it Downgrade — by the theorem … -/
example : ∃ v', OutRec (runS s3 (lockAt 75)) [1] v' ∧ v'.jailedUntil = 75 := by
  obtain ⟨v', h1, h2, _⟩ := jailed_stays_out s3 [1] 75 (lockAt 75) s3_jailed (by
    intro op hop now hn
    simp only [lockAt, List.mem_cons, List.mem_nil_iff, or_false] at hop
    rcases hop with rfl | rfl
    · cases hn
    · simp only [opTime, Option.some.injEq] at hn; omega)
  exact ⟨v', h1, h2⟩

/-- … and by evaluation; a lock at time 76 lets it back in (Pending, then Active with fresh counters) -/
example : snap (runS s3 (lockAt 75)) = ⟨[(2, 0, [("btc", 1000 * e18i)])], [(2, 2, 75)], [], [], 0⟩ := by decide +kernel

example : snap (runS s3 (lockAt 76 ++ [.endBlocker]))
    = ⟨[(1, 1000, [("btc", 1000 * e18i)])], [(0, 0, 75)], [(1000, [1])], [([1], 1000)], 1⟩ := by decide +kernel

/-- `slashed_once_per_offence` on the example: started at `s1` (just activated, counters 0) the ghost counter is 1 after the
    first absence, and the demoting BeginBlock brings it to `maxMissed = 2` -/
example : (crun [1] (s1, 0) [jailOps[2]]).2 = 1 ∧ (crun [1] (s1, 0) [jailOps[2], jailOps[3]]).2 = 2 := by decide +kernel

/-- the premises of `slashed_once_per_offence` on the example: Active before the second absence is
    processed, Downgrade after it -/
example : statusAt (crun [1] (s1, 0) [jailOps[2]]).1 [1] = some .active ∧
    statusAt (step (crun [1] (s1, 0) [jailOps[2]]).1 jailOps[3]) [1] = some .downgrade := by decide +kernel

theorem s1_counted : Counted [1] (s1, 0) := by
  have h : (vget s1 [1]).map (·.missed) = some 0 := by decide +kernel
  cases hv : vget s1 [1] with
  | none => rw [hv] at h; cases h
  | some v =>
    rw [hv] at h
    exact ⟨v, hv, fun _ => Nat.le_of_eq (Option.some.inj h)⟩

end Example

end Goat.C14H
