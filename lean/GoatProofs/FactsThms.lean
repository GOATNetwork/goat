/-
  Theorems over the facts regenerated from /repo's source on every run (GoatModel/Generated/Facts.lean,
  written by /verif/factgen).  They are re-decided against what the code says *now*.
-/
import GoatModel.Generated.Facts
import GoatModel.App
namespace Goat.FactsThms
open Goat.Facts

/-! ### C02: who can move the proposal sequence / randao -/

/-- the five voted bridge handlers -/
def votedHandlers : List String :=
  ["x/bitcoin/keeper.msgServer.NewBlockHashes", "x/bitcoin/keeper.msgServer.NewConsolidation", "x/bitcoin/keeper.msgServer.NewPubkey",
   "x/bitcoin/keeper.msgServer.ProcessWithdrawal", "x/bitcoin/keeper.msgServer.ReplaceWithdrawal"]

/-- `seqReach` (regenerated from the source) lists the entry points from which a write of the relayer keeper's
    Sequence / Randao item is statically reachable, through any chain of helpers and through the keeper interfaces —
    so extracting or inlining a helper does not change it.  The writes are reachable only from the five voted bridge
    handlers and from genesis. -/
theorem seq_writers_closed :
    seqReach.all (fun e => votedHandlers.contains e.1 || e.1 == "x/relayer/module.InitGenesis") = true := by decide +kernel

/-- … and from exactly these five (no voted handler lost its write) -/
theorem seq_callers_are_the_five_voted_handlers :
    votedHandlers.all (fun h => seqReach.any (fun e => e.1 == h)) = true ∧
    ((seqReach.map (·.1)).filter (fun n => n != "x/relayer/module.InitGenesis")).all (fun n => votedHandlers.contains n) = true := by decide +kernel

/-- each of the five reaches both the sequence and the randao write, and each of them starts with `VerifyProposal` -/
theorem voted_handlers_verify_and_consume :
    ["NewBlockHashes", "NewConsolidation", "NewPubkey", "ProcessWithdrawal", "ReplaceWithdrawal"].all (fun h =>
      seqReach.contains ("x/bitcoin/keeper.msgServer." ++ h, "Sequence.Set") &&
      seqReach.contains ("x/bitcoin/keeper.msgServer." ++ h, "Randao.Set") &&
      msgServerFirstChecks.contains ("bitcoin.msgServer." ++ h, "VerifyProposal")) = true := by decide +kernel

/-! ### C07: sources of non-determinism -/

/-- every `range` over a Go map in consensus-path code is on this allow-list; each entry is covered
    by an order-insensitivity argument (C07.endBlocker_removal_order_insensitive) -/
theorem map_ranges_allowlisted :
    mapRanges.all (fun e => e == ("x/locking/keeper.Keeper.EndBlocker", "map[string]uint64")) = true := by decide +kernel

/-- wall clock, randomness and goroutines are reachable only from where a proposal is built or checked (and from
    `app.New`, which dials the engine client at start-up): never from transaction execution, block hooks, genesis or
    request processing.  `nondetReach` attributes every use to the entry points it is reachable from, so renaming or
    splitting the helper that reads the clock does not change the fact. -/
theorem nondeterminism_confined :
    nondetReach.all (fun e =>
      ["app.New", "x/goat/keeper.Keeper.PrepareProposalHandler", "x/goat/keeper.Keeper.ProcessProposalHandler"].contains e.1) = true := by decide +kernel

/-- **how the application configures baseapp**: package app installs the ante handler and the two proposal handlers
    (wherever in the package: moving the three calls into a helper changes nothing here) and
    nothing else — no optimistic execution (which would run FinalizeBlock, with its engine notification, for proposals that
    are never decided), no pre-blocker, no other mempool, no further baseapp option.  The model's whole-application layer
    (Driver: ante → handler per transaction, hooks, `Finalized` once per finalised block) mirrors exactly this wiring. -/
theorem app_wiring_exact :
    (appWiring.all (fun e => ["baseapp.SetAnteHandler", "baseapp.SetPrepareProposal", "baseapp.SetProcessProposal"].contains e.2) &&
     ["baseapp.SetAnteHandler", "baseapp.SetPrepareProposal", "baseapp.SetProcessProposal"].all
       (fun n => (appWiring.map (·.2)).contains n)) = true := by decide +kernel

/-- **the order of the block hooks** the model's `a.blockstart` / `a.end` steps mirror: BeginBlock = locking only;
    EndBlock = relayer (election), goat (engine notification), locking (validator updates); no pre-blocker; genesis is
    imported in the order auth, relayer, bitcoin, locking, goat. -/
theorem module_order_exact :
    moduleOrder = [("BeginBlockers", "0:locking"),
                   ("EndBlockers", "0:relayer"), ("EndBlockers", "1:goat"), ("EndBlockers", "2:locking"),
                   ("InitGenesis", "0:auth"), ("InitGenesis", "1:relayer"), ("InitGenesis", "2:bitcoin"),
                   ("InitGenesis", "3:locking"), ("InitGenesis", "4:goat")] := by decide +kernel

/-! ### C08: the goroutines of the proposal handlers do not conflict -/

def conflicts (acc : List (String × String × String × String)) : List (String × String) :=
  (acc.filter (fun e => e.2.2.1 == "W")).filterMap (fun w =>
    if acc.any (fun o => o.1 == w.1 && o.2.1 != w.2.1 && o.2.2.2 == w.2.2.2) then some (w.1, w.2.2.2) else none)

/-- no object written by one goroutine of a proposal handler is read or written by its sibling
    (footprint model: captured variables and fields of the shared message, one call level deep) -/
theorem no_conflicting_access : conflicts goroutineAccess = [] := by decide +kernel

/-! ### C10: the message registry -/

theorem registry_known : registeredMsgsKnown = true := by decide +kernel

/-- every message type registered in the application outside the bridge / relayer namespaces, other
    than the execution-block message, is refused by the guard in all five execution modes, whatever
    the signer, memo and timeout -/
theorem registry_closed :
    (registeredMsgsC.filter (fun n => !App.isRelayerNs n && n != App.ethBlockMsg)).all (fun n =>
      [App.Mode.check, .recheck, .prepare, .process, .finalize].all (fun m =>
        [true, false].all (fun isProp =>
          !(App.guard m 0 1 0 1 [n] isProp).isOk))) = true := by decide +kernel

/-- the messages inside the two namespaces are exactly the ten known ones, each of whose handlers
    begins with a proposer check -/
theorem relayer_namespace_is_the_known_ten :
    (registeredMsgsC.filter App.isRelayerNs).length = 10 ∧ registeredMsgsC.length = registeredMsgs.length ∧
    (registeredMsgs.filter (fun n =>
      ["goat.bitcoin.v1.MsgApproveCancellation", "goat.bitcoin.v1.MsgFinalizeWithdrawal", "goat.bitcoin.v1.MsgNewBlockHashes",
       "goat.bitcoin.v1.MsgNewConsolidation", "goat.bitcoin.v1.MsgNewDeposits", "goat.bitcoin.v1.MsgNewPubkey",
       "goat.bitcoin.v1.MsgProcessWithdrawal", "goat.bitcoin.v1.MsgReplaceWithdrawal",
       "goat.relayer.v1.MsgAcceptProposerRequest", "goat.relayer.v1.MsgNewVoterRequest"].contains n)).length = 10 ∧
    msgServerFirstChecks.all (fun e => e.2 != "none") = true ∧ msgServerFirstChecks.length = 10 := by decide +kernel

/-- the guard sits right after context set-up and before every other decorator -/
theorem guard_is_second_decorator : anteDecorators[1]? = some "app.GoatGuardHandler" := by decide +kernel

end Goat.FactsThms
