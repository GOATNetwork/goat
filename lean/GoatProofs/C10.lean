/-
  C10 — only relayer-proposer bridge/relayer messages and the block message can run: the guard read as an
  iff, in the five modes in which a transaction is checked, proposed or executed.  In the modes `simulate`
  and `other` the guard does not look at the messages (`MsgOk … = True`).
-/
import GoatModel.App
import GoatProofs.FactsThms
import GoatProofs.Lemmas.Outcome
namespace Goat.C10
open Goat.App

/-- what the guard demands of one message in a given mode -/
def MsgOk (mode : Mode) (timeout height : Nat) (isProp : Bool) (name : Name) : Prop :=
  match mode with
  | .check | .recheck | .prepare => isRelayerNs name = true ∧ isProp = true
  | .process | .finalize => (name = ethBlockMsg ∧ timeout = height) ∨ (name ≠ ethBlockMsg ∧ isRelayerNs name = true ∧ isProp = true)
  | _ => True

theorem relayerTxOnly_ok (name : Name) (p : Bool) : relayerTxOnly name p = .ok () ↔ isRelayerNs name = true ∧ p = true := by
  unfold relayerTxOnly
  cases h1 : isRelayerNs name <;> cases p <;> simp

theorem guardStep_ok (mode : Mode) (timeout height : Nat) (isProp : Bool) (name : Name) :
    guardStep mode timeout height isProp name = .ok () ↔ MsgOk mode timeout height isProp name := by
  have heth : (if (name == ethBlockMsg) = true then (if timeout ≠ height then Outcome.err "ethblock-timeout" else .ok ())
      else relayerTxOnly name isProp) = .ok () ↔
      (name = ethBlockMsg ∧ timeout = height) ∨ (name ≠ ethBlockMsg ∧ isRelayerNs name = true ∧ isProp = true) := by
    by_cases he : name = ethBlockMsg
    · rw [if_pos (beq_iff_eq.mpr he), Outcome.guard_err_ok_iff, Decidable.not_not]
      exact ⟨fun h => Or.inl ⟨he, h.1⟩, fun h => h.elim (fun h => ⟨h.2, rfl⟩) (fun h => absurd he h.1)⟩
    · rw [if_neg (fun h => he (beq_iff_eq.mp h)), relayerTxOnly_ok]
      exact ⟨fun h => Or.inr ⟨he, h⟩, fun h => h.elim (fun h => absurd h.1 he) (fun h => h.2)⟩
  cases mode
  case process => exact heth
  case finalize => exact heth
  case check => exact relayerTxOnly_ok _ _
  case recheck => exact relayerTxOnly_ok _ _
  case prepare => exact relayerTxOnly_ok _ _
  -- `simulate`, `other`: `guardStep` answers `.ok ()` and `MsgOk` is `True`
  all_goals exact ⟨fun _ => trivial, fun _ => rfl⟩

/-- **The guard, exactly.**  A transaction passes the guard iff it has no memo, exactly one signer,
    an unexpired timeout height, and every message is a bridge/relayer message signed by the current
    relayer proposer — or, only inside a proposed or finalised block, the execution-block message with
    timeout height equal to that block's height.  In the modes `simulate` and `other` the demand on the
    messages is void (`MsgOk`): memo, signer and timeout are still tested, every message passes. -/
theorem guard_exact (mode : Mode) (memo signers timeout height : Nat) (msgs : List Name) (isProp : Bool) :
    guard mode memo signers timeout height msgs isProp = .ok () ↔
      memo = 0 ∧ signers = 1 ∧ (timeout = 0 ∨ height ≤ timeout) ∧ ∀ name ∈ msgs, MsgOk mode timeout height isProp name := by
  unfold App.guard
  simp only [Outcome.guard_err_ok_iff, foldlM_unit_ok, guardStep_ok]
  exact and_congr (by omega) (and_congr (by omega) (and_congr (by omega) Iff.rfl))

/-- the execution-block message never enters the mempool -/
theorem ethblock_never_in_mempool (mode : Mode) (hm : mode = .check ∨ mode = .recheck ∨ mode = .prepare)
    (memo signers timeout height : Nat) (msgs : List Name) (isProp : Bool) (h : ethBlockMsg ∈ msgs) :
    guard mode memo signers timeout height msgs isProp ≠ .ok () := by
  intro hok
  have := ((guard_exact mode memo signers timeout height msgs isProp).mp hok).2.2.2 ethBlockMsg h
  unfold MsgOk at this
  rcases hm with rfl | rfl | rfl <;> simp only at this <;> exact absurd this.1 (by decide)

/-- a message outside the two namespaces that is not the block message can never pass, in any of
    the five modes -/
theorem foreign_never_passes (mode : Mode) (hm : mode = .check ∨ mode = .recheck ∨ mode = .prepare ∨ mode = .process ∨ mode = .finalize)
    (memo signers timeout height : Nat) (msgs : List Name) (isProp : Bool) (name : Name) (hin : name ∈ msgs)
    (hns : isRelayerNs name = false) (hne : name ≠ ethBlockMsg) :
    guard mode memo signers timeout height msgs isProp ≠ .ok () := by
  intro hok
  have := ((guard_exact mode memo signers timeout height msgs isProp).mp hok).2.2.2 name hin
  unfold MsgOk at this
  rcases hm with rfl | rfl | rfl | rfl | rfl <;> simp only at this
  · rw [hns] at this; exact absurd this.1 (by decide)
  · rw [hns] at this; exact absurd this.1 (by decide)
  · rw [hns] at this; exact absurd this.1 (by decide)
  · rcases this with ⟨e, _⟩ | ⟨_, e, _⟩
    · exact hne e
    · rw [hns] at e; exact absurd e (by decide)
  · rcases this with ⟨e, _⟩ | ⟨_, e, _⟩
    · exact hne e
    · rw [hns] at e; exact absurd e (by decide)

/-- nothing registered outside the two namespaces (account / consensus-parameter administration included)
    passes; `Facts.registeredMsgs` is the application's interface registry, written out from the Go source
    on every run -/
theorem registry_closed :
    (Facts.registeredMsgsC.filter (fun n => !App.isRelayerNs n && n != App.ethBlockMsg)).all (fun n =>
      [App.Mode.check, .recheck, .prepare, .process, .finalize].all (fun m =>
        [true, false].all (fun isProp =>
          !(App.guard m 0 1 0 1 [n] isProp).isOk))) = true := FactsThms.registry_closed

end Goat.C10
