/-
  C15 — unlocked funds are released only after the unlock or exit delay, once.
-/
import GoatProofs.Lemmas.LockingOps
namespace Goat.C15
open Goat.Locking

/-- `Locking.unlockAmount_le`, as C15 cites it -/
theorem unlock_amount_bounded (held requested : Int) :
    unlockAmount held requested ≤ requested ∧ unlockAmount held requested ≤ held :=
  unlockAmount_le held requested

/-- the maturity is the request's block time plus the unlock period, or the exit period when exiting -/
theorem unlock_time_exact (p : Params) (now : Int) (exiting : Bool) :
    unlockTime p now exiting = now + (if exiting then p.exitingDuration else p.unlockDuration) := by
  cases exiting <;> rfl

/-- with validated parameters (`ExitingDuration ≥ UnlockDuration`) every unlock matures no earlier
    than the unlock period after its request -/
theorem unlock_time_lower_bound (p : Params) (now : Int) (exiting : Bool) (hp : p.unlockDuration ≤ p.exitingDuration) :
    now + p.unlockDuration ≤ unlockTime p now exiting := by
  cases exiting
  · exact Int.le_refl _
  · exact Int.add_le_add_left hp now

/-- with non-negative periods no unlock matures before its request -/
theorem le_unlockTime (p : Params) (now : Int) (exiting : Bool) (hp : 0 ≤ p.unlockDuration ∧ 0 ≤ p.exitingDuration) :
    now ≤ unlockTime p now exiting := by
  cases exiting
  · exact Int.le_add_of_nonneg_right hp.1
  · exact Int.le_add_of_nonneg_right hp.2

/-- **An unlock request is queued under exactly its maturity time, with the clipped amount.**
    `exiting` is exactly "inactive or tombstoned, or the holding after the unlock is below the token's
    threshold". -/
theorem unlock_queued_at_maturity (s s' : State) (now : Int) (r : UnlockReq) (hok : unlockOne s now r = .ok s') :
    ∃ v tok s3, vget s r.validator = some v ∧ tget s r.token = some tok ∧
      let held := amountOf v.locking r.token
      let amount := unlockAmount held r.amount
      let exiting := exitingOf v.status (held - amount) tok.threshold
      s' = enqueueUnlock s3 (unlockTime s.params now exiting)
            { id := r.id, token := r.tokenAddr, recipient := r.recipient, amount := amount } := by
  obtain ⟨s3, ex, amt, hc, rfl⟩ := unlockOne_ok hok
  obtain ⟨v, tok, hv, ht, rfl, _, rfl, _⟩ := unlockCore_ok hc
  exact ⟨v, tok, s3, hv, ht, rfl⟩

/-- the enqueue keeps every earlier entry and files the new unlock under its maturity -/
theorem enqueue_files_under_time (s : State) (t : Int) (u : Unlock) :
    ∃ us, (t, us) ∈ (enqueueUnlock s t u).unlockQueue ∧ u ∈ us := by
  unfold enqueueUnlock
  by_cases h : s.unlockQueue.any (·.1 == t) = true
  · simp only [h, if_true]
    obtain ⟨e, he, hk⟩ := List.any_eq_true.mp h
    refine ⟨e.2 ++ [u], ?_, by simp⟩
    rw [List.mem_map]
    exact ⟨e, he, by simp [hk]⟩
  · simp only [h, if_false, Bool.false_eq_true]
    exact ⟨[u], by simp, by simp⟩

/-- **Released no earlier than maturity**: the begin-block dequeue moves an unlock into the delivery
    queue only if its maturity key is not after the block time; everything else stays queued. -/
theorem mature_only (s : State) (now : Int) (u : Unlock) (h : u ∈ (dequeueMature s now).qUnlocks) :
    u ∈ s.qUnlocks ∨ ∃ t us, (t, us) ∈ s.unlockQueue ∧ t ≤ now ∧ u ∈ us :=
  (mem_dequeueMature_qUnlocks.mp h).imp_right fun ⟨e, he, hle, hu⟩ => ⟨e.1, e.2, he, hle, hu⟩

/-- what is not yet mature stays in the time queue -/
theorem immature_stay (s : State) (now : Int) (e : Int × List Unlock) (he : e ∈ s.unlockQueue) (hlt : now < e.1) :
    e ∈ (dequeueMature s now).unlockQueue :=
  mem_dequeueMature_unlockQueue.mpr ⟨he, hlt⟩

/-- **Released once**: a matured entry leaves the time queue in the very step that releases it -/
theorem mature_leave_queue (s : State) (now : Int) (e : Int × List Unlock) (he : e ∈ s.unlockQueue) (hle : e.1 ≤ now) :
    e ∉ (dequeueMature s now).unlockQueue ∧ ∀ u ∈ e.2, u ∈ (dequeueMature s now).qUnlocks :=
  ⟨fun h => Int.not_le.mpr (mem_dequeueMature_unlockQueue.mp h).2 hle,
   fun u hu => mem_dequeueMature_qUnlocks.mpr (Or.inr ⟨e, he, hle, hu⟩)⟩

/-- **Dropping below a threshold exits at once**: an unlock that leaves the holding below the token's
    threshold sets the power to 0, takes the validator out of the ranking and (unless tombstoned)
    makes it inactive; its remaining funds stay on record for later unlocks. -/
theorem below_threshold_exits (s : State) (r : UnlockReq) (v : Validator) (tok : Token) (s3 : State) (amount : Int)
    (hv : vget s r.validator = some v) (ht : tget (rankRemove s v.power r.validator) r.token = some tok)
    (hex : exitingOf v.status (amountOf v.locking r.token - unlockAmount (amountOf v.locking r.token) r.amount) tok.threshold = true)
    (hok : unlockCore s r = .ok (s3, true, amount)) :
    ∃ v', vget s3 r.validator = some v' ∧ v'.power = 0 ∧ (v.power, r.validator) ∉ s3.ranking ∧
      (v.status ≠ .tombstoned → v'.status = .inactive) ∧
      v'.locking = setAmount v.locking r.token (amountOf v.locking r.token - amount) := by
  obtain ⟨w, _, hw, _, _, _, _, h⟩ := unlockCore_ok hok
  rw [hv] at hw
  cases hw
  rcases h with ⟨_, rfl⟩ | ⟨h, _⟩ | ⟨h, _⟩
  · refine ⟨_, vget_vset_same _ _ _, rfl, ?_, fun hnt => ?_, rfl⟩
    · rw [vset_ranking, idxRemoves_ranking]
      exact rankRemove_not_mem s v.power r.validator
    · cases hst : v.status with
      | tombstoned => exact absurd hst hnt
      | _ => rfl
  · cases h
  · cases h

end Goat.C15
