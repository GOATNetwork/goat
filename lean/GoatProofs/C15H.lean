/-
  C15H — history-level theorems for C15 (unlocks are paid back after the unlock / exit period, once).

  Property C15 (verbatim): "An unlock is paid back no earlier than the unlock period after it was
  requested, or the longer exit period if the validator is exiting (already inactive or tombstoned, or
  dropping below a token's threshold), and is then released in maturity order exactly once. A validator
  that drops below a threshold leaves the candidate set immediately with zero power, and its remaining
  funds stay withdrawable through later unlocks."

  Histories are lists of `C11H.Op`; `grun` runs a history on a state together with a ghost log
  (`Ghost`): the block time of the latest operation (`clock`; `dequeue` carries no time of its own, it
  happens at the time of the block it is in), every unlock accepted by `unlockOne` with its request time,
  exiting flag and maturity key (`accepted`, computed by `unlockLog` from the very state in which
  `unlock` runs), and every unlock handed over by `dequeue` with the clock at that moment (`delivered`).
  `(grun sg ops).1 = runS sg.1 ops` (`grun_fst`).

  `GhostInv I`: what keeps a predicate `I` on state and log along every history with non-decreasing block
  times (`Mono`; `GhostInv.grun`).  `Inv P s g` links state and log (`inv_ghost`, `inv_grun`; `inv_empty`:
  holds when nothing is queued and nothing logged); with `FifoInv` it gives the order (`fifo_ghost`).
  `Example`: a concrete history on which all hypotheses hold; the freshness and time hypotheses are needed.
-/
import GoatProofs.Lemmas.LockingHist
import GoatProofs.Lemmas.LockingOps
import GoatProofs.C15
import GoatProofs.C18
namespace Goat.C15H
open Goat Goat.Locking
open Goat.C11H (Op)

/-! ## the ghost log -/

/-- an accepted unlock: the record that was queued, the block time of the request, whether the
    validator was exiting at that moment, and the maturity key it was filed under -/
structure Acc where
  u : Unlock
  t0 : Int
  exiting : Bool
  due : Int

/-- the record `unlockOne` queues for request `r` with released amount `amt` -/
def recOf (r : UnlockReq) (amt : Int) : Unlock :=
  { id := r.id, token := r.tokenAddr, recipient := r.recipient, amount := amt }

/-- the log of the unlocks accepted by `unlock s now reqs`, computed along the same fold -/
def unlockLog (s : State) (now : Int) : List UnlockReq → List Acc
  | [] => []
  | r :: rs =>
    match unlockCore s r with
    | .ok (s3, ex, amt) =>
      ⟨recOf r amt, now, ex, unlockTime s.params now ex⟩ ::
        unlockLog (enqueueUnlock s3 (unlockTime s.params now ex) (recOf r amt)) now rs
    | _ => []

/-- the state in which `unlock` runs inside `processRequests` -/
def preUnlock (hash160 : Bytes → Bytes) (hasAccount : Bytes → Bool) (s : State) (height now : Int) (r : Reqs) : Outcome State := do
  let s1 ← updateRewardPool s height r.gas r.grants
  let s2 ← updateTokens s1 r.weights r.thresholds
  let (s3, _) ← create hash160 hasAccount s2 r.creates
  lock s3 now r.locks

structure Ghost where
  clock : Int
  accepted : List Acc
  delivered : List (Unlock × Int)

/-- one operation on state and ghost log -/
def gstep (sg : State × Ghost) : Op → State × Ghost
  | .process hash160 hasAccount height now r =>
    match processRequests hash160 hasAccount sg.1 height now r, preUnlock hash160 hasAccount sg.1 height now r with
    | .ok (s', _), .ok s4 =>
      (s', { sg.2 with clock := now, accepted := sg.2.accepted ++ unlockLog s4 now r.unlocks })
    | _, _ => (step sg.1 (.process hash160 hasAccount height now r), { sg.2 with clock := now })
  | .beginBlock height now votes maxAge evs =>
    (step sg.1 (.beginBlock height now votes maxAge evs), { sg.2 with clock := now })
  | .endBlocker => (step sg.1 .endBlocker, sg.2)
  | .dequeue =>
    ((dequeue sg.1).1,
     { sg.2 with delivered := sg.2.delivered ++ (dequeue sg.1).2.2.1.map (fun u => (u, sg.2.clock)) })

def grun (sg : State × Ghost) (ops : List Op) : State × Ghost := ops.foldl gstep sg

@[simp] theorem grun_nil (sg : State × Ghost) : grun sg [] = sg := rfl
@[simp] theorem grun_cons (sg : State × Ghost) (op : Op) (ops : List Op) : grun sg (op :: ops) = grun (gstep sg op) ops := rfl

/-- **a request batch on state and log**: either it goes through, `unlock` running between two parts
    that leave the unlock queues alone, and its log is appended; or nothing but the clock moves -/
theorem gstep_process (sg : State × Ghost) (hash160 : Bytes → Bytes) (hasAccount : Bytes → Bool) (height now : Int) (r : Reqs) :
    (∃ s' s4 s5, step sg.1 (.process hash160 hasAccount height now r) = s' ∧ QFrame sg.1 s4 ∧
        unlock s4 now r.unlocks = .ok s5 ∧ QFrame s5 s' ∧
        gstep sg (.process hash160 hasAccount height now r) =
          (s', { sg.2 with clock := now, accepted := sg.2.accepted ++ unlockLog s4 now r.unlocks })) ∨
    (step sg.1 (.process hash160 hasAccount height now r) = sg.1 ∧
      gstep sg (.process hash160 hasAccount height now r) = (sg.1, { sg.2 with clock := now })) := by
  cases hp : processRequests hash160 hasAccount sg.1 height now r with
  | ok p =>
    obtain ⟨s', accs⟩ := p
    obtain ⟨s1, s2, s3, s4, s5, h1, h2, h3, h4, h5, h6⟩ := processRequests_ok hp
    have k1 : preUnlock hash160 hasAccount sg.1 height now r = .ok s4 :=
      (bind_eq_ok _ _ _).mpr ⟨s1, h1, (bind_eq_ok _ _ _).mpr ⟨s2, h2, (bind_eq_ok _ _ _).mpr ⟨(s3, accs), h3, h4⟩⟩⟩
    have k2 : QFrame sg.1 s4 :=
      (((updateRewardPool_qf _ s1 height r.gas r.grants h1).trans (updateTokens_qf s1 s2 _ _ h2)).trans
        (create_qf hash160 hasAccount s2 s3 _ accs h3)).trans (lock_qf s3 s4 now _ h4)
    exact Or.inl ⟨s', s4, s5, by simp only [step, hp], k2, h5, claim_qf s5 s' r.claims h6, by simp only [gstep, hp, k1]⟩
  | err e => exact Or.inr ⟨by simp only [step, hp], by simp only [gstep, step, hp]⟩
  | panic e => exact Or.inr ⟨by simp only [step, hp], by simp only [gstep, step, hp]⟩

theorem gstep_fst (sg : State × Ghost) (op : Op) : (gstep sg op).1 = step sg.1 op := by
  cases op with
  | process hash160 hasAccount height now r =>
    rcases gstep_process sg hash160 hasAccount height now r with ⟨s', _, _, h1, _, _, _, h2⟩ | ⟨h1, h2⟩
    · rw [h1, h2]
    · rw [h1, h2]
  | beginBlock height now votes maxAge evs => rfl
  | endBlocker => rfl
  | dequeue => rfl

theorem grun_fst (ops : List Op) : ∀ sg : State × Ghost, (grun sg ops).1 = runS sg.1 ops := by
  induction ops with
  | nil => intro sg; rfl
  | cons op ops ih => intro sg; rw [grun_cons, ih, gstep_fst, runS_cons]

theorem gstep_clock (sg : State × Ghost) (op : Op) : (gstep sg op).2.clock = (opTime op).getD sg.2.clock := by
  cases op with
  | process hash160 hasAccount height now r =>
    rcases gstep_process sg hash160 hasAccount height now r with ⟨_, _, _, _, _, _, _, h⟩ | ⟨_, h⟩
    · rw [h]; rfl
    · rw [h]; rfl
  | beginBlock height now votes maxAge evs => rfl
  | endBlocker => rfl
  | dequeue => rfl

/-- block times never decrease along the history (`c`: the time of the latest operation before it) -/
def Mono : Int → List Op → Prop
  | _, [] => True
  | c, op :: ops =>
    match opTime op with
    | some now => c ≤ now ∧ Mono now ops
    | none => Mono c ops

theorem Mono.cons {c : Int} {op : Op} {ops : List Op} (h : Mono c (op :: ops)) :
    c ≤ (opTime op).getD c ∧ Mono ((opTime op).getD c) ops := by
  unfold Mono at h
  cases ht : opTime op with
  | none => rw [ht] at h; exact ⟨Int.le_refl _, h⟩
  | some now => rw [ht] at h; exact h

/-! ## predicates on state and log kept along every history -/

/-- what keeps a predicate on state and log along every history with non-decreasing block times: it
    does not look at the state outside the unlock queues and the parameters, it survives the passing
    of time, and it is kept by the three steps that touch the queues or the log, each taken at the time
    of the clock -/
structure GhostInv (I : State → Ghost → Prop) : Prop where
  frame : ∀ {s t : State} {g : Ghost}, I s g → QFrame s t → I t g
  clock : ∀ {s : State} {g : Ghost} (c : Int), I s g → g.clock ≤ c → I s { g with clock := c }
  unlockOne : ∀ {s s3 : State} {g : Ghost} {r : UnlockReq} {ex : Bool} {amt : Int}, I s g →
    unlockCore s r = .ok (s3, ex, amt) →
    I (enqueueUnlock s3 (unlockTime s.params g.clock ex) (recOf r amt))
      { g with accepted := g.accepted ++ [⟨recOf r amt, g.clock, ex, unlockTime s.params g.clock ex⟩] }
  mature : ∀ {s : State} {g : Ghost}, I s g → I (dequeueMature s g.clock) g
  dequeue : ∀ {s : State} {g : Ghost}, I s g →
    I (dequeue s).1 { g with delivered := g.delivered ++ (dequeue s).2.2.1.map (fun u => (u, g.clock)) }

namespace GhostInv
variable {I : State → Ghost → Prop} (hI : GhostInv I)
include hI

/-- every request of a successful batch is accepted and logged -/
theorem unlock (reqs : List UnlockReq) : ∀ (s s' : State) (g : Ghost), I s g → Locking.unlock s g.clock reqs = .ok s' →
    I s' { g with accepted := g.accepted ++ unlockLog s g.clock reqs } := by
  induction reqs with
  | nil =>
    intro s s' g h hu
    cases foldlM_nil_ok _ _ _ hu
    rw [unlockLog, List.append_nil]
    exact h
  | cons r rs ih =>
    intro s s' g h hu
    obtain ⟨s1, h1, h2⟩ := foldlM_cons_ok _ r rs s s' hu
    obtain ⟨s3, ex, amt, hc, rfl⟩ := unlockOne_ok h1
    have := ih _ s' _ (hI.unlockOne h hc) h2
    simp only [unlockLog, hc]
    rwa [List.append_assoc] at this

theorem gstep (sg : State × Ghost) (op : Op) (h : I sg.1 sg.2) (hm : sg.2.clock ≤ (opTime op).getD sg.2.clock) :
    I (gstep sg op).1 (gstep sg op).2 := by
  obtain ⟨s, g⟩ := sg
  cases op with
  | process hash160 hasAccount height now r =>
    have i1 : I s { g with clock := now } := hI.clock now h hm
    rcases gstep_process (s, g) hash160 hasAccount height now r with ⟨s', s4, s5, _, k2, k3, k4, k⟩ | ⟨_, k⟩
    · rw [k]
      exact hI.frame (hI.unlock r.unlocks s4 s5 _ (hI.frame i1 k2) k3) k4
    · rw [k]
      exact i1
  | beginBlock height now votes maxAge evs =>
    have i1 : I s { g with clock := now } := hI.clock now h hm
    show I (step s (.beginBlock height now votes maxAge evs)) { g with clock := now }
    cases hb : beginBlock s height now votes maxAge evs with
    | ok s' =>
      simp only [step, hb]
      obtain ⟨s1, s3, h1, h3, h4⟩ := beginBlock_ok hb
      have i2 := hI.mature (hI.frame i1 (distributeReward_qf s s1 height votes h1))
      refine hI.frame (hI.frame i2 (handleVotes_qf _ s3 now votes h3)) ?_
      exact foldlM_inv (fun b => QFrame s3 b) _
        (fun b e b' hq hstep => hq.trans (handleEvidence_qf b b' now height maxAge e hstep)) evs s3 s' (QFrame.refl s3) h4
    | err e => simp only [step, hb]; exact i1
    | panic e => simp only [step, hb]; exact i1
  | endBlocker =>
    show I (step s .endBlocker) g
    cases hb : endBlocker s with
    | ok p => simp only [step, hb]; exact hI.frame h (endBlocker_qf s p.1 p.2 hb)
    | err e => simp only [step, hb]; exact h
    | panic e => simp only [step, hb]; exact h
  | dequeue => exact hI.dequeue h

theorem grun (ops : List Op) : ∀ (sg : State × Ghost), I sg.1 sg.2 → Mono sg.2.clock ops →
    I (grun sg ops).1 (grun sg ops).2 := by
  induction ops with
  | nil => intro sg h _; exact h
  | cons op ops ih =>
    intro sg h hm
    rw [grun_cons]
    refine ih _ (hI.gstep sg op h hm.cons.1) ?_
    rw [gstep_clock]
    exact hm.cons.2

end GhostInv

/-! ## the records of a time queue -/

/-- all unlock records of a time queue -/
def queued (q : List (Int × List Unlock)) : List Unlock := (q.map (·.2)).flatten

theorem queued_cons (e : Int × List Unlock) (q : List (Int × List Unlock)) : queued (e :: q) = e.2 ++ queued q := by
  simp [queued]

theorem queued_append (a b : List (Int × List Unlock)) : queued (a ++ b) = queued a ++ queued b := by
  simp [queued]

theorem queued_perm {a b : List (Int × List Unlock)} (h : a.Perm b) : (queued a).Perm (queued b) :=
  (h.map (fun e : Int × List Unlock => e.2)).flatten

theorem mem_queued {q : List (Int × List Unlock)} {u : Unlock} : u ∈ queued q ↔ ∃ e ∈ q, u ∈ e.2 := by
  simp only [queued, List.mem_flatten, List.mem_map]
  constructor
  · rintro ⟨l, ⟨e, he, rfl⟩, hu⟩; exact ⟨e, he, hu⟩
  · rintro ⟨e, he, hu⟩; exact ⟨e.2, ⟨e, he, rfl⟩, hu⟩

/-- with distinct time keys the enqueue adds exactly the one record -/
theorem queued_enq (q : List (Int × List Unlock)) (t : Int) (u : Unlock) (hn : (q.map (·.1)).Nodup) :
    (queued (enq q t u)).Perm (queued q ++ [u]) := by
  rw [enq_eq]
  by_cases ht : t ∈ q.map (·.1)
  · obtain ⟨e, he, rfl⟩ := List.mem_map.mp ht
    obtain ⟨q₁, q₂, rfl, h2⟩ := aupd_of_mem (· ++ [u]) [u] hn he
    rw [h2, queued_append, queued_append, queued_cons, queued_cons]
    simp only [List.append_assoc]
    exact List.Perm.append_left _ (List.Perm.append_left _ List.perm_append_comm)
  · rw [aupd_of_not_mem q t _ [u] ht, queued_append]
    simp [queued]

/-! ## the invariant linking state and ghost log -/

/-- where a log entry comes from: an `unlockCore` (hence `unlockOne`) that succeeded in a state with the
    parameters `P`, at block time `t0`, reporting the entry's exiting flag and amount; the maturity key
    is `unlockTime P t0 exiting` -/
def Origin (P : Params) (acc : Acc) : Prop :=
  acc.due = unlockTime P acc.t0 acc.exiting ∧
  ∃ si r s3, si.params = P ∧ unlockCore si r = .ok (s3, acc.exiting, acc.u.amount) ∧ acc.u = recOf r acc.u.amount ∧
    unlockOne si acc.t0 r = .ok (enqueueUnlock s3 acc.due acc.u)

structure Inv (P : Params) (s : State) (g : Ghost) : Prop where
  params : s.params = P
  /-- the time keys of the queue are distinct (it is a map) -/
  times : (s.unlockQueue.map (·.1)).Nodup
  /-- queued + matured + delivered records are exactly the accepted ones, with multiplicity -/
  perm : (queued s.unlockQueue ++ s.qUnlocks ++ g.delivered.map (·.1)).Perm (g.accepted.map (·.u))
  /-- a queued record sits under the maturity key of an accepted unlock -/
  queue : ∀ e ∈ s.unlockQueue, ∀ u ∈ e.2, ∃ acc ∈ g.accepted, acc.u = u ∧ acc.due = e.1
  /-- a matured record belongs to an accepted unlock whose maturity has passed -/
  matured : ∀ u ∈ s.qUnlocks, ∃ acc ∈ g.accepted, acc.u = u ∧ acc.due ≤ g.clock
  /-- a delivered record belongs to an accepted unlock whose maturity had passed at hand-over -/
  delivered : ∀ x ∈ g.delivered, ∃ acc ∈ g.accepted, acc.u = x.1 ∧ acc.due ≤ x.2
  origin : ∀ acc ∈ g.accepted, Origin P acc

theorem inv_frame {P : Params} {s t : State} {g : Ghost} (h : Inv P s g) (f : QFrame s t) : Inv P t g := by
  refine ⟨f.params.trans h.params, ?_, ?_, ?_, ?_, h.delivered, h.origin⟩
  · rw [f.unlockQueue]; exact h.times
  · rw [f.unlockQueue, f.qUnlocks]; exact h.perm
  · rw [f.unlockQueue]; exact h.queue
  · rw [f.qUnlocks]; exact h.matured

theorem inv_clock {P : Params} {s : State} {g : Ghost} (h : Inv P s g) (c : Int) (hc : g.clock ≤ c) :
    Inv P s { g with clock := c } := by
  refine ⟨h.params, h.times, h.perm, h.queue, ?_, h.delivered, h.origin⟩
  intro u hu
  obtain ⟨acc, ha, h1, h2⟩ := h.matured u hu
  exact ⟨acc, ha, h1, by dsimp only; omega⟩

/-- the queues after `unlockCore` and the enqueue, in terms of the queues before -/
theorem enqueue_after_core {s s3 : State} {r : UnlockReq} {ex : Bool} {amt : Int} (hc : unlockCore s r = .ok (s3, ex, amt))
    (t : Int) (u : Unlock) :
    (enqueueUnlock s3 t u).params = s.params ∧ (enqueueUnlock s3 t u).unlockQueue = enq s.unlockQueue t u ∧
      (enqueueUnlock s3 t u).qUnlocks = s.qUnlocks := by
  have f := unlockCore_qf s s3 r ex amt hc
  exact ⟨f.params, by rw [← f.unlockQueue]; rfl, f.qUnlocks⟩

/-- **one accepted unlock**: the record enters the time queue under its maturity key and the log -/
theorem inv_unlockOne {P : Params} {s s3 : State} {g : Ghost} {r : UnlockReq} {ex : Bool} {amt : Int} (h : Inv P s g)
    (hc : unlockCore s r = .ok (s3, ex, amt)) :
    Inv P (enqueueUnlock s3 (unlockTime s.params g.clock ex) (recOf r amt))
      { g with accepted := g.accepted ++ [⟨recOf r amt, g.clock, ex, unlockTime s.params g.clock ex⟩] } := by
  obtain ⟨hp, hq, hu⟩ := enqueue_after_core hc (unlockTime s.params g.clock ex) (recOf r amt)
  refine ⟨hp.trans h.params, ?_, ?_, ?_, ?_, ?_, ?_⟩
  · rw [hq]; exact enq_keys_nodup _ _ _ h.times
  · rw [hq, hu]
    dsimp only
    rw [List.map_append, List.map_singleton]
    -- (Q ++ [u]) ++ U ++ D ~ (Q ++ U ++ D) ++ [u]
    refine (((queued_enq _ _ _ h.times).append_right _).append_right _).trans (.trans ?_ (h.perm.append_right _))
    simp only [List.append_assoc]
    exact List.Perm.append_left _ (List.perm_append_comm.trans (.of_eq (List.append_assoc _ _ _)))
  · intro e he u hue
    rw [hq] at he
    rcases mem_enq _ _ _ e u he hue with ⟨h1, h2⟩ | ⟨e', he', hk, hx⟩
    · exact ⟨_, List.mem_append_right _ (List.mem_singleton.mpr rfl), h1.symm, h2.symm⟩
    · obtain ⟨acc, ha, h1, h2⟩ := h.queue e' he' u hx
      exact ⟨acc, List.mem_append_left _ ha, h1, h2.trans hk⟩
  · intro u hu'
    rw [hu] at hu'
    exact (h.matured u hu').imp fun acc k => ⟨List.mem_append_left _ k.1, k.2⟩
  · intro x hx
    exact (h.delivered x hx).imp fun acc k => ⟨List.mem_append_left _ k.1, k.2⟩
  · intro acc ha
    rcases List.mem_append.mp ha with ha | ha
    · exact h.origin acc ha
    · simp only [List.mem_singleton] at ha
      subst ha
      refine ⟨by dsimp only; rw [h.params], s, r, s3, h.params, hc, rfl, ?_⟩
      exact unlockOne_of_core g.clock hc

theorem ghost_accepted_append (g : Ghost) (a b : List Acc) :
    ({ ({ g with accepted := g.accepted ++ a } : Ghost) with accepted := (g.accepted ++ a) ++ b } : Ghost)
      = { g with accepted := g.accepted ++ (a ++ b) } := by
  simp [List.append_assoc]

/-- **maturing**: the due entries move to the matured queue -/
theorem inv_dequeueMature {P : Params} {s : State} {g : Ghost} (h : Inv P s g) : Inv P (dequeueMature s g.clock) g := by
  refine ⟨(congrArg State.params (dequeueMature_eq s g.clock)).trans h.params, dequeueMature_keys_nodup s g.clock h.times, ?_, ?_,
    ?_, h.delivered, h.origin⟩
  · rw [dequeueMature_unlockQueue, dequeueMature_qUnlocks]
    refine List.Perm.trans (List.Perm.append_right _ ?_) h.perm
    -- F2 ++ (U ++ due) ~ (F1 ++ F2) ++ U, where due ~ F1
    have hsplit := queued_perm (List.filter_append_perm (fun e : Int × List Unlock => decide (e.1 ≤ g.clock)) s.unlockQueue)
    rw [queued_append] at hsplit
    have hsort : (queued (dueUnlocks s g.clock)).Perm (queued (s.unlockQueue.filter (fun e => decide (e.1 ≤ g.clock)))) :=
      queued_perm (List.mergeSort_perm _ _)
    refine List.Perm.trans ?_ (hsplit.append_right _)
    refine List.Perm.trans (List.Perm.append_left _ ((List.Perm.append_left _ hsort).trans List.perm_append_comm)) ?_
    rw [← List.append_assoc]
    exact List.Perm.append_right _ List.perm_append_comm
  · intro e he
    exact h.queue e (mem_dequeueMature_unlockQueue.mp he).1
  · intro u hu
    rcases mem_dequeueMature_qUnlocks.mp hu with h1 | ⟨e, h1, h2, h3⟩
    · exact h.matured u h1
    · obtain ⟨acc, ha, h4, h5⟩ := h.queue e h1 u h3
      exact ⟨acc, ha, h4, h5 ▸ h2⟩

theorem delivered_fst (d : List (Unlock × Int)) (us : List Unlock) (c : Int) :
    (d ++ us.map (fun u => (u, c))).map (·.1) = d.map (·.1) ++ us := by
  rw [List.map_append, List.map_map]
  exact congrArg _ (List.map_id us)

/-- **hand-over**: the first (at most 16) matured records leave, logged with the clock -/
theorem inv_dequeue {P : Params} {s : State} {g : Ghost} (h : Inv P s g) :
    Inv P (dequeue s).1 { g with delivered := g.delivered ++ (dequeue s).2.2.1.map (fun u => (u, g.clock)) } := by
  rw [dequeue_eq]
  refine ⟨h.params, h.times, ?_, h.queue, ?_, ?_, h.origin⟩
  · dsimp only
    rw [delivered_fst]
    refine List.Perm.trans ?_ h.perm
    rw [List.append_assoc, List.append_assoc]
    refine List.Perm.append_left _ ?_
    -- drop ++ (D ++ take) ~ (take ++ drop) ++ D
    conv => rhs; rw [← List.take_append_drop 16 s.qUnlocks]
    refine List.Perm.trans List.perm_append_comm ?_
    rw [List.append_assoc]
    exact List.perm_append_comm
  · intro u hu
    exact h.matured u (List.mem_of_mem_drop hu)
  · intro x hx
    rcases List.mem_append.mp hx with hx | hx
    · exact h.delivered x hx
    · obtain ⟨u, hu, rfl⟩ := List.mem_map.mp hx
      exact h.matured u (List.mem_of_mem_take hu)

theorem inv_ghost (P : Params) : GhostInv (Inv P) :=
  ⟨inv_frame, fun c h hc => inv_clock h c hc, inv_unlockOne, inv_dequeueMature, inv_dequeue⟩

/-- **the invariant holds along every history with non-decreasing block times** -/
theorem inv_grun {P : Params} (ops : List Op) : ∀ (sg : State × Ghost), Inv P sg.1 sg.2 → Mono sg.2.clock ops →
    Inv P (grun sg ops).1 (grun sg ops).2 :=
  (inv_ghost P).grun ops

/-- nothing queued, nothing logged: the invariant of a fresh chain -/
theorem inv_empty (s : State) (c : Int) (hq : s.unlockQueue = []) (hu : s.qUnlocks = []) : Inv s.params s ⟨c, [], []⟩ := by
  refine ⟨rfl, by rw [hq]; exact List.nodup_nil, by rw [hq, hu]; exact List.Perm.refl _, ?_, ?_, ?_, ?_⟩
  · intro e he; rw [hq] at he; cases he
  · intro u hu'; rw [hu] at hu'; cases hu'
  · intro x hx; cases hx
  · intro a ha; cases ha

/-! ## released not before maturity -/

/-- **Released not before maturity.**  Along any history with non-decreasing block times, every unlock
    handed over by `dequeue` (at clock `t`) was accepted by an `unlockOne` at some block time `t0`
    (`Origin`: the very `unlockCore` / `unlockOne` call, in a state with the same parameters), and
    `t ≥ t0 + exitingDuration` if the validator was exiting at that moment (`exitingOf`: inactive or
    tombstoned, or its remaining holding below the token's threshold), `t ≥ t0 + unlockDuration`
    otherwise. -/
theorem released_not_before_maturity (P : Params) (sg : State × Ghost) (ops : List Op) (h : Inv P sg.1 sg.2)
    (hm : Mono sg.2.clock ops) (u : Unlock) (t : Int) (hd : (u, t) ∈ (grun sg ops).2.delivered) :
    ∃ acc ∈ (grun sg ops).2.accepted, acc.u = u ∧
      acc.t0 + (if acc.exiting then P.exitingDuration else P.unlockDuration) ≤ t ∧
      ∃ si r s3 v tok, si.params = P ∧ unlockOne si acc.t0 r = .ok (enqueueUnlock s3 acc.due acc.u) ∧
        u.id = r.id ∧ u.recipient = r.recipient ∧ u.token = r.tokenAddr ∧
        vget si r.validator = some v ∧ tget si r.token = some tok ∧
        u.amount = unlockAmount (amountOf v.locking r.token) r.amount ∧
        acc.exiting = exitingOf v.status (amountOf v.locking r.token - u.amount) tok.threshold := by
  have hi := inv_grun ops sg h hm
  obtain ⟨acc, ha, h1, h2⟩ := hi.delivered (u, t) hd
  cases h1
  obtain ⟨h3, si, r, s3, h4, h5, h6, h7⟩ := hi.origin acc ha
  obtain ⟨v, tok, h8, h9, h10, _, h11, _⟩ := unlockCore_ok h5
  refine ⟨acc, ha, rfl, ?_, si, r, s3, v, tok, h4, h7, congrArg Unlock.id h6, congrArg Unlock.recipient h6,
    congrArg Unlock.token h6, h8, h9, h10, h11⟩
  rw [← C15.unlock_time_exact, ← h3]
  exact h2

/-- with validated parameters (`unlockDuration ≤ exitingDuration`) every hand-over is at least the
    unlock period after the request -/
theorem released_after_unlock_period (P : Params) (hP : P.unlockDuration ≤ P.exitingDuration) (sg : State × Ghost)
    (ops : List Op) (h : Inv P sg.1 sg.2) (hm : Mono sg.2.clock ops) (u : Unlock) (t : Int)
    (hd : (u, t) ∈ (grun sg ops).2.delivered) :
    ∃ acc ∈ (grun sg ops).2.accepted, acc.u = u ∧ acc.t0 + P.unlockDuration ≤ t := by
  obtain ⟨acc, ha, h1, h2, _⟩ := released_not_before_maturity P sg ops h hm u t hd
  rw [← C15.unlock_time_exact] at h2
  exact ⟨acc, ha, h1, Int.le_trans (C15.unlock_time_lower_bound P acc.t0 acc.exiting hP) h2⟩

/-! ## released exactly once -/

/-- the ids of the unlock requests of a history, in order -/
def reqIds : List Op → List Nat
  | [] => []
  | .process _ _ _ _ r :: ops => r.unlocks.map (·.id) ++ reqIds ops
  | _ :: ops => reqIds ops

theorem unlockLog_ids (now : Int) (reqs : List UnlockReq) : ∀ s : State,
    ((unlockLog s now reqs).map (·.u.id)).Sublist (reqs.map (·.id)) := by
  induction reqs with
  | nil => intro s; exact List.Sublist.refl _
  | cons r rs ih =>
    intro s
    unfold unlockLog
    split
    · simp only [List.map_cons]
      exact (ih _).cons_cons _
    · exact List.nil_sublist _

theorem gstep_accepted_ids (sg : State × Ghost) (op : Op) :
    ∃ l, (gstep sg op).2.accepted = sg.2.accepted ++ l ∧ (l.map (·.u.id)).Sublist (reqIds [op]) := by
  cases op with
  | process hash160 hasAccount height now r =>
    rcases gstep_process sg hash160 hasAccount height now r with ⟨_, s4, _, _, _, _, _, h⟩ | ⟨_, h⟩
    · rw [h]
      refine ⟨unlockLog s4 now r.unlocks, rfl, ?_⟩
      rw [reqIds, reqIds, List.append_nil]
      exact unlockLog_ids now r.unlocks s4
    · rw [h]
      exact ⟨[], (List.append_nil _).symm, List.nil_sublist _⟩
  | beginBlock height now votes maxAge evs => exact ⟨[], (List.append_nil _).symm, List.nil_sublist _⟩
  | endBlocker => exact ⟨[], (List.append_nil _).symm, List.nil_sublist _⟩
  | dequeue => exact ⟨[], (List.append_nil _).symm, List.nil_sublist _⟩

theorem reqIds_cons (op : Op) (ops : List Op) : reqIds (op :: ops) = reqIds [op] ++ reqIds ops := by
  cases op <;> simp [reqIds]

/-- the accepted ids are request ids of the history (in order, each request at most once) -/
theorem grun_accepted_ids (ops : List Op) : ∀ sg : State × Ghost,
    ∃ l, (grun sg ops).2.accepted = sg.2.accepted ++ l ∧ (l.map (·.u.id)).Sublist (reqIds ops) := by
  induction ops with
  | nil => intro sg; exact ⟨[], (List.append_nil _).symm, List.nil_sublist _⟩
  | cons op ops ih =>
    intro sg
    obtain ⟨l1, e1, s1⟩ := gstep_accepted_ids sg op
    obtain ⟨l2, e2, s2⟩ := ih (gstep sg op)
    refine ⟨l1 ++ l2, ?_, ?_⟩
    · rw [grun_cons, e2, e1, List.append_assoc]
    · rw [List.map_append, reqIds_cons]
      exact s1.append s2

/-- **Fresh request ids make accepted ids distinct**: if the unlock request ids of the history are
    pairwise distinct and different from the ids already logged, the accepted ids are distinct. -/
theorem accepted_ids_nodup (sg : State × Ghost) (ops : List Op)
    (hfresh : (sg.2.accepted.map (·.u.id) ++ reqIds ops).Nodup) : ((grun sg ops).2.accepted.map (·.u.id)).Nodup := by
  obtain ⟨l, e, hs⟩ := grun_accepted_ids ops sg
  rw [e, List.map_append]
  exact List.Nodup.sublist ((List.Sublist.refl _).append hs) hfresh

/-- **Released exactly once.**  Along any history with non-decreasing block times:
    (1) *no invention, no loss, no duplication*: the records in the time queue, in the matured queue and
        the delivered ones are, with multiplicity, exactly the accepted ones;
    (2) under the environment hypothesis that unlock request ids are fresh (pairwise distinct, and
        distinct from the ids logged before the history), all those ids are pairwise distinct: every
        accepted unlock is delivered at most once, and a delivered one is no longer queued. -/
theorem released_exactly_once (P : Params) (sg : State × Ghost) (ops : List Op) (h : Inv P sg.1 sg.2)
    (hm : Mono sg.2.clock ops) :
    (queued (grun sg ops).1.unlockQueue ++ (grun sg ops).1.qUnlocks ++ (grun sg ops).2.delivered.map (·.1)).Perm
        ((grun sg ops).2.accepted.map (·.u)) ∧
    ((sg.2.accepted.map (·.u.id) ++ reqIds ops).Nodup →
      ((queued (grun sg ops).1.unlockQueue ++ (grun sg ops).1.qUnlocks ++ (grun sg ops).2.delivered.map (·.1)).map (·.id)).Nodup) := by
  have hi := inv_grun ops sg h hm
  refine ⟨hi.perm, ?_⟩
  intro hfresh
  have hn := accepted_ids_nodup sg ops hfresh
  have hp := (hi.perm.map (·.id)).symm
  rw [List.map_map] at hp
  exact hp.nodup hn

/-- consequences of (2), spelled out: a delivered id occurs once in the delivery log and nowhere in
    the queues -/
theorem delivered_once (P : Params) (sg : State × Ghost) (ops : List Op) (h : Inv P sg.1 sg.2)
    (hm : Mono sg.2.clock ops) (hfresh : (sg.2.accepted.map (·.u.id) ++ reqIds ops).Nodup) :
    ((grun sg ops).2.delivered.map (·.1.id)).Nodup ∧
    ∀ x ∈ (grun sg ops).2.delivered, (∀ u ∈ (grun sg ops).1.qUnlocks, u.id ≠ x.1.id) ∧
      (∀ e ∈ (grun sg ops).1.unlockQueue, ∀ u ∈ e.2, u.id ≠ x.1.id) := by
  have hn := (released_exactly_once P sg ops h hm).2 hfresh
  rw [List.map_append, List.map_append, List.nodup_append] at hn
  obtain ⟨hqu, hd, hdis⟩ := hn
  rw [List.map_map] at hd hdis
  refine ⟨hd, ?_⟩
  intro x hx
  have hxm : x.1.id ∈ List.map ((fun u : Unlock => u.id) ∘ fun x : Unlock × Int => x.1) (grun sg ops).2.delivered :=
    List.mem_map.mpr ⟨x, hx, rfl⟩
  constructor
  · intro u hu
    exact hdis u.id (List.mem_append_right _ (List.mem_map.mpr ⟨u, hu, rfl⟩)) x.1.id hxm
  · intro e he u hu
    exact hdis u.id (List.mem_append_left _ (List.mem_map.mpr ⟨u, mem_queued.mpr ⟨e, he, hu⟩, rfl⟩)) x.1.id hxm

/-! ## released in maturity order -/

/-- the matured records in the order they matured (delivered ones first, then the matured queue) are
    the records of `accs`, logged unlocks with non-decreasing maturity keys, all ≤ `m`; the keys still in
    the time queue are ≥ `m` -/
structure Fifo (P : Params) (s : State) (g : Ghost) (m : Int) (accs : List Acc) : Prop where
  params : s.params = P
  recs : accs.map (·.u) = g.delivered.map (·.1) ++ s.qUnlocks
  logged : ∀ a ∈ accs, a ∈ g.accepted
  sorted : accs.Pairwise (fun a b => a.due ≤ b.due)
  below : ∀ a ∈ accs, a.due ≤ m
  clock : m ≤ g.clock
  above : ∀ e ∈ s.unlockQueue, m ≤ e.1

def FifoInv (P : Params) (s : State) (g : Ghost) : Prop := ∃ m accs, Fifo P s g m accs

theorem fifo_frame {P : Params} {s t : State} {g : Ghost} (h : FifoInv P s g) (f : QFrame s t) : FifoInv P t g := by
  obtain ⟨m, accs, h⟩ := h
  refine ⟨m, accs, f.params.trans h.params, ?_, h.logged, h.sorted, h.below, h.clock, ?_⟩
  · rw [f.qUnlocks]; exact h.recs
  · rw [f.unlockQueue]; exact h.above

theorem fifo_clock {P : Params} {s : State} {g : Ghost} (h : FifoInv P s g) (c : Int) (hc : g.clock ≤ c) :
    FifoInv P s { g with clock := c } := by
  obtain ⟨m, accs, h⟩ := h
  exact ⟨m, accs, h.params, h.recs, h.logged, h.sorted, h.below, by have := h.clock; dsimp only; omega, h.above⟩

theorem fifo_unlockOne {P : Params} (hP : 0 ≤ P.unlockDuration ∧ 0 ≤ P.exitingDuration) {s s3 : State} {g : Ghost}
    {r : UnlockReq} {ex : Bool} {amt : Int} (h : FifoInv P s g) (hc : unlockCore s r = .ok (s3, ex, amt)) (l : List Acc) :
    FifoInv P (enqueueUnlock s3 (unlockTime s.params g.clock ex) (recOf r amt)) { g with accepted := g.accepted ++ l } := by
  obtain ⟨m, accs, h⟩ := h
  obtain ⟨hp, hq, hu⟩ := enqueue_after_core hc (unlockTime s.params g.clock ex) (recOf r amt)
  refine ⟨m, accs, hp.trans h.params, ?_, fun a ha => List.mem_append_left _ (h.logged a ha), h.sorted, h.below, h.clock, ?_⟩
  · rw [hu]; exact h.recs
  · intro e he
    rw [hq] at he
    rcases enq_key _ _ _ e he with h1 | hk
    · rw [h1, h.params]
      exact Int.le_trans h.clock (C15.le_unlockTime P g.clock ex hP)
    · obtain ⟨e', he', hk⟩ := List.mem_map.mp hk
      exact hk ▸ h.above e' he'

/-- logged unlocks for the records of one queue entry -/
theorem bucket_accs (A : List Acc) (k : Int) (us : List Unlock) (hu : ∀ u ∈ us, ∃ acc ∈ A, acc.u = u ∧ acc.due = k) :
    ∃ accs : List Acc, accs.map (·.u) = us ∧ ∀ a ∈ accs, a ∈ A ∧ a.due = k := by
  induction us with
  | nil => exact ⟨[], rfl, fun a ha => by cases ha⟩
  | cons u us ih =>
    obtain ⟨acc, ha, h1, h2⟩ := hu u List.mem_cons_self
    obtain ⟨r, r1, r2⟩ := ih (fun x hx => hu x (List.mem_cons_of_mem _ hx))
    exact ⟨acc :: r, by rw [List.map_cons, h1, r1], List.forall_mem_cons.mpr ⟨⟨ha, h2⟩, r2⟩⟩

/-- logged unlocks for the records of a list of queue entries sorted by key, in order -/
theorem batch_accs (A : List Acc) (l : List (Int × List Unlock))
    (hq : ∀ e ∈ l, ∀ u ∈ e.2, ∃ acc ∈ A, acc.u = u ∧ acc.due = e.1) (hs : l.Pairwise (fun a b => a.1 ≤ b.1)) :
    ∃ accs : List Acc, accs.map (·.u) = queued l ∧ (∀ a ∈ accs, a ∈ A ∧ ∃ e ∈ l, a.due = e.1) ∧
      accs.Pairwise (fun a b => a.due ≤ b.due) := by
  induction l with
  | nil => exact ⟨[], rfl, fun a ha => (by cases ha), List.Pairwise.nil⟩
  | cons e es ih =>
    rw [List.pairwise_cons] at hs
    obtain ⟨tl, t1, t2, t3⟩ := ih (fun e' he' => hq e' (List.mem_cons_of_mem _ he')) hs.2
    obtain ⟨hd, d1, d2⟩ := bucket_accs A e.1 e.2 (hq e List.mem_cons_self)
    refine ⟨hd ++ tl, by rw [List.map_append, d1, t1, queued_cons], fun a ha => ?_,
      List.pairwise_append.mpr ⟨?_, t3, fun a ha b hb => ?_⟩⟩
    · rcases List.mem_append.mp ha with h | h
      · exact ⟨(d2 a h).1, e, List.mem_cons_self, (d2 a h).2⟩
      · obtain ⟨h1, e', he', hk⟩ := t2 a h
        exact ⟨h1, e', List.mem_cons_of_mem _ he', hk⟩
    · exact List.pairwise_of_forall_mem_list fun a ha b hb => Int.le_of_eq ((d2 a ha).2.trans (d2 b hb).2.symm)
    · obtain ⟨_, e', he', hk⟩ := t2 b hb
      rw [(d2 a ha).2, hk]
      exact hs.1 e' he'

theorem fifo_dequeueMature {P : Params} {s : State} {g : Ghost} (hi : Inv P s g) (h : FifoInv P s g) :
    FifoInv P (dequeueMature s g.clock) g := by
  obtain ⟨m, accs, h⟩ := h
  have hsorted : (dueUnlocks s g.clock).Pairwise (fun a b => a.1 ≤ b.1) :=
    (C18.msort_int_sorted (fun e : Int × List Unlock => e.1) _).imp (fun hab => by simpa using hab)
  obtain ⟨batch, b1, b2, b3⟩ := batch_accs g.accepted (dueUnlocks s g.clock)
    (fun e he => hi.queue e (mem_dueUnlocks.mp he).1) hsorted
  have hm := h.clock
  refine ⟨g.clock, accs ++ batch, (congrArg State.params (dequeueMature_eq s g.clock)).trans h.params, ?_, ?_, ?_, ?_,
    Int.le_refl _, ?_⟩
  · rw [dequeueMature_qUnlocks, List.map_append, h.recs, b1, List.append_assoc]
    rfl
  · intro a ha
    exact (List.mem_append.mp ha).elim (h.logged a) (fun k => (b2 a k).1)
  · refine List.pairwise_append.mpr ⟨h.sorted, b3, fun a ha b hb => ?_⟩
    obtain ⟨_, e, he, hk⟩ := b2 b hb
    have h1 := h.below a ha
    have h2 := h.above e (mem_dueUnlocks.mp he).1
    omega
  · intro a ha
    rcases List.mem_append.mp ha with h1 | h1
    · have := h.below a h1
      omega
    · obtain ⟨_, e, he, hk⟩ := b2 a h1
      exact hk ▸ (mem_dueUnlocks.mp he).2
  · intro e he
    exact Int.le_of_lt (mem_dequeueMature_unlockQueue.mp he).2

theorem fifo_dequeue {P : Params} {s : State} {g : Ghost} (h : FifoInv P s g) :
    FifoInv P (dequeue s).1 { g with delivered := g.delivered ++ (dequeue s).2.2.1.map (fun u => (u, g.clock)) } := by
  obtain ⟨m, accs, h⟩ := h
  rw [dequeue_eq]
  refine ⟨m, accs, h.params, ?_, h.logged, h.sorted, h.below, h.clock, h.above⟩
  dsimp only
  rw [delivered_fst, List.append_assoc, List.take_append_drop]
  exact h.recs

theorem fifo_ghost (P : Params) (hP : 0 ≤ P.unlockDuration ∧ 0 ≤ P.exitingDuration) :
    GhostInv (fun s g => Inv P s g ∧ FifoInv P s g) where
  frame h f := ⟨inv_frame h.1 f, fifo_frame h.2 f⟩
  clock c h hc := ⟨inv_clock h.1 c hc, fifo_clock h.2 c hc⟩
  unlockOne h hc := ⟨inv_unlockOne h.1 hc, fifo_unlockOne hP h.2 hc _⟩
  mature h := ⟨inv_dequeueMature h.1, fifo_dequeueMature h.1 h.2⟩
  dequeue h := ⟨inv_dequeue h.1, fifo_dequeue h.2⟩

theorem fifo_empty (s : State) (c : Int) (hq : s.unlockQueue = []) (hu : s.qUnlocks = []) : FifoInv s.params s ⟨c, [], []⟩ := by
  refine ⟨c, [], rfl, by rw [hu]; rfl, (fun a ha => by cases ha), List.Pairwise.nil, (fun a ha => by cases ha), Int.le_refl _, ?_⟩
  intro e he; rw [hq] at he; cases he

/-- **Released in maturity order.**  With non-negative unlock and exit periods and non-decreasing block
    times, the sequence of records in the order they are handed over — the delivered ones followed by
    those waiting in the matured queue — is the sequence of records of logged unlocks whose maturity
    keys are non-decreasing: an unlock is never handed over before one with an earlier maturity.
    (Within one maturity key the model keeps the order of acceptance in the bucket.) -/
theorem released_in_maturity_order (P : Params) (hP : 0 ≤ P.unlockDuration ∧ 0 ≤ P.exitingDuration) (sg : State × Ghost)
    (ops : List Op) (hi : Inv P sg.1 sg.2) (hf : FifoInv P sg.1 sg.2) (hm : Mono sg.2.clock ops) :
    ∃ accs : List Acc, accs.map (·.u) = (grun sg ops).2.delivered.map (·.1) ++ (grun sg ops).1.qUnlocks ∧
      (∀ a ∈ accs, a ∈ (grun sg ops).2.accepted) ∧ accs.Pairwise (fun a b => a.due ≤ b.due) := by
  obtain ⟨_, m, accs, h⟩ := (fifo_ghost P hP).grun ops sg ⟨hi, hf⟩ hm
  exact ⟨accs, h.recs, h.logged, h.sorted⟩

/-! ## exit is immediate, the remaining funds stay withdrawable -/

/-- **Dropping below a threshold exits at once** (`C15.below_threshold_exits`, restated): power 0, out
    of the ranking, Inactive (unless tombstoned), the remaining holding stays on record. -/
theorem exit_is_immediate (s : State) (r : UnlockReq) (v : Validator) (tok : Token) (s3 : State) (amount : Int)
    (hv : vget s r.validator = some v) (ht : tget s r.token = some tok)
    (hex : exitingOf v.status (amountOf v.locking r.token - unlockAmount (amountOf v.locking r.token) r.amount) tok.threshold = true)
    (hok : unlockCore s r = .ok (s3, true, amount)) :
    ∃ v', vget s3 r.validator = some v' ∧ v'.power = 0 ∧ (v.power, r.validator) ∉ s3.ranking ∧
      (v.status ≠ .tombstoned → v'.status = .inactive) ∧
      v'.locking = setAmount v.locking r.token (amountOf v.locking r.token - amount) :=
  C15.below_threshold_exits s r v tok s3 amount hv ht hex hok

/-- **The remaining funds of an exited validator stay withdrawable, exactly.**  For an Inactive (or
    Tombstoned) validator, an unlock request for a known token succeeds whenever the clipped amount
    `min(holding, requested)` is not negative; it releases exactly that amount, reports "exiting" (so the
    exit period applies), leaves the status and power 0, and the holding drops by the released amount. -/
theorem exited_unlock_exact (s : State) (r : UnlockReq) (v : Validator) (tok : Token)
    (hv : vget s r.validator = some v) (hs : v.status = .inactive ∨ v.status = .tombstoned)
    (ht : tget s r.token = some tok) (hnn : 0 ≤ unlockAmount (amountOf v.locking r.token) r.amount) :
    ∃ s3, unlockCore s r = .ok (s3, true, unlockAmount (amountOf v.locking r.token) r.amount) ∧
      ∃ v', vget s3 r.validator = some v' ∧ v'.status = v.status ∧ v'.power = 0 ∧
        v'.locking = setAmount v.locking r.token
          (amountOf v.locking r.token - unlockAmount (amountOf v.locking r.token) r.amount) ∧
        s3.unlockQueue = s.unlockQueue ∧ s3.qUnlocks = s.qUnlocks := by
  have hex : ∀ x, exitingOf v.status x tok.threshold = true := by
    intro x
    rcases hs with h | h <;> simp [exitingOf, h]
  have hst : exitStatus v.status = v.status := by
    rcases hs with h | h <;> rw [h] <;> rfl
  have hc := unlockCore_exiting hv ht hnn (hex _)
  have f := unlockCore_qf s _ r _ _ hc
  exact ⟨_, hc, _, vget_vset_same _ _ _, hst, rfl, rfl, f.unlockQueue, f.qUnlocks⟩

/-- … and the released amount is then queued under `now + exitingDuration` -/
theorem exited_unlock_queued (s : State) (now : Int) (r : UnlockReq) (v : Validator) (tok : Token)
    (hv : vget s r.validator = some v) (hs : v.status = .inactive ∨ v.status = .tombstoned)
    (ht : tget s r.token = some tok) (hnn : 0 ≤ unlockAmount (amountOf v.locking r.token) r.amount) :
    ∃ s', unlockOne s now r = .ok s' ∧
      ∃ us, (now + s.params.exitingDuration, us) ∈ s'.unlockQueue ∧
        recOf r (unlockAmount (amountOf v.locking r.token) r.amount) ∈ us := by
  obtain ⟨s3, hc, _⟩ := exited_unlock_exact s r v tok hv hs ht hnn
  exact ⟨_, unlockOne_of_core now hc, C15.enqueue_files_under_time s3 (unlockTime s.params now true) _⟩

/-- the clipped amount is not negative when neither the request nor the holding is -/
theorem unlockAmount_nonneg (held requested : Int) (h1 : 0 ≤ held) (h2 : 0 ≤ requested) : 0 ≤ unlockAmount held requested := by
  unfold unlockAmount; split <;> omega

/-- **… at any later point**: an Inactive validator that is out (power 0, not ranked, not indexed) is
    still Inactive or Tombstoned after any history, so `exited_unlock_exact` applies to it then. -/
theorem exited_stays_withdrawable (s : State) (a : Bytes) (v : Validator) (ho : OutRec s a v) (hs : v.status = .inactive)
    (ops : List Op) :
    ∃ v', vget (runS s ops) a = some v' ∧ (v'.status = .inactive ∨ v'.status = .tombstoned) := by
  obtain ⟨v', o, l, _⟩ := runS_out a ops s v ho (Or.inl (by rw [hs]; decide))
  exact ⟨v', o.vrec, l.inactive hs⟩

/-! ## non-vacuity: a concrete history -/

namespace Example
open Goat.C11H (genesis)

def params : Params :=
  { unlockDuration := 10, exitingDuration := 20, downtimeJail := 5, maxValidators := 10, signedBlocksWindow := 100,
    maxMissed := 50, slashDoubleSign := 50000000000000000, slashDowntime := 10000000000000000,
    halvingInterval := 1000, initialReward := 0 }

/-- t=50: token "btc" (threshold 500), validator `[1]` created, 1000 btc locked;
    t=60: unlock #7 of 300 (700 left ≥ 500: not exiting, matures at 70);
    t=65: unlock #8 of 300 (400 left < 500: exiting, the validator becomes Inactive, matures at 85);
    t=75: begin block (#7 matures), hand-over; unlock #9 of 5000 by the now Inactive validator (clipped to
          the 400 it holds, exiting, matures at 95);
    t=90: begin block (#8 matures), hand-over; t=100: begin block (#9 matures), hand-over -/
def ops : List Op :=
  [ .process id (fun _ => false) 1 50
      { gas := [0], weights := [("btc", 1)], thresholds := [("btc", 500)],
        creates := [{ validator := [1], compressed := [1] }],
        locks := [{ validator := [1], token := "btc", amount := 1000 }] },
    .process id (fun _ => false) 2 60
      { gas := [0], unlocks := [{ id := 7, validator := [1], recipient := [9], token := "btc", tokenAddr := [], amount := 300 }] },
    .process id (fun _ => false) 3 65
      { gas := [0], unlocks := [{ id := 8, validator := [1], recipient := [9], token := "btc", tokenAddr := [], amount := 300 }] },
    .beginBlock 4 75 [] none [],
    .dequeue,
    .process id (fun _ => false) 4 75
      { gas := [0], unlocks := [{ id := 9, validator := [1], recipient := [9], token := "btc", tokenAddr := [], amount := 5000 }] },
    .beginBlock 5 90 [] none [],
    .dequeue,
    .beginBlock 6 100 [] none [],
    .dequeue ]

def start : State × Ghost := (genesis params, ⟨0, [], []⟩)
def final : State × Ghost := grun start ops

/-- the history runs through: three unlocks accepted (id, amount, request time, exiting, maturity) and
    all three handed over (id, amount, time), each at the first block time ≥ its maturity -/
theorem final_log :
    final.2.accepted.map (fun a => (a.u.id, a.u.amount, a.t0, a.exiting, a.due))
      = [(7, 300, 60, false, 70), (8, 300, 65, true, 85), (9, 400, 75, true, 95)] ∧
    final.2.delivered.map (fun x => (x.1.id, x.1.amount, x.2)) = [(7, 300, 75), (8, 300, 90), (9, 400, 100)] ∧
    final.1.qUnlocks.length = 0 ∧ final.1.unlockQueue.length = 0 := by decide +kernel

theorem start_inv : Inv params start.1 start.2 := inv_empty (genesis params) 0 rfl rfl
theorem start_fifo : FifoInv params start.1 start.2 := fifo_empty (genesis params) 0 rfl rfl
theorem ops_mono : Mono start.2.clock ops := by
  simp only [ops, Mono, opTime, start]
  decide

theorem ops_fresh : (start.2.accepted.map (·.u.id) ++ reqIds ops).Nodup := by decide

/-- the hypotheses of the theorems hold for this history: `released_after_unlock_period`,
    `released_exactly_once` and `released_in_maturity_order` apply to it -/
example (u : Unlock) (t : Int) (hd : (u, t) ∈ final.2.delivered) :
    ∃ acc ∈ final.2.accepted, acc.u = u ∧ acc.t0 + params.unlockDuration ≤ t :=
  released_after_unlock_period params (by decide) start ops start_inv ops_mono u t hd

example : ((queued final.1.unlockQueue ++ final.1.qUnlocks ++ final.2.delivered.map (·.1)).map (·.id)).Nodup :=
  (released_exactly_once params start ops start_inv ops_mono).2 ops_fresh

example : ∃ accs : List Acc, accs.map (·.u) = final.2.delivered.map (·.1) ++ final.1.qUnlocks ∧
    (∀ a ∈ accs, a ∈ final.2.accepted) ∧ accs.Pairwise (fun a b => a.due ≤ b.due) :=
  released_in_maturity_order params (by decide) start ops start_inv start_fifo ops_mono

/-- the exit on the example: after the second unlock the validator is Inactive (status 4) with power 0 and
    still holds 400 btc, which the third unlock (a request for 5000) withdraws in full, under the exit
    period -/
example : (grun start (ops.take 3)).1.validators.map (fun e : Bytes × Validator => (e.1, e.2.status.toNat, e.2.power, e.2.locking))
      = [([1], 4, 0, [("btc", 400)])] := by decide +kernel

example : final.1.validators.map (fun e : Bytes × Validator => (e.1, e.2.status.toNat, e.2.power, e.2.locking.length))
      = [([1], 4, 0, 0)] := by decide +kernel

/-- the freshness hypothesis of `released_exactly_once` is needed: the model does not check ids, a repeated request id is
    accepted and delivered twice -/
def dupOps : List Op :=
  [ .process id (fun _ => false) 1 50
      { gas := [0], weights := [("btc", 1)], thresholds := [("btc", 500)],
        creates := [{ validator := [1], compressed := [1] }],
        locks := [{ validator := [1], token := "btc", amount := 1000 }] },
    .process id (fun _ => false) 2 60
      { gas := [0], unlocks := [{ id := 7, validator := [1], recipient := [9], token := "btc", tokenAddr := [], amount := 300 },
                                { id := 7, validator := [1], recipient := [9], token := "btc", tokenAddr := [], amount := 100 }] },
    .beginBlock 4 80 [] none [], .dequeue ]

example : (grun start dupOps).2.delivered.map (fun x => (x.1.id, x.1.amount, x.2)) = [(7, 300, 80), (7, 100, 80)] := by
  decide +kernel

/-- the time hypothesis of `released_not_before_maturity` is needed: with a block time that runs backwards the hand-over of an
    unlock matured at time 75 is logged at the earlier clock 40 < 60 + 10 -/
def backOps : List Op :=
  [ .process id (fun _ => false) 1 50
      { gas := [0], weights := [("btc", 1)], thresholds := [("btc", 500)],
        creates := [{ validator := [1], compressed := [1] }],
        locks := [{ validator := [1], token := "btc", amount := 1000 }] },
    .process id (fun _ => false) 2 60
      { gas := [0], unlocks := [{ id := 7, validator := [1], recipient := [9], token := "btc", tokenAddr := [], amount := 300 }] },
    .beginBlock 4 75 [] none [], .beginBlock 5 40 [] none [], .dequeue ]

example : (grun start backOps).2.delivered.map (fun x => (x.1.id, x.2)) = [(7, 40)] := by
  decide +kernel

end Example

end Goat.C15H
