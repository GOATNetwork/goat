/-
  C12 across a restart from exported state: "all reward value is accounted for" does not stop at the export.
  The reward total of the locking module — undistributed pools + validators' unclaimed rewards + payouts queued for the
  execution layer — is the same after `initGenesis (exportGenesis s)`.  (Corollary of C18.import_export; this is what the
  `reward-total-differs` comparison of the export streams observes on the real application.)
-/
import GoatProofs.C18
namespace Goat.C12G
open Goat.Locking Goat.Genesis

def accrued (vs : List (Bytes × Validator)) : Int := (vs.map (fun e => e.2.reward + e.2.gasReward)).sum
def queued (rs : List Reward) : Int := (rs.map (fun r => r.goat + r.gas)).sum

/-- undistributed pools + unclaimed rewards + queued payouts -/
def rewardTotal (s : State) : Int :=
  s.pool.goat + s.pool.gas + s.pool.remain + accrued s.validators + queued s.qRewards

theorem accrued_perm {a b : List (Bytes × Validator)} (h : a.Perm b) : accrued a = accrued b :=
  sum_perm (h.map _)

/-- **reward value survives export → import**: for every store with well-formed primary data and consistent derived
    data, the chain started from its export holds exactly the same reward total -/
theorem reward_total_survives_restart (h : Bytes → Bytes) (s : State) (wf : C18.WfState h s) (hd : C18.Derived s) :
    ∃ s' ups, initGenesis h (exportGenesis s) = .ok (s', ups) ∧ rewardTotal s' = rewardTotal s := by
  obtain ⟨s', ups, hi, rep, _, _⟩ := C18.import_export h s wf hd
  refine ⟨s', ups, hi, ?_⟩
  unfold rewardTotal
  rw [rep.pool, rep.qRewards, rep.validators, accrued_perm (C18.sortVals_perm s.validators)]

/-- dropping a validator record that still carries rewards (seeded change C12-r4) loses exactly that much -/
theorem dropped_record_loses_its_rewards (a : Bytes) (v : Validator) (vs : List (Bytes × Validator)) :
    accrued ((a, v) :: vs) = accrued vs + (v.reward + v.gasReward) := by
  unfold accrued; simp only [List.map_cons, List.sum_cons]; omega

end Goat.C12G
