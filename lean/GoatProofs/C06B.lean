/-
  GoatProofs.C06B — the BYTES of the system transactions (property C06: "an execution payload is accepted only if its
  leading system transactions are byte-for-byte the ones due at that point").

  The real `VerifyDequeue` compares `tx.MarshalBinary()` of the payload's leading transactions with the bytes of the due
  ones; the model (`GoatProofs/C08.lean`, `verifyDequeue_exact`) compares them field by field.  This file proves, on the
  executable byte model `GoatModel.SysTxBytes` (validated against transactions serialised by the real code, no
  mismatch), that the two comparisons coincide: the byte encoding — type byte 0x60 ‖ RLP list [module, action, nonce,
  data], data = method id ‖ ABI words — is injective on in-range system transactions, and outside that range collides
  exactly by cropping / padding of hashes and addresses and the sign of `math.Int` amounts.

  Modelled: the exact bytes of `ethtypes.NewTx(ethtypes.NewGoatTx(module, action, nonce, inner)).MarshalBinary()` for the
  six constructors of x/bitcoin/types/ethtx.go and x/locking/types/ethtx.go — RLP (integer, string, list; short and long
  headers), type byte, method ids, ABI word layout, ×10^10 scaling, BytesToHash / BytesToAddress, FillBytes of |x|.
  Left out: the strictness of the Go RLP decoder (`decodeSysTx` accepts non-canonical headers / integers and, like Go,
  ignores the padding of uint32 / uint64 / address words; only `decode ∘ encode` is stated, not `encode ∘ decode`); the
  panic of `FillBytes` above 2^256 (unreachable: `math.Int` is capped at 256 bits, receipts are uint64 — the model
  truncates instead); transaction hashing / signatures (a GoatTx has none); the injectivity of the textual rendering
  `World.sysTxText` (the traces compare texts; this file relates bytes to FIELDS).
-/
import GoatModel.World
import GoatModel.SysTxBytes
import GoatProofs.Lemmas.Bytes

namespace Goat.C06B
open Goat Goat.Bitcoin Goat.SysTxBytes

theorem beFixed_length (k n : Nat) : (beFixed k n).length = k := by
  simp [beFixed, leBytes_length]

/-- the model's two big-endian readers are the same function -/
theorem natOfBE_eq_beToNat (l : Bytes) : natOfBE l = beToNat l := by
  rw [natOfBE, ← beToNat_reverse, List.reverse_reverse]

theorem natOfBE_beFixed (k n : Nat) : natOfBE (beFixed k n) = n % 256 ^ k :=
  (natOfBE_eq_beToNat _).trans (beToNat_reverse_leBytes k n)

theorem natOfBE_beFixed_of_lt {k n : Nat} (h : n < 256 ^ k) : natOfBE (beFixed k n) = n := by
  rw [natOfBE_beFixed, Nat.mod_eq_of_lt h]

theorem p32 : (256 : Nat) ^ 4 = 2 ^ 32 := by decide

theorem pow256 (k : Nat) : (256 : Nat) ^ k = 2 ^ (8 * k) := by
  rw [Nat.pow_mul]

/-- every number fits its own `byteLen` -/
theorem lt_pow_byteLen (n : Nat) : n < 256 ^ byteLen n := by
  unfold byteLen
  split
  · next h => subst h; decide
  · next h =>
    rw [pow256]
    exact (Nat.log2_lt h).mp (by omega)

/-- … and no fewer bytes would do -/
theorem byteLen_le {n k : Nat} (h : n < 256 ^ k) : byteLen n ≤ k := by
  unfold byteLen
  split
  · omega
  · next h0 =>
    rw [pow256] at h
    have := (Nat.log2_lt h0).mpr h
    omega

theorem byteLen_pos {n : Nat} (h : n ≠ 0) : 0 < byteLen n := by
  unfold byteLen; rw [if_neg h]; omega

theorem beMin_length (n : Nat) : (beMin n).length = byteLen n := beFixed_length _ _

theorem natOfBE_beMin (n : Nat) : natOfBE (beMin n) = n :=
  natOfBE_beFixed_of_lt (lt_pow_byteLen n)

theorem beMin_injective {n m : Nat} (h : beMin n = beMin m) : n = m := by
  rw [← natOfBE_beMin n, ← natOfBE_beMin m, h]

theorem beMin_zero : beMin 0 = [] := rfl

theorem natOfBE_lt (l : Bytes) : natOfBE l < 256 ^ l.length := natOfBE_eq_beToNat l ▸ beToNat_lt l

theorem natOfBE_zero_cons (t : Bytes) : natOfBE (0 :: t) = natOfBE t := by
  simp [natOfBE, leToNat_append, leToNat]

/-- **no leading zero**: the minimal big-endian bytes of a number never start with 0 -/
theorem beMin_no_leading_zero (n : Nat) : (beMin n).head? ≠ some 0 := by
  intro h
  cases hb : beMin n with
  | nil => rw [hb] at h; cases h
  | cons x t =>
    rw [hb] at h
    obtain rfl : x = 0 := Option.some.inj h
    have h1 := natOfBE_beMin n
    rw [hb, natOfBE_zero_cons] at h1
    have h3 := byteLen_le (h1 ▸ natOfBE_lt t)
    have h4 := beMin_length n
    rw [hb, List.length_cons] at h4
    omega

/-! ### RLP -/

theorem byteLen_le8 {n : Nat} (h : n < 2 ^ 64) : byteLen n ≤ 8 := byteLen_le (by rw [p64]; exact h)

theorem byteLen_mono {n m : Nat} (h : n ≤ m) : byteLen n ≤ byteLen m :=
  byteLen_le (Nat.lt_of_le_of_lt h (lt_pow_byteLen m))

theorem lenPrefix_length (base len : Nat) :
    (lenPrefix base len).length = if len < 56 then 1 else 1 + byteLen len := by
  unfold lenPrefix; split <;> simp [beMin_length]; omega

theorem lenPrefix_length_pos (base len : Nat) : 0 < (lenPrefix base len).length := by
  rw [lenPrefix_length]; split <;> omega

theorem lenPrefix_length_mono (base : Nat) {a b : Nat} (h : a ≤ b) :
    (lenPrefix base a).length ≤ (lenPrefix base b).length := by
  rw [lenPrefix_length, lenPrefix_length]
  have := byteLen_mono h
  split <;> split <;> omega

theorem rlpBytes_cases (b : Bytes) :
    (∃ x, b = [x] ∧ x < 0x80 ∧ rlpBytes b = [x]) ∨ rlpBytes b = lenPrefix 0x80 b.length ++ b := by
  unfold rlpBytes
  split
  · next x =>
    split
    · next hx => exact .inl ⟨x, rfl, hx, rfl⟩
    · exact .inr rfl
  · exact .inr rfl

theorem single_ne_generic {x : UInt8} (hx : x < 0x80) (b : Bytes) : [x] ≠ lenPrefix 0x80 b.length ++ b := by
  intro h
  have hl := congrArg List.length h
  have hp := lenPrefix_length_pos 0x80 b.length
  simp only [List.length_cons, List.length_nil, List.length_append] at hl
  have hb : b = [] := List.eq_nil_of_length_eq_zero (by omega)
  subst hb
  have : x = 0x80 := by simpa [lenPrefix] using h
  subst this
  exact absurd hx (by decide)

/-- **`rlpBytes` is injective** — on all byte strings, whatever their length. -/
theorem rlpBytes_injective {a b : Bytes} (h : rlpBytes a = rlpBytes b) : a = b := by
  rcases rlpBytes_cases a with ⟨x, rfl, hx, ea⟩ | ea <;> rcases rlpBytes_cases b with ⟨y, rfl, hy, eb⟩ | eb
  · rw [ea, eb] at h; exact h
  · rw [ea, eb] at h; exact absurd h (single_ne_generic hx b)
  · rw [ea, eb] at h; exact absurd h.symm (single_ne_generic hy a)
  · rw [ea, eb] at h
    have hl := congrArg List.length h
    simp only [List.length_append] at hl
    have hlen : a.length = b.length := by
      rcases Nat.lt_trichotomy a.length b.length with lt | eq | gt
      · have := lenPrefix_length_mono 0x80 (Nat.le_of_lt lt); omega
      · exact eq
      · have := lenPrefix_length_mono 0x80 (Nat.le_of_lt gt); omega
    rw [hlen] at h
    exact List.append_cancel_left h

theorem rlpNat_injective {n m : Nat} (h : rlpNat n = rlpNat m) : n = m :=
  beMin_injective (rlpBytes_injective h)

theorem add_lt_of_lt {b n m c : Nat} (h : n < m) (hc : b + m ≤ c) : b + n < c :=
  Nat.lt_of_lt_of_le (Nat.add_lt_add_left h b) hc

theorem not_add_lt_of_le {b n m c : Nat} (h : m ≤ n) (hc : c ≤ b + m) : ¬ b + n < c :=
  Nat.not_lt.2 (Nat.le_trans hc (Nat.add_le_add_left h b))

/-- the header of a short string / list: one byte -/
theorem header_short (isList : Bool) {len : Nat} (tail : Bytes) (hs : len < 56) :
    header (UInt8.ofNat ((if isList then 0xc0 else 0x80) + len) :: tail) = some (isList, 1, len) := by
  have h0 := Nat.zero_le len
  cases isList
  · rw [if_neg Bool.false_ne_true, header, UInt8.toNat_ofNat', Nat.mod_eq_of_lt (add_lt_of_lt hs (by decide)),
      if_neg (not_add_lt_of_le h0 (by decide)), if_pos (add_lt_of_lt hs (by decide)), Nat.add_sub_cancel_left]
  · rw [if_pos rfl, header, UInt8.toNat_ofNat', Nat.mod_eq_of_lt (add_lt_of_lt hs (by decide)),
      if_neg (not_add_lt_of_le h0 (by decide)), if_neg (not_add_lt_of_le h0 (by decide)),
      if_neg (not_add_lt_of_le h0 (by decide)), if_pos (add_lt_of_lt hs (by decide)), Nat.add_sub_cancel_left]

/-- the header of a long string / list: one byte counting the `k ≤ 8` length bytes `bs` that follow it -/
theorem header_long (isList : Bool) {k : Nat} (bs tail : Bytes) (hk : bs.length = k) (h1 : 1 ≤ k) (h8 : k < 9) :
    header (UInt8.ofNat ((if isList then 0xc0 else 0x80) + 55 + k) :: (bs ++ tail)) =
      some (isList, 1 + k, natOfBE bs) := by
  cases isList
  · rw [if_neg Bool.false_ne_true, header, UInt8.toNat_ofNat', Nat.mod_eq_of_lt (add_lt_of_lt h8 (by decide)),
      if_neg (not_add_lt_of_le h1 (by decide)), if_neg (not_add_lt_of_le h1 (by decide)),
      if_pos (add_lt_of_lt h8 (by decide)), Nat.add_sub_cancel_left (n := 0xb7), List.take_left' hk]
  · rw [if_pos rfl, header, UInt8.toNat_ofNat', Nat.mod_eq_of_lt (add_lt_of_lt h8 (by decide)),
      if_neg (not_add_lt_of_le h1 (by decide)), if_neg (not_add_lt_of_le h1 (by decide)),
      if_neg (not_add_lt_of_le h1 (by decide)), if_neg (not_add_lt_of_le h1 (by decide)),
      Nat.add_sub_cancel_left (n := 0xf7), List.take_left' hk]

theorem header_lenPrefix (isList : Bool) (len : Nat) (tail : Bytes) (h : len < 2 ^ 64) :
    header (lenPrefix (if isList then 0xc0 else 0x80) len ++ tail) =
      some (isList, (lenPrefix (if isList then 0xc0 else 0x80) len).length, len) := by
  rw [lenPrefix_length]
  unfold lenPrefix
  by_cases hs : len < 56
  · rw [if_pos hs, if_pos hs]; exact header_short isList tail hs
  · rw [if_neg hs, if_neg hs, beMin_length, List.cons_append,
      header_long isList (beMin len) tail (beMin_length len) (byteLen_pos (by omega)) (Nat.lt_succ_of_le (byteLen_le8 h)), natOfBE_beMin]

/-- when the header of `pre ++ (p ++ rest)` says "`pre.length` header bytes, `p.length` payload bytes", the item
    decoder splits there -/
theorem decodeItem_of_header {pre p rest : Bytes} {l : Bool}
    (hh : header (pre ++ (p ++ rest)) = some (l, pre.length, p.length)) :
    decodeItem (pre ++ (p ++ rest)) = some (l, p, rest) := by
  unfold decodeItem
  rw [hh]
  dsimp only
  rw [if_pos (by simp only [List.length_append]; omega), List.drop_left' rfl, List.take_left' rfl,
    ← List.append_assoc, List.drop_left' List.length_append]

/-- the item decoder undoes a string / list header followed by its payload -/
theorem decodeItem_lenPrefix (isList : Bool) (p rest : Bytes) (h : p.length < 2 ^ 64) :
    decodeItem (lenPrefix (if isList then 0xc0 else 0x80) p.length ++ (p ++ rest)) = some (isList, p, rest) :=
  decodeItem_of_header (header_lenPrefix isList p.length _ h)

/-- the item decoder undoes `rlpBytes` (whatever follows) -/
theorem decodeItem_rlpBytes (b rest : Bytes) (h : b.length < 2 ^ 64) :
    decodeItem (rlpBytes b ++ rest) = some (false, b, rest) := by
  rcases rlpBytes_cases b with ⟨x, rfl, hx, e⟩ | e
  · rw [e, ← List.nil_append ([x] ++ rest)]
    refine decodeItem_of_header ?_
    rw [List.nil_append, List.singleton_append, header, if_pos (show x.toNat < 0x80 from UInt8.lt_iff_toNat_lt.mp hx)]; rfl
  · rw [e, List.append_assoc]; exact decodeItem_lenPrefix false b rest h

/-- the item decoder undoes `rlpList`: the payload is the concatenation of the items -/
theorem decodeItem_rlpList (items : List Bytes) (rest : Bytes) (h : items.flatten.length < 2 ^ 64) :
    decodeItem (rlpList items ++ rest) = some (true, items.flatten, rest) := by
  have := decodeItem_lenPrefix true items.flatten rest h
  simpa [rlpList, List.append_assoc] using this

theorem byteLen_small {n : Nat} (h : n < 2 ^ 256) : byteLen n < 2 ^ 64 := by
  have : byteLen n ≤ 32 := byteLen_le (by rw [p256]; exact h)
  have : (32 : Nat) < 2 ^ 64 := by decide
  omega

/-- The encodings RLP can produce: a string or a list (of already-encoded items) with a payload below 2^64 bytes. -/
inductive IsItem : Bytes → Prop
  | str (b : Bytes) (h : b.length < 2 ^ 64) : IsItem (rlpBytes b)
  | list (items : List Bytes) (h : items.flatten.length < 2 ^ 64) : IsItem (rlpList items)

theorem IsItem.nat {n : Nat} (h : n < 2 ^ 256) : IsItem (rlpNat n) :=
  .str _ (by rw [beMin_length]; exact byteLen_small h)

/-- an item's own bytes tell where it ends -/
theorem IsItem.decode {e : Bytes} (h : IsItem e) : ∃ l p, ∀ rest, decodeItem (e ++ rest) = some (l, p, rest) := by
  cases h with
  | str b hb => exact ⟨false, b, fun rest => decodeItem_rlpBytes b rest hb⟩
  | list items hi => exact ⟨true, items.flatten, fun rest => decodeItem_rlpList items rest hi⟩

theorem IsItem.ne_nil {e : Bytes} (h : IsItem e) : e ≠ [] := by
  intro he
  obtain ⟨l, p, hd⟩ := h.decode
  have := hd []
  rw [he] at this
  simp [decodeItem, header] at this

/-- **RLP is prefix-free**: no item encoding is a proper prefix of another item encoding (hence a concatenation of
    items splits in exactly one way). -/
theorem rlp_prefix_free {e1 e2 : Bytes} (h1 : IsItem e1) (h2 : IsItem e2) (hp : e1 <+: e2) : e1 = e2 := by
  obtain ⟨t, rfl⟩ := hp
  obtain ⟨l1, p1, d1⟩ := h1.decode
  obtain ⟨l2, p2, d2⟩ := h2.decode
  have a := d1 t
  have b := d2 []
  rw [List.append_nil] at b
  rw [a] at b
  have : t = [] := by simpa using congrArg (fun o => o.map (fun x => x.2.2)) b
  rw [this, List.append_nil]

/-- concatenations of prefix-free non-empty blocks split uniquely -/
theorem flatten_injective {P : Bytes → Prop} (hne : ∀ e, P e → e ≠ [])
    (hpf : ∀ e1 e2, P e1 → P e2 → e1 <+: e2 → e1 = e2) :
    ∀ (l1 l2 : List Bytes), (∀ e ∈ l1, P e) → (∀ e ∈ l2, P e) → l1.flatten = l2.flatten → l1 = l2 := by
  intro l1
  induction l1 with
  | nil =>
    intro l2 _ h2 h
    cases l2 with
    | nil => rfl
    | cons b bs => exact absurd (List.append_eq_nil_iff.mp h.symm).1 (hne b (h2 b List.mem_cons_self))
  | cons a as ih =>
    intro l2 h1 h2 h
    obtain ⟨pa, has⟩ := List.forall_mem_cons.mp h1
    cases l2 with
    | nil => exact absurd (List.append_eq_nil_iff.mp h).1 (hne a pa)
    | cons b bs =>
      obtain ⟨pb, hbs⟩ := List.forall_mem_cons.mp h2
      rw [List.flatten_cons, List.flatten_cons] at h
      obtain rfl : a = b := by
        rcases List.append_eq_append_iff.mp h with ⟨c, hc, _⟩ | ⟨c, hc, _⟩
        · exact hpf a b pa pb ⟨c, hc.symm⟩
        · exact (hpf b a pb pa ⟨c, hc.symm⟩).symm
      rw [ih bs has hbs (List.append_cancel_left h)]

/-- a concatenation of RLP items splits in exactly one way -/
theorem rlp_concat_injective {l1 l2 : List Bytes} (h1 : ∀ e ∈ l1, IsItem e) (h2 : ∀ e ∈ l2, IsItem e)
    (h : l1.flatten = l2.flatten) : l1 = l2 :=
  flatten_injective (fun _ he => he.ne_nil) (fun _ _ => rlp_prefix_free) l1 l2 h1 h2 h

/-- **`rlpList` is injective on lists of RLP items.** -/
theorem rlpList_injective {l1 l2 : List Bytes} (h1 : ∀ e ∈ l1, IsItem e) (h2 : ∀ e ∈ l2, IsItem e)
    (n1 : l1.flatten.length < 2 ^ 64) (n2 : l2.flatten.length < 2 ^ 64) (h : rlpList l1 = rlpList l2) : l1 = l2 := by
  have a := decodeItem_rlpList l1 [] n1
  rw [h, decodeItem_rlpList l2 [] n2] at a
  exact rlp_concat_injective h1 h2 (by simpa using a.symm)

/-- a string is never a list: the two kinds of items have different encodings -/
theorem rlpBytes_ne_rlpList {b : Bytes} {items : List Bytes} (hb : b.length < 2 ^ 64) (hi : items.flatten.length < 2 ^ 64) :
    rlpBytes b ≠ rlpList items := by
  intro h
  have a := decodeItem_rlpBytes b [] hb
  have c := decodeItem_rlpList items [] hi
  rw [h, c] at a
  simp at a

theorem rlpBytes_of_length_ne_one {b : Bytes} (h : b.length ≠ 1) : rlpBytes b = lenPrefix 0x80 b.length ++ b := by
  rcases rlpBytes_cases b with ⟨x, rfl, _, _⟩ | e
  · exact absurd rfl h
  · exact e

/-- Without the 2^64 bound of `IsItem` prefix-freeness FAILS in the model: a string of 2^64 bytes needs 9 length
    bytes, its header byte 0xb7 + 9 = 0xc0 is the encoding of the empty list.  (Real RLP cannot encode such a string:
    lengths are uint64.) -/
theorem prefix_witness (b : Bytes) (hb : b.length = 2 ^ 64) : rlpList [] <+: rlpBytes b ∧ rlpList [] ≠ rlpBytes b := by
  have e : rlpBytes b = lenPrefix 0x80 (2 ^ 64) ++ b := by
    have := rlpBytes_of_length_ne_one (b := b) (by omega)
    rwa [hb] at this
  have e2 : lenPrefix 0x80 (2 ^ 64) = 0xc0 :: beMin (2 ^ 64) := by decide +kernel
  have e3 : rlpList [] = [0xc0] := by decide
  rw [e, e2, e3]
  constructor
  · exact ⟨beMin (2 ^ 64) ++ b, rfl⟩
  · intro h
    have := congrArg List.length h
    simp only [List.length_cons, List.length_nil, List.length_append, beMin_length] at this
    omega

theorem rlp_prefix_free_unbounded_false :
    ∃ b : Bytes, rlpList [] <+: rlpBytes b ∧ rlpList [] ≠ rlpBytes b :=
  ⟨List.replicate (2 ^ 64) 0, prefix_witness _ List.length_replicate⟩

/-! ### the data: method id ‖ ABI words -/

theorem fit_eq_fitLeft : fit = World.fitLeft := rfl

theorem fit_length (n : Nat) (b : Bytes) : (fit n b).length = n := by
  unfold fit
  split
  · next h => rw [List.length_drop, Nat.sub_sub_self h]
  · next h => rw [List.length_append, List.length_replicate, Nat.sub_add_cancel (Nat.le_of_not_ge h)]

theorem fit_of_length {n : Nat} {b : Bytes} (h : b.length = n) : fit n b = b := by
  unfold fit; rw [if_pos (by omega)]; simp [h]

theorem fit_idem (n : Nat) (b : Bytes) : fit n (fit n b) = fit n b := fit_of_length (fit_length n b)

theorem zeros_length (n : Nat) : (zeros n).length = n := by simp [zeros]

theorem wordHash_length (h : Bytes) : (wordHash h).length = 32 := fit_length _ _
theorem wordAddr_length (a : Bytes) : (wordAddr a).length = 32 := by
  simp [wordAddr, zeros_length, fit_length]
theorem wordU32_length (n : Nat) : (wordU32 n).length = 32 := by simp [wordU32, zeros_length, beFixed_length]
theorem wordU64_length (n : Nat) : (wordU64 n).length = 32 := by simp [wordU64, zeros_length, beFixed_length]
theorem wordNat_length (n : Nat) : (wordNat n).length = 32 := beFixed_length _ _
theorem wordInt_length (x : Int) : (wordInt x).length = 32 := beFixed_length _ _

def midOf : SysTx → Bytes
  | .newBlock .. => midNewBlock
  | .deposit .. => midDeposit
  | .paid .. => midPaid
  | .cancel2 .. => midCancel2
  | .reward .. => midReward
  | .unlock .. => midUnlock

def wordsOf : SysTx → List Bytes
  | .newBlock _ h => [wordHash h]
  | .deposit _ r => [wordHash r.txid, wordU32 r.txout, wordAddr r.address, wordNat (r.amount * satoshi), wordNat (r.tax * satoshi)]
  | .paid _ id r => [wordNat id, wordHash r.txid, wordU32 r.txout, wordNat (r.amount * satoshi)]
  | .cancel2 _ id => [wordNat id]
  | .reward _ id rc g gs => [wordU64 id, wordAddr rc, wordInt g, wordInt gs]
  | .unlock _ id rc tk a => [wordU64 id, wordAddr rc, wordAddr tk, wordInt a]

theorem encodeData_eq (tx : SysTx) : encodeData tx = midOf tx ++ (wordsOf tx).flatten := by
  cases tx <;> simp only [encodeData, midOf, wordsOf, List.flatten_cons, List.flatten_nil, List.append_nil, List.append_assoc]

theorem midOf_length (tx : SysTx) : (midOf tx).length = 4 := by cases tx <;> rfl

theorem wordsOf_length32 (tx : SysTx) : ∀ w ∈ wordsOf tx, w.length = 32 := by
  cases tx <;>
    simp only [wordsOf, List.mem_cons, List.not_mem_nil, or_false, forall_eq_or_imp, forall_eq, wordHash_length,
      wordAddr_length, wordU32_length, wordU64_length, wordNat_length, wordInt_length, and_self]

theorem flatten_length32 (ws : List Bytes) (hw : ∀ w ∈ ws, w.length = 32) : ws.flatten.length = 32 * ws.length := by
  induction ws with
  | nil => rfl
  | cons w t ih =>
    have h1 := hw w (by simp)
    have h2 := ih (fun x hx => hw x (by simp [hx]))
    simp only [List.flatten_cons, List.length_append, List.length_cons, h1, h2]; omega

/-- the `i`-th block of a concatenation of 32-byte words (nothing beyond the last) -/
theorem flatten_word (ws : List Bytes) (hw : ∀ w ∈ ws, w.length = 32) (i : Nat) :
    (ws.flatten.drop (32 * i)).take 32 = ws.getD i [] := by
  induction ws generalizing i with
  | nil => simp
  | cons w t ih =>
    have h1 := hw w List.mem_cons_self
    cases i with
    | zero => rw [Nat.mul_zero, List.drop_zero, List.flatten_cons, List.take_left' h1, List.getD_cons_zero]
    | succ j =>
      rw [Nat.mul_succ, Nat.add_comm, List.flatten_cons, ← List.drop_drop, List.drop_left' h1, List.getD_cons_succ]
      exact ih (fun x hx => hw x (List.mem_cons_of_mem _ hx)) j

/-- the data are always 36, 132 or 164 bytes — whatever the fields -/
theorem encodeData_length (tx : SysTx) : (encodeData tx).length = 4 + 32 * (wordsOf tx).length := by
  rw [encodeData_eq, List.length_append, midOf_length, flatten_length32 _ (wordsOf_length32 tx)]

theorem encodeData_length_le (tx : SysTx) : (encodeData tx).length ≤ 164 := by
  rw [encodeData_length]; cases tx <;> simp [wordsOf]

theorem encodeData_take4 (tx : SysTx) : (encodeData tx).take 4 = midOf tx := by
  rw [encodeData_eq, List.take_left' (midOf_length tx)]

theorem wordAt_encodeData (tx : SysTx) (i : Nat) : wordAt (encodeData tx) i = (wordsOf tx).getD i [] := by
  rw [wordAt, encodeData_eq, ← List.drop_drop, List.drop_left' (midOf_length tx)]
  exact flatten_word _ (wordsOf_length32 tx) i

def setNonce (n : Nat) : SysTx → SysTx
  | .newBlock _ h => .newBlock n h
  | .deposit _ r => .deposit n r
  | .paid _ id r => .paid n id r
  | .cancel2 _ id => .cancel2 n id
  | .reward _ id rc g gs => .reward n id rc g gs
  | .unlock _ id rc tk a => .unlock n id rc tk a

/-- the payload fields within the range in which the encoding loses nothing: hashes 32 bytes, addresses 20 bytes,
    txout a uint32, locking ids uint64, bridge ids and all (scaled) amounts below 2^256 and not negative. -/
def DataInRange : SysTx → Prop
  | .newBlock _ h => h.length = 32
  | .deposit _ r => r.txid.length = 32 ∧ r.txout < 2 ^ 32 ∧ r.address.length = 20 ∧
      r.amount * satoshi < 2 ^ 256 ∧ r.tax * satoshi < 2 ^ 256
  | .paid _ id r => id < 2 ^ 256 ∧ r.txid.length = 32 ∧ r.txout < 2 ^ 32 ∧ r.amount * satoshi < 2 ^ 256
  | .cancel2 _ id => id < 2 ^ 256
  | .reward _ id rc g gs => id < 2 ^ 64 ∧ rc.length = 20 ∧ 0 ≤ g ∧ g < 2 ^ 256 ∧ 0 ≤ gs ∧ gs < 2 ^ 256
  | .unlock _ id rc tk a => id < 2 ^ 64 ∧ rc.length = 20 ∧ tk.length = 20 ∧ 0 ≤ a ∧ a < 2 ^ 256

/-- in range: the nonce is a uint64 and the payload is in range -/
def InRange (tx : SysTx) : Prop := nonceOf tx < 2 ^ 64 ∧ DataInRange tx

/-- what the Go types can hold (uint64 ids and satoshi amounts, uint32 txout, 256-bit `math.Int`), with normalised hashes and
    addresses and no negative amount -/
def GoRange : SysTx → Prop
  | .newBlock n h => n < 2 ^ 64 ∧ h.length = 32
  | .deposit n r => n < 2 ^ 64 ∧ r.txid.length = 32 ∧ r.txout < 2 ^ 32 ∧ r.address.length = 20 ∧ r.amount < 2 ^ 64 ∧ r.tax < 2 ^ 64
  | .paid n id r => n < 2 ^ 64 ∧ id < 2 ^ 64 ∧ r.txid.length = 32 ∧ r.txout < 2 ^ 32 ∧ r.amount < 2 ^ 64
  | .cancel2 n id => n < 2 ^ 64 ∧ id < 2 ^ 64
  | .reward n id rc g gs => n < 2 ^ 64 ∧ id < 2 ^ 64 ∧ rc.length = 20 ∧ 0 ≤ g ∧ g < 2 ^ 256 ∧ 0 ≤ gs ∧ gs < 2 ^ 256
  | .unlock n id rc tk a => n < 2 ^ 64 ∧ id < 2 ^ 64 ∧ rc.length = 20 ∧ tk.length = 20 ∧ 0 ≤ a ∧ a < 2 ^ 256

theorem scaled_lt {a : Nat} (h : a < 2 ^ 64) : a * satoshi < 2 ^ 256 := by unfold satoshi; omega

theorem lt_256_of_lt_64 {a : Nat} (h : a < 2 ^ 64) : a < 2 ^ 256 := by omega

theorem GoRange.inRange {tx : SysTx} (h : GoRange tx) : InRange tx := by
  cases tx with
  | newBlock n hh => exact h
  | deposit n r => exact ⟨h.1, h.2.1, h.2.2.1, h.2.2.2.1, scaled_lt h.2.2.2.2.1, scaled_lt h.2.2.2.2.2⟩
  | paid n id r => exact ⟨h.1, lt_256_of_lt_64 h.2.1, h.2.2.1, h.2.2.2.1, scaled_lt h.2.2.2.2⟩
  | cancel2 n id => exact ⟨h.1, lt_256_of_lt_64 h.2⟩
  | reward n id rc g gs => exact h
  | unlock n id rc tk a => exact h

theorem wordHash_of_length {h : Bytes} (hh : h.length = 32) : wordHash h = h := fit_of_length hh

theorem lo_wordAddr {a : Bytes} (h : a.length = 20) : (wordAddr a).drop 12 = a := by
  rw [wordAddr, List.drop_left' (zeros_length 12), fit_of_length h]

theorem lo_wordU32 {n : Nat} (h : n < 2 ^ 32) : natOfBE ((wordU32 n).drop 28) = n := by
  rw [wordU32, List.drop_left' (zeros_length 28), natOfBE_beFixed_of_lt (by rw [p32]; exact h)]

theorem lo_wordU64 {n : Nat} (h : n < 2 ^ 64) : natOfBE ((wordU64 n).drop 24) = n := by
  rw [wordU64, List.drop_left' (zeros_length 24), natOfBE_beFixed_of_lt (by rw [p64]; exact h)]

theorem nat_wordNat {n : Nat} (h : n < 2 ^ 256) : natOfBE (wordNat n) = n :=
  natOfBE_beFixed_of_lt (by rw [p256]; exact h)

theorem int_wordInt {x : Int} (h0 : 0 ≤ x) (h : x < 2 ^ 256) : Int.ofNat (natOfBE (wordInt x)) = x := by
  rw [wordInt, natOfBE_beFixed_of_lt (by rw [p256]; omega)]
  exact Int.natAbs_of_nonneg h0

theorem scaled_div (n : Nat) : n * satoshi / satoshi = n := Nat.mul_div_cancel n (by decide)

/-- **the data decoder undoes `encodeData`** (the nonce is not in the data: it is given back as supplied) -/
theorem decodeData_encodeData (tx : SysTx) (n : Nat) (h : DataInRange tx) :
    decodeData (moduleOf tx) (actionOf tx) n (encodeData tx) = some (setNonce n tx) := by
  -- for each kind: module and action select its branch, size and method id are the expected ones, and every
  -- field is read back from its word by the range hypothesis `h` on it
  cases tx <;> simp only [DataInRange] at h <;>
    simp +decide only [decodeData, moduleOf, actionOf, bridgeModule, lockingModule, setNonce, ↓reduceIte,
      encodeData_length, encodeData_take4, wordAt_encodeData, wordsOf, midOf, List.length_cons, List.length_nil,
      List.getD_cons_zero, List.getD_cons_succ, and_self, Nat.reduceSub, h, wordHash_of_length, lo_wordU32, lo_wordU64,
      lo_wordAddr, nat_wordNat, int_wordInt, scaled_div]

theorem encodeData_setNonce (n : Nat) (tx : SysTx) : encodeData (setNonce n tx) = encodeData tx := by
  cases tx <;> rfl

theorem moduleOf_setNonce (n : Nat) (tx : SysTx) : moduleOf (setNonce n tx) = moduleOf tx := by cases tx <;> rfl
theorem actionOf_setNonce (n : Nat) (tx : SysTx) : actionOf (setNonce n tx) = actionOf tx := by cases tx <;> rfl
theorem nonceOf_setNonce (n : Nat) (tx : SysTx) : nonceOf (setNonce n tx) = n := by cases tx <;> rfl
theorem setNonce_nonceOf (tx : SysTx) : setNonce (nonceOf tx) tx = tx := by cases tx <;> rfl
theorem setNonce_setNonce (n m : Nat) (tx : SysTx) : setNonce n (setNonce m tx) = setNonce n tx := by cases tx <;> rfl
theorem DataInRange.setNonce {tx : SysTx} (h : DataInRange tx) (n : Nat) : DataInRange (setNonce n tx) := by
  cases tx <;> exact h

/-- method id, module and action of the six kinds -/
def kinds : List (Bytes × Nat × Nat) :=
  [(midNewBlock, bridgeModule, 4), (midDeposit, bridgeModule, 1), (midPaid, bridgeModule, 3),
   (midCancel2, bridgeModule, 2), (midReward, lockingModule, 2), (midUnlock, lockingModule, 1)]

theorem kind_mem (tx : SysTx) : (midOf tx, moduleOf tx, actionOf tx) ∈ kinds := by
  cases tx <;> simp only [kinds, midOf, moduleOf, actionOf, List.mem_cons, true_or, or_true]

/-- the method id determines module and action (the six ids are pairwise different) -/
theorem kind_of_mid {a b : SysTx} (h : midOf a = midOf b) : moduleOf a = moduleOf b ∧ actionOf a = actionOf b := by
  have inj : ∀ x ∈ kinds, ∀ y ∈ kinds, x.1 = y.1 → x.2 = y.2 := by decide +kernel
  exact Prod.mk.inj (inj _ (kind_mem a) _ (kind_mem b) h)

/-- **`encodeData` is injective within range**: equal data bytes — equal transactions up to the nonce (which is not
    part of the data). -/
theorem encodeData_injective {a b : SysTx} (ha : DataInRange a) (hb : DataInRange b)
    (h : encodeData a = encodeData b) : setNonce 0 a = setNonce 0 b := by
  have hm : midOf a = midOf b := by rw [← encodeData_take4, ← encodeData_take4, h]
  obtain ⟨k1, k2⟩ := kind_of_mid hm
  have da := decodeData_encodeData a 0 ha
  have db := decodeData_encodeData b 0 hb
  rw [h, k1, k2, db] at da
  exact (Option.some.inj da).symm

theorem encodeData_eq_iff {a b : SysTx} (ha : DataInRange a) (hb : DataInRange b) :
    encodeData a = encodeData b ↔ setNonce 0 a = setNonce 0 b :=
  ⟨encodeData_injective ha hb, fun h => by rw [← encodeData_setNonce 0 a, h, encodeData_setNonce]⟩

/-! Outside the range the data lose information — with values the Go types CAN hold: `big.Int.FillBytes` writes the
    absolute value, so a negative reward amount encodes like its opposite; `BytesToHash` crops, so a 33-byte hash
    encodes like its last 32 bytes.  Hence the range hypotheses of `encodeData_injective` cannot be dropped. -/

theorem encodeData_sign_blind (n id : Nat) (rc : Bytes) (g gs : Int) :
    encodeData (.reward n id rc (-g) gs) = encodeData (.reward n id rc g gs) := by
  simp [encodeData, wordInt]

theorem encodeData_crops (n : Nat) (x : UInt8) (h : Bytes) (hh : h.length = 32) :
    encodeData (.newBlock n (x :: h)) = encodeData (.newBlock n h) := by
  simp [encodeData, wordHash, fit, hh]

theorem encodeData_injective_unrestricted_false :
    ¬ ∀ a b : SysTx, encodeData a = encodeData b → setNonce 0 a = setNonce 0 b := by
  intro h
  have := h (.reward 0 0 [] (-1) 0) (.reward 0 0 [] 1 0) (encodeData_sign_blind 0 0 [] 1 0)
  simp [setNonce] at this

/-! ### the envelope -/

theorem lenPrefix_length_le (base len : Nat) (h : len < 2 ^ 64) : (lenPrefix base len).length ≤ 9 := by
  have := byteLen_le8 h
  rw [lenPrefix_length]; split <;> omega

theorem rlpBytes_length_le (b : Bytes) (h : b.length < 2 ^ 64) : (rlpBytes b).length ≤ b.length + 9 := by
  rcases rlpBytes_cases b with ⟨x, rfl, _, e⟩ | e
  · rw [e]; exact Nat.le_add_right _ _
  · have := lenPrefix_length_le 0x80 b.length h
    rw [e, List.length_append]; omega

theorem rlpNat_length_le {n : Nat} (h : n < 2 ^ 64) : (rlpNat n).length ≤ 17 := by
  have h8 := byteLen_le8 h
  have := rlpBytes_length_le (beMin n) (by rw [beMin_length]; omega)
  rw [beMin_length] at this
  unfold rlpNat; omega

theorem moduleOf_lt (tx : SysTx) : moduleOf tx < 256 := by cases tx <;> simp [moduleOf, bridgeModule, lockingModule]
theorem actionOf_lt (tx : SysTx) : actionOf tx < 256 := by cases tx <;> simp [actionOf]

theorem data_small (tx : SysTx) : (encodeData tx).length < 2 ^ 64 := by
  have := encodeData_length_le tx; omega

theorem envelope_isItem (tx : SysTx) (hn : nonceOf tx < 2 ^ 64) : ∀ e ∈ envelopeItems tx, IsItem e := by
  intro e he
  simp only [envelopeItems, List.mem_cons, List.not_mem_nil, or_false] at he
  have hm := moduleOf_lt tx
  have hac := actionOf_lt tx
  rcases he with rfl | rfl | rfl | rfl
  · exact IsItem.nat (by omega)
  · exact IsItem.nat (by omega)
  · exact IsItem.nat (by omega)
  · exact IsItem.str _ (data_small tx)

theorem envelope_small (tx : SysTx) (hn : nonceOf tx < 2 ^ 64) : (envelopeItems tx).flatten.length < 2 ^ 64 := by
  have h1 := rlpNat_length_le (n := moduleOf tx) (by have := moduleOf_lt tx; omega)
  have h2 := rlpNat_length_le (n := actionOf tx) (by have := actionOf_lt tx; omega)
  have h3 := rlpNat_length_le hn
  have h4 := rlpBytes_length_le _ (data_small tx)
  have h5 := encodeData_length_le tx
  simp only [envelopeItems, List.flatten_cons, List.flatten_nil, List.length_append, List.length_nil]
  omega

/-- **the envelope is injective on its four fields** (uint64 nonces; nothing is assumed about the payload fields) -/
theorem encodeSysTx_eq_iff {a b : SysTx} (ha : nonceOf a < 2 ^ 64) (hb : nonceOf b < 2 ^ 64) :
    encodeSysTx a = encodeSysTx b ↔
      moduleOf a = moduleOf b ∧ actionOf a = actionOf b ∧ nonceOf a = nonceOf b ∧ encodeData a = encodeData b := by
  constructor
  · intro h
    simp only [encodeSysTx, List.cons.injEq, true_and] at h
    have hi := rlpList_injective (envelope_isItem a ha) (envelope_isItem b hb) (envelope_small a ha) (envelope_small b hb) h
    simp only [envelopeItems, List.cons.injEq, and_true] at hi
    obtain ⟨i1, i2, i3, i4⟩ := hi
    exact ⟨rlpNat_injective i1, rlpNat_injective i2,
      rlpNat_injective i3, rlpBytes_injective i4⟩
  · rintro ⟨h1, h2, h3, h4⟩
    simp only [encodeSysTx, envelopeItems, h1, h2, h3, h4]

/-- **`encodeSysTx` is injective within range**: equal bytes — equal system transactions, nonce included. -/
theorem encodeSysTx_injective {a b : SysTx} (ha : InRange a) (hb : InRange b)
    (h : encodeSysTx a = encodeSysTx b) : a = b := by
  obtain ⟨_, _, hn, hd⟩ := (encodeSysTx_eq_iff ha.1 hb.1).mp h
  have h0 := encodeData_injective ha.2 hb.2 hd
  rw [← setNonce_nonceOf a, ← setNonce_setNonce (nonceOf a) 0 a, h0, hn, setNonce_setNonce, setNonce_nonceOf]

theorem encodeSysTx_inj_iff {a b : SysTx} (ha : InRange a) (hb : InRange b) :
    encodeSysTx a = encodeSysTx b ↔ a = b :=
  ⟨encodeSysTx_injective ha hb, fun h => by rw [h]⟩

/-- **byte-for-byte = field-for-field**: two lists of in-range system transactions have the same byte encodings
    (what the real `VerifyDequeue` compares, `bytes.Equal` item by item) iff they are the same transactions (what the
    model's `verifyDequeue_exact`, GoatProofs/C08.lean, compares). -/
theorem map_encodeSysTx_eq_iff {l1 l2 : List SysTx} (h1 : ∀ t ∈ l1, InRange t) (h2 : ∀ t ∈ l2, InRange t) :
    l1.map encodeSysTx = l2.map encodeSysTx ↔ l1 = l2 := by
  refine ⟨fun h => ?_, fun h => by rw [h]⟩
  induction l1 generalizing l2 with
  | nil => exact (List.map_eq_nil_iff.mp h.symm).symm
  | cons a as ih =>
    obtain ⟨b, bs, rfl, hb, hbs⟩ := List.map_eq_cons_iff.mp h.symm
    obtain ⟨ha, has⟩ := List.forall_mem_cons.mp h1
    obtain ⟨hb', hbs'⟩ := List.forall_mem_cons.mp h2
    rw [encodeSysTx_injective ha hb' hb.symm, ih has hbs' hbs.symm]

/-- the same for the leading transactions of a payload: the first `due.length` raw transactions are the encodings of
    the due ones iff they are the encodings of some in-range list that IS the due list -/
theorem leading_bytes_iff {raw : List Bytes} {due got : List SysTx} (hd : ∀ t ∈ due, InRange t) (hg : ∀ t ∈ got, InRange t)
    (hraw : raw.take due.length = got.map encodeSysTx) :
    raw.take due.length = due.map encodeSysTx ↔ got = due := by
  rw [hraw]; exact map_encodeSysTx_eq_iff hg hd

theorem decodeItem_rlpNat (n : Nat) (rest : Bytes) (h : n < 2 ^ 256) :
    decodeItem (rlpNat n ++ rest) = some (false, beMin n, rest) :=
  decodeItem_rlpBytes _ rest (by rw [beMin_length]; exact byteLen_small h)

/-- **the decoder undoes the encoder** on in-range transactions -/
theorem decode_encode (tx : SysTx) (h : InRange tx) : decodeSysTx (encodeSysTx tx) = some tx := by
  obtain ⟨hn, hd⟩ := h
  have hm := moduleOf_lt tx
  have ha := actionOf_lt tx
  have e0 := decodeItem_rlpList (envelopeItems tx) [] (envelope_small tx hn)
  rw [List.append_nil, envelopeItems] at e0
  simp only [decodeSysTx, encodeSysTx, envelopeItems, ne_eq, not_true_eq_false, ↓reduceIte, e0, List.flatten_cons,
    List.flatten_nil, decodeItem_rlpNat _ _ (show moduleOf tx < 2 ^ 256 by omega),
    decodeItem_rlpNat _ _ (show actionOf tx < 2 ^ 256 by omega), decodeItem_rlpNat _ _ (show nonceOf tx < 2 ^ 256 by omega),
    decodeItem_rlpBytes _ [] (data_small tx), natOfBE_beMin]
  rw [decodeData_encodeData tx _ hd, setNonce_nonceOf]

/-! ### the nonce lives in the envelope only -/

/-- changing the nonce changes exactly the third item of the envelope … -/
theorem encode_nonce_only_in_envelope (n : Nat) (tx : SysTx) :
    encodeSysTx (setNonce n tx) =
      goatTxType :: rlpList [rlpNat (moduleOf tx), rlpNat (actionOf tx), rlpNat n, rlpBytes (encodeData tx)] := by
  cases tx <;> rfl

theorem envelopeItems_setNonce (n : Nat) (tx : SysTx) :
    envelopeItems (setNonce n tx) = (envelopeItems tx).set 2 (rlpNat n) := by
  cases tx <;> rfl

/-- … and the bytes with it: the same payload under two different (uint64) nonces is two different byte strings — a
    replayed system transaction with an old nonce is not byte-equal to the one due.  No range hypothesis on the payload. -/
theorem encode_nonce_ne {n n' : Nat} (tx : SysTx) (hn : n < 2 ^ 64) (hn' : n' < 2 ^ 64) :
    encodeSysTx (setNonce n tx) = encodeSysTx (setNonce n' tx) ↔ n = n' := by
  rw [encodeSysTx_eq_iff (by rw [nonceOf_setNonce]; exact hn) (by rw [nonceOf_setNonce]; exact hn')]
  simp only [moduleOf_setNonce, actionOf_setNonce, nonceOf_setNonce, encodeData_setNonce, true_and, and_true]

/-! ### exactly what the encoding forgets -/

/-- the numeric fields within what the Go types can hold (uint64 nonce and locking ids, uint32 txout, scaled amounts and
    bridge ids below 2^256, `math.Int` amounts of at most 256 bits and of EITHER sign); byte strings of ANY length -/
def NumRange : SysTx → Prop
  | .newBlock n _ => n < 2 ^ 64
  | .deposit n r => n < 2 ^ 64 ∧ r.txout < 2 ^ 32 ∧ r.amount * satoshi < 2 ^ 256 ∧ r.tax * satoshi < 2 ^ 256
  | .paid n id r => n < 2 ^ 64 ∧ id < 2 ^ 256 ∧ r.txout < 2 ^ 32 ∧ r.amount * satoshi < 2 ^ 256
  | .cancel2 n id => n < 2 ^ 64 ∧ id < 2 ^ 256
  | .reward n id _ g gs => n < 2 ^ 64 ∧ id < 2 ^ 64 ∧ g.natAbs < 2 ^ 256 ∧ gs.natAbs < 2 ^ 256
  | .unlock n id _ _ a => n < 2 ^ 64 ∧ id < 2 ^ 64 ∧ a.natAbs < 2 ^ 256

/-- the normal form the encoder applies: hashes cropped / padded to 32 bytes, addresses to 20, amounts replaced by their
    absolute value -/
def norm : SysTx → SysTx
  | .newBlock n h => .newBlock n (fit 32 h)
  | .deposit n r => .deposit n { r with txid := fit 32 r.txid, address := fit 20 r.address }
  | .paid n id r => .paid n id { r with txid := fit 32 r.txid }
  | .cancel2 n id => .cancel2 n id
  | .reward n id rc g gs => .reward n id (fit 20 rc) g.natAbs gs.natAbs
  | .unlock n id rc tk a => .unlock n id (fit 20 rc) (fit 20 tk) a.natAbs

theorem encodeSysTx_norm (tx : SysTx) : encodeSysTx (norm tx) = encodeSysTx tx := by
  cases tx <;>
    simp only [norm, encodeSysTx, envelopeItems, encodeData, moduleOf, actionOf, nonceOf, wordHash, wordAddr, wordInt,
      fit_idem, Int.natAbs_natCast]

theorem natCast_lt_256 {n : Nat} (h : n < 2 ^ 256) : (n : Int) < 2 ^ 256 := by omega

theorem norm_inRange {tx : SysTx} (h : NumRange tx) : InRange (norm tx) := by
  cases tx with
  | newBlock n hh => exact ⟨h, fit_length _ _⟩
  | deposit n r => exact ⟨h.1, fit_length _ _, h.2.1, fit_length _ _, h.2.2⟩
  | paid n id r => exact ⟨h.1, h.2.1, fit_length _ _, h.2.2⟩
  | cancel2 n id => exact h
  | reward n id rc g gs =>
    exact ⟨h.1, h.2.1, fit_length _ _, Int.natCast_nonneg _, natCast_lt_256 h.2.2.1, Int.natCast_nonneg _,
      natCast_lt_256 h.2.2.2⟩
  | unlock n id rc tk a =>
    exact ⟨h.1, h.2.1, fit_length _ _, fit_length _ _, Int.natCast_nonneg _, natCast_lt_256 h.2.2⟩

theorem inRange_norm {tx : SysTx} (h : InRange tx) : norm tx = tx := by
  obtain ⟨_, hd⟩ := h
  cases tx with
  | newBlock n hh => simp only [norm, fit_of_length hd]
  | deposit n r => obtain ⟨h1, _, h3, _, _⟩ := hd; simp only [norm, fit_of_length h1, fit_of_length h3]
  | paid n id r => obtain ⟨_, h2, _, _⟩ := hd; simp only [norm, fit_of_length h2]
  | cancel2 n id => rfl
  | reward n id rc g gs =>
    obtain ⟨_, h2, h3, _, h5, _⟩ := hd
    simp only [norm, fit_of_length h2, Int.natAbs_of_nonneg h3, Int.natAbs_of_nonneg h5]
  | unlock n id rc tk a =>
    obtain ⟨_, h2, h3, h4, _⟩ := hd
    simp only [norm, fit_of_length h2, fit_of_length h3, Int.natAbs_of_nonneg h4]

/-- **the collisions, exactly**: over everything the Go types can hold, two system transactions have the same bytes iff
    they have the same normal form — the encoding forgets the cropped part of over-long hashes / addresses, leading zero
    padding of short ones, and the sign of `math.Int` amounts; nothing else. -/
theorem encodeSysTx_eq_iff_norm {a b : SysTx} (ha : NumRange a) (hb : NumRange b) :
    encodeSysTx a = encodeSysTx b ↔ norm a = norm b := by
  rw [← encodeSysTx_norm a, ← encodeSysTx_norm b]
  exact encodeSysTx_inj_iff (norm_inRange ha) (norm_inRange hb)

/-- decoding what the encoder produced gives the normal form -/
theorem decode_encode_norm (tx : SysTx) (h : NumRange tx) : decodeSysTx (encodeSysTx tx) = some (norm tx) := by
  rw [← encodeSysTx_norm tx]; exact decode_encode _ (norm_inRange h)

/-! ### non-vacuity: real transactions -/

example : rlpNat 0 = [0x80] := by decide +kernel
example : rlpNat 1 = [0x01] := by decide +kernel
example : rlpNat 127 = [0x7f] := by decide +kernel
example : rlpNat 128 = [0x81, 0x80] := by decide +kernel
example : rlpNat 255 = [0x81, 0xff] := by decide +kernel
example : rlpNat 256 = [0x82, 0x01, 0x00] := by decide +kernel
example : rlpNat (2 ^ 32) = [0x85, 0x01, 0x00, 0x00, 0x00, 0x00] := by decide +kernel
example : rlpNat (2 ^ 64 - 1) = [0x88, 0xff, 0xff, 0xff, 0xff, 0xff, 0xff, 0xff, 0xff] := by decide +kernel
example : rlpBytes [] = [0x80] := by decide +kernel
example : rlpList [] = [0xc0] := by decide +kernel
example : lenPrefix 0x80 55 = [0xb7] := by decide +kernel
example : lenPrefix 0x80 56 = [0xb8, 56] := by decide +kernel
example : lenPrefix 0xc0 55 = [0xf7] := by decide +kernel
example : lenPrefix 0xc0 256 = [0xf9, 0x01, 0x00] := by decide +kernel

/-! The six kinds, copied from traces of the real code (`kdrive -stream bitcoin -seed 7`, `-stream locking -seed 7`): the
    `txs=` text gives the fields (first `#guard`), the `raw=` hex is the real `tx.MarshalBinary()` (second `#guard`); the
    theorem is checked by the kernel.  `exBoundary` / `exNegative` come from a Go program calling the repository's own
    constructors: `NewRejectEthTx(2^64-1, 2^64-1)` and `Unlock{Id: 65536, Amount: -1}.EthTx(2^32-1)` (the negative amount
    is written as its absolute value). -/

def exNewBlock : SysTx :=
  .newBlock 1
    [0xd6, 0xf9, 0xb7, 0xbd, 0x85, 0x3b, 0x2b, 0xaf, 0x8f, 0x90, 0x0e, 0x2f, 0xcf, 0xae, 0x4f, 0x3c, 0xf6, 0x31, 0x40, 0x56, 0xe5, 0x81, 0xc3, 0x32,
      0x01, 0x4f, 0x9c, 0x58, 0xd2, 0xdc, 0x33, 0x1f]
def exNewBlockRaw : Bytes :=
  [0x60, 0xe8, 0x01, 0x04, 0x01, 0xa4, 0x94, 0xf4, 0x90, 0xbd, 0xd6, 0xf9, 0xb7, 0xbd, 0x85, 0x3b, 0x2b, 0xaf, 0x8f, 0x90, 0x0e, 0x2f, 0xcf, 0xae,
   0x4f, 0x3c, 0xf6, 0x31, 0x40, 0x56, 0xe5, 0x81, 0xc3, 0x32, 0x01, 0x4f, 0x9c, 0x58, 0xd2, 0xdc, 0x33, 0x1f]
#guard World.sysTxText exNewBlock == "nb|1|d6f9b7bd853b2baf8f900e2fcfae4f3cf6314056e581c332014f9c58d2dc331f"
#guard toHex exNewBlockRaw == "60e8010401a494f490bdd6f9b7bd853b2baf8f900e2fcfae4f3cf6314056e581c332014f9c58d2dc331f"
theorem exNewBlock_bytes : encodeSysTx exNewBlock = exNewBlockRaw := by decide +kernel

def exDeposit : SysTx :=
  .deposit 4
    { txid := [0xfc, 0xed, 0xf9, 0x4f, 0xf1, 0xb7, 0xd6, 0xfc, 0x6a, 0x8a, 0x1c, 0x4c, 0xd5, 0x74, 0x14, 0x79, 0x7e, 0x8a, 0x16, 0xaf, 0x61, 0x7a, 0xa6, 0x45,
      0xe2, 0xf6, 0x80, 0x8f, 0xa1, 0x1a, 0x50, 0x29],
      txout := 0,
      address := [0x47, 0x11, 0x3c, 0x95, 0xed, 0xd9, 0x1b, 0xd1, 0x94, 0xb2, 0x7a, 0x5a, 0x92, 0x9a, 0x85, 0x82, 0xa9, 0x9b, 0xa2, 0xb8],
      amount := 187526, tax := 360 }
def exDepositRaw : Bytes :=
  [0x60, 0xf8, 0xa9, 0x01, 0x01, 0x04, 0xb8, 0xa4, 0x90, 0x41, 0x83, 0xcb, 0xfc, 0xed, 0xf9, 0x4f, 0xf1, 0xb7, 0xd6, 0xfc, 0x6a, 0x8a, 0x1c, 0x4c,
   0xd5, 0x74, 0x14, 0x79, 0x7e, 0x8a, 0x16, 0xaf, 0x61, 0x7a, 0xa6, 0x45, 0xe2, 0xf6, 0x80, 0x8f, 0xa1, 0x1a, 0x50, 0x29, 0x00, 0x00, 0x00, 0x00,
   0x00, 0x00, 0x00, 0x00, 0x00, 0x00, 0x00, 0x00, 0x00, 0x00, 0x00, 0x00, 0x00, 0x00, 0x00, 0x00, 0x00, 0x00, 0x00, 0x00, 0x00, 0x00, 0x00, 0x00,
   0x00, 0x00, 0x00, 0x00, 0x00, 0x00, 0x00, 0x00, 0x00, 0x00, 0x00, 0x00, 0x00, 0x00, 0x00, 0x00, 0x47, 0x11, 0x3c, 0x95, 0xed, 0xd9, 0x1b, 0xd1,
   0x94, 0xb2, 0x7a, 0x5a, 0x92, 0x9a, 0x85, 0x82, 0xa9, 0x9b, 0xa2, 0xb8, 0x00, 0x00, 0x00, 0x00, 0x00, 0x00, 0x00, 0x00, 0x00, 0x00, 0x00, 0x00,
   0x00, 0x00, 0x00, 0x00, 0x00, 0x00, 0x00, 0x00, 0x00, 0x00, 0x00, 0x00, 0x00, 0x06, 0xa9, 0x89, 0xfe, 0x29, 0x58, 0x00, 0x00, 0x00, 0x00, 0x00,
   0x00, 0x00, 0x00, 0x00, 0x00, 0x00, 0x00, 0x00, 0x00, 0x00, 0x00, 0x00, 0x00, 0x00, 0x00, 0x00, 0x00, 0x00, 0x00, 0x00, 0x00, 0x00, 0x03, 0x46,
   0x30, 0xb8, 0xa0, 0x00]
#guard World.sysTxText exDeposit == "dep|4|fcedf94ff1b7d6fc6a8a1c4cd57414797e8a16af617aa645e2f6808fa11a5029|0|47113c95edd91bd194b27a5a929a8582a99ba2b8|1875260000000000|3600000000000"
#guard toHex exDepositRaw == "60f8a9010104b8a4904183cbfcedf94ff1b7d6fc6a8a1c4cd57414797e8a16af617aa645e2f6808fa11a5029000000000000000000000000000000000000000000000000000000000000000000000000000000000000000047113c95edd91bd194b27a5a929a8582a99ba2b80000000000000000000000000000000000000000000000000006a989fe2958000000000000000000000000000000000000000000000000000000034630b8a000"
theorem exDeposit_bytes : encodeSysTx exDeposit = exDepositRaw := by decide +kernel

def exPaid : SysTx :=
  .paid 23 7
    { txid := [0xce, 0xc2, 0xbf, 0x17, 0x65, 0xdb, 0x7d, 0xbb, 0xdb, 0x72, 0x96, 0x1a, 0xcc, 0x22, 0xd4, 0xee, 0x5b, 0xe4, 0xa2, 0x8a, 0x9d, 0xa2, 0x52, 0x30,
      0x1b, 0x8e, 0x92, 0xb1, 0xaa, 0xef, 0xf9, 0x7a],
      txout := 1, amount := 983 }
def exPaidRaw : Bytes :=
  [0x60, 0xf8, 0x89, 0x01, 0x03, 0x17, 0xb8, 0x84, 0xb6, 0x70, 0xab, 0x5e, 0x00, 0x00, 0x00, 0x00, 0x00, 0x00, 0x00, 0x00, 0x00, 0x00, 0x00, 0x00,
   0x00, 0x00, 0x00, 0x00, 0x00, 0x00, 0x00, 0x00, 0x00, 0x00, 0x00, 0x00, 0x00, 0x00, 0x00, 0x00, 0x00, 0x00, 0x00, 0x07, 0xce, 0xc2, 0xbf, 0x17,
   0x65, 0xdb, 0x7d, 0xbb, 0xdb, 0x72, 0x96, 0x1a, 0xcc, 0x22, 0xd4, 0xee, 0x5b, 0xe4, 0xa2, 0x8a, 0x9d, 0xa2, 0x52, 0x30, 0x1b, 0x8e, 0x92, 0xb1,
   0xaa, 0xef, 0xf9, 0x7a, 0x00, 0x00, 0x00, 0x00, 0x00, 0x00, 0x00, 0x00, 0x00, 0x00, 0x00, 0x00, 0x00, 0x00, 0x00, 0x00, 0x00, 0x00, 0x00, 0x00,
   0x00, 0x00, 0x00, 0x00, 0x00, 0x00, 0x00, 0x00, 0x00, 0x00, 0x00, 0x01, 0x00, 0x00, 0x00, 0x00, 0x00, 0x00, 0x00, 0x00, 0x00, 0x00, 0x00, 0x00,
   0x00, 0x00, 0x00, 0x00, 0x00, 0x00, 0x00, 0x00, 0x00, 0x00, 0x00, 0x00, 0x00, 0x00, 0x08, 0xf0, 0xb9, 0xa8, 0x7c, 0x00]
#guard World.sysTxText exPaid == "paid|23|7|cec2bf1765db7dbbdb72961acc22d4ee5be4a28a9da252301b8e92b1aaeff97a|1|9830000000000"
#guard toHex exPaidRaw == "60f889010317b884b670ab5e0000000000000000000000000000000000000000000000000000000000000007cec2bf1765db7dbbdb72961acc22d4ee5be4a28a9da252301b8e92b1aaeff97a0000000000000000000000000000000000000000000000000000000000000001000000000000000000000000000000000000000000000000000008f0b9a87c00"
theorem exPaid_bytes : encodeSysTx exPaid = exPaidRaw := by decide +kernel

def exCancel2 : SysTx :=
  .cancel2 2 1
def exCancel2Raw : Bytes :=
  [0x60, 0xe8, 0x01, 0x02, 0x02, 0xa4, 0xc1, 0x9d, 0xd3, 0x20, 0x00, 0x00, 0x00, 0x00, 0x00, 0x00, 0x00, 0x00, 0x00, 0x00, 0x00, 0x00, 0x00, 0x00,
   0x00, 0x00, 0x00, 0x00, 0x00, 0x00, 0x00, 0x00, 0x00, 0x00, 0x00, 0x00, 0x00, 0x00, 0x00, 0x00, 0x00, 0x01]
#guard World.sysTxText exCancel2 == "c2|2|1"
#guard toHex exCancel2Raw == "60e8010202a4c19dd3200000000000000000000000000000000000000000000000000000000000000001"
theorem exCancel2_bytes : encodeSysTx exCancel2 = exCancel2Raw := by decide +kernel

def exReward : SysTx :=
  .reward 2 187
    [0x52, 0x53, 0xa5, 0xa7, 0x6b, 0xb2, 0x69, 0x33, 0x0a, 0x7a, 0x20, 0xb9, 0xae, 0x9b, 0xef, 0x55, 0xb6, 0xee, 0x3d, 0xf1]
    3374999999999999989 123456789123458791
def exRewardRaw : Bytes :=
  [0x60, 0xf8, 0x89, 0x02, 0x02, 0x02, 0xb8, 0x84, 0xbd, 0x9f, 0xad, 0xb5, 0x00, 0x00, 0x00, 0x00, 0x00, 0x00, 0x00, 0x00, 0x00, 0x00, 0x00, 0x00,
   0x00, 0x00, 0x00, 0x00, 0x00, 0x00, 0x00, 0x00, 0x00, 0x00, 0x00, 0x00, 0x00, 0x00, 0x00, 0x00, 0x00, 0x00, 0x00, 0xbb, 0x00, 0x00, 0x00, 0x00,
   0x00, 0x00, 0x00, 0x00, 0x00, 0x00, 0x00, 0x00, 0x52, 0x53, 0xa5, 0xa7, 0x6b, 0xb2, 0x69, 0x33, 0x0a, 0x7a, 0x20, 0xb9, 0xae, 0x9b, 0xef, 0x55,
   0xb6, 0xee, 0x3d, 0xf1, 0x00, 0x00, 0x00, 0x00, 0x00, 0x00, 0x00, 0x00, 0x00, 0x00, 0x00, 0x00, 0x00, 0x00, 0x00, 0x00, 0x00, 0x00, 0x00, 0x00,
   0x00, 0x00, 0x00, 0x00, 0x2e, 0xd6, 0x68, 0x9e, 0x54, 0xf1, 0x7f, 0xf5, 0x00, 0x00, 0x00, 0x00, 0x00, 0x00, 0x00, 0x00, 0x00, 0x00, 0x00, 0x00,
   0x00, 0x00, 0x00, 0x00, 0x00, 0x00, 0x00, 0x00, 0x00, 0x00, 0x00, 0x00, 0x01, 0xb6, 0x9b, 0x4b, 0xac, 0xd0, 0x66, 0xe7]
#guard World.sysTxText exReward == "rew|2|187|5253a5a76bb269330a7a20b9ae9bef55b6ee3df1|3374999999999999989|123456789123458791"
#guard toHex exRewardRaw == "60f889020202b884bd9fadb500000000000000000000000000000000000000000000000000000000000000bb0000000000000000000000005253a5a76bb269330a7a20b9ae9bef55b6ee3df10000000000000000000000000000000000000000000000002ed6689e54f17ff500000000000000000000000000000000000000000000000001b69b4bacd066e7"
theorem exReward_bytes : encodeSysTx exReward = exRewardRaw := by decide +kernel

def exUnlock : SysTx :=
  .unlock 11 5
    [0xf5, 0x5f, 0x19, 0xa3, 0xdd, 0x7a, 0x22, 0x20, 0x82, 0x7b, 0xbd, 0xf9, 0x4d, 0x50, 0xdf, 0x93, 0xb7, 0x9c, 0x05, 0x4a]
    [0x5f, 0xac, 0xb8, 0x06, 0xae, 0x28, 0xaa, 0x7c, 0x73, 0xb0, 0xa2, 0xc9, 0x85, 0x6d, 0x6c, 0x33, 0x5a, 0x47, 0x58, 0xd2]
    71000000000000000680
def exUnlockRaw : Bytes :=
  [0x60, 0xf8, 0x89, 0x02, 0x01, 0x0b, 0xb8, 0x84, 0x00, 0xab, 0xa5, 0x1a, 0x00, 0x00, 0x00, 0x00, 0x00, 0x00, 0x00, 0x00, 0x00, 0x00, 0x00, 0x00,
   0x00, 0x00, 0x00, 0x00, 0x00, 0x00, 0x00, 0x00, 0x00, 0x00, 0x00, 0x00, 0x00, 0x00, 0x00, 0x00, 0x00, 0x00, 0x00, 0x05, 0x00, 0x00, 0x00, 0x00,
   0x00, 0x00, 0x00, 0x00, 0x00, 0x00, 0x00, 0x00, 0xf5, 0x5f, 0x19, 0xa3, 0xdd, 0x7a, 0x22, 0x20, 0x82, 0x7b, 0xbd, 0xf9, 0x4d, 0x50, 0xdf, 0x93,
   0xb7, 0x9c, 0x05, 0x4a, 0x00, 0x00, 0x00, 0x00, 0x00, 0x00, 0x00, 0x00, 0x00, 0x00, 0x00, 0x00, 0x5f, 0xac, 0xb8, 0x06, 0xae, 0x28, 0xaa, 0x7c,
   0x73, 0xb0, 0xa2, 0xc9, 0x85, 0x6d, 0x6c, 0x33, 0x5a, 0x47, 0x58, 0xd2, 0x00, 0x00, 0x00, 0x00, 0x00, 0x00, 0x00, 0x00, 0x00, 0x00, 0x00, 0x00,
   0x00, 0x00, 0x00, 0x00, 0x00, 0x00, 0x00, 0x00, 0x00, 0x00, 0x00, 0x03, 0xd9, 0x52, 0xab, 0xd3, 0x6c, 0xbc, 0x02, 0xa8]
#guard World.sysTxText exUnlock == "unl|11|5|f55f19a3dd7a2220827bbdf94d50df93b79c054a|5facb806ae28aa7c73b0a2c9856d6c335a4758d2|71000000000000000680"
#guard toHex exUnlockRaw == "60f88902010bb88400aba51a0000000000000000000000000000000000000000000000000000000000000005000000000000000000000000f55f19a3dd7a2220827bbdf94d50df93b79c054a0000000000000000000000005facb806ae28aa7c73b0a2c9856d6c335a4758d2000000000000000000000000000000000000000000000003d952abd36cbc02a8"
theorem exUnlock_bytes : encodeSysTx exUnlock = exUnlockRaw := by decide +kernel

def exBoundary : SysTx :=
  .cancel2 18446744073709551615 18446744073709551615
def exBoundaryRaw : Bytes :=
  [0x60, 0xf0, 0x01, 0x02, 0x88, 0xff, 0xff, 0xff, 0xff, 0xff, 0xff, 0xff, 0xff, 0xa4, 0xc1, 0x9d, 0xd3, 0x20, 0x00, 0x00, 0x00, 0x00, 0x00, 0x00,
   0x00, 0x00, 0x00, 0x00, 0x00, 0x00, 0x00, 0x00, 0x00, 0x00, 0x00, 0x00, 0x00, 0x00, 0x00, 0x00, 0x00, 0x00, 0xff, 0xff, 0xff, 0xff, 0xff, 0xff,
   0xff, 0xff]
#guard World.sysTxText exBoundary == "c2|18446744073709551615|18446744073709551615"
#guard toHex exBoundaryRaw == "60f0010288ffffffffffffffffa4c19dd320000000000000000000000000000000000000000000000000ffffffffffffffff"
theorem exBoundary_bytes : encodeSysTx exBoundary = exBoundaryRaw := by decide +kernel

def exNegative : SysTx :=
  .unlock 4294967295 65536
    [0x00, 0x00, 0x00, 0x00, 0x00, 0x00, 0x00, 0x00, 0x00, 0x00, 0x00, 0x00, 0x00, 0x00, 0x00, 0x00, 0x00, 0x00, 0x00, 0x00]
    [0x02, 0x27, 0x4c, 0x71, 0x96, 0xbb, 0xe0, 0x05, 0x2a, 0x4f, 0x74, 0x99, 0xbe, 0xe3, 0x08, 0x2d, 0x52, 0x77, 0x9c, 0xc1]
    (-1)
def exNegativeRaw : Bytes :=
  [0x60, 0xf8, 0x8d, 0x02, 0x01, 0x84, 0xff, 0xff, 0xff, 0xff, 0xb8, 0x84, 0x00, 0xab, 0xa5, 0x1a, 0x00, 0x00, 0x00, 0x00, 0x00, 0x00, 0x00, 0x00,
   0x00, 0x00, 0x00, 0x00, 0x00, 0x00, 0x00, 0x00, 0x00, 0x00, 0x00, 0x00, 0x00, 0x00, 0x00, 0x00, 0x00, 0x00, 0x00, 0x00, 0x00, 0x01, 0x00, 0x00,
   0x00, 0x00, 0x00, 0x00, 0x00, 0x00, 0x00, 0x00, 0x00, 0x00, 0x00, 0x00, 0x00, 0x00, 0x00, 0x00, 0x00, 0x00, 0x00, 0x00, 0x00, 0x00, 0x00, 0x00,
   0x00, 0x00, 0x00, 0x00, 0x00, 0x00, 0x00, 0x00, 0x00, 0x00, 0x00, 0x00, 0x00, 0x00, 0x00, 0x00, 0x00, 0x00, 0x00, 0x00, 0x02, 0x27, 0x4c, 0x71,
   0x96, 0xbb, 0xe0, 0x05, 0x2a, 0x4f, 0x74, 0x99, 0xbe, 0xe3, 0x08, 0x2d, 0x52, 0x77, 0x9c, 0xc1, 0x00, 0x00, 0x00, 0x00, 0x00, 0x00, 0x00, 0x00,
   0x00, 0x00, 0x00, 0x00, 0x00, 0x00, 0x00, 0x00, 0x00, 0x00, 0x00, 0x00, 0x00, 0x00, 0x00, 0x00, 0x00, 0x00, 0x00, 0x00, 0x00, 0x00, 0x00, 0x01]
#guard World.sysTxText exNegative == "unl|4294967295|65536|0000000000000000000000000000000000000000|02274c7196bbe0052a4f7499bee3082d52779cc1|-1"
#guard toHex exNegativeRaw == "60f88d020184ffffffffb88400aba51a0000000000000000000000000000000000000000000000000000000000010000000000000000000000000000000000000000000000000000000000000000000000000000000000000000000002274c7196bbe0052a4f7499bee3082d52779cc10000000000000000000000000000000000000000000000000000000000000001"
theorem exNegative_bytes : encodeSysTx exNegative = exNegativeRaw := by decide +kernel

/-- the hypotheses of the theorems are satisfiable: the six real transactions are in range (also in the narrower range
    of the Go types) -/
theorem examples_goRange : GoRange exNewBlock ∧ GoRange exDeposit ∧ GoRange exPaid ∧ GoRange exCancel2 ∧
    GoRange exReward ∧ GoRange exUnlock := by
  simp only [GoRange, exNewBlock, exDeposit, exPaid, exCancel2, exReward, exUnlock]
  decide +kernel

theorem examples_inRange : InRange exNewBlock ∧ InRange exDeposit ∧ InRange exPaid ∧ InRange exCancel2 ∧
    InRange exReward ∧ InRange exUnlock :=
  have h := examples_goRange
  ⟨h.1.inRange, h.2.1.inRange, h.2.2.1.inRange, h.2.2.2.1.inRange, h.2.2.2.2.1.inRange, h.2.2.2.2.2.inRange⟩

-- … and the real bytes decode back to them
#guard decodeSysTx exNewBlockRaw == some exNewBlock
#guard decodeSysTx exDepositRaw == some exDeposit
#guard decodeSysTx exPaidRaw == some exPaid
#guard decodeSysTx exCancel2Raw == some exCancel2
#guard decodeSysTx exRewardRaw == some exReward
#guard decodeSysTx exUnlockRaw == some exUnlock
theorem exCancel2_decodes : decodeSysTx exCancel2Raw = some exCancel2 := by decide +kernel

/-- a replayed nonce gives other bytes (instance of `encode_nonce_ne`) -/
example : encodeSysTx (setNonce 1 exCancel2) ≠ encodeSysTx exCancel2 := by decide +kernel

/-- the negative amount of `exNegative` (a value `math.Int` can hold) is outside the range, and indeed collides with
    its opposite -/
example : encodeSysTx exNegative = encodeSysTx (.unlock 4294967295 65536 (List.replicate 20 0)
    [0x02, 0x27, 0x4c, 0x71, 0x96, 0xbb, 0xe0, 0x05, 0x2a, 0x4f, 0x74, 0x99, 0xbe, 0xe3, 0x08, 0x2d, 0x52, 0x77, 0x9c, 0xc1] 1) := by
  rw [exNegative_bytes]; decide +kernel

end Goat.C06B
