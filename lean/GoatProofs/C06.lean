/-
  C06 — consensus-to-execution hand-over is exactly-once, ordered and gap-free: what ONE call of the
  dequeue of x/bitcoin and of x/locking hands over (caps, order, nonces, nothing lost), and that
  `NewBlockHashes` stores its hashes right above the tip.  C06H follows the queues over histories.
-/
import GoatProofs.Lemmas.BitcoinOps
import GoatProofs.Lemmas.LockingOps
namespace Goat.C06
open Goat.Bitcoin

def SysTx.nonce : SysTx → Nat
  | .newBlock n _ => n | .deposit n _ => n | .paid n _ _ => n | .cancel2 n _ => n
  | .reward n _ _ _ _ => n | .unlock n _ _ _ _ => n

/-- nonces `n, n+1, n+2, …` -/
def Consecutive : Nat → List SysTx → Prop
  | _, [] => True
  | n, t :: ts => SysTx.nonce t = n ∧ Consecutive (n + 1) ts

theorem consecutive_append (n : Nat) (a b : List SysTx) (ha : Consecutive n a) (hb : Consecutive (n + a.length) b) :
    Consecutive n (a ++ b) := by
  induction a generalizing n with
  | nil => simpa using hb
  | cons t ts ih =>
    obtain ⟨h1, h2⟩ := ha
    refine ⟨h1, ih (n + 1) h2 ?_⟩
    have : n + 1 + ts.length = n + (t :: ts).length := by simp; omega
    rw [this]; exact hb

theorem consecutive_number (n : Nat) (fs : List (Nat → SysTx)) (hf : ∀ f ∈ fs, ∀ i, SysTx.nonce (f i) = i) :
    Consecutive n (number n fs) ∧ (number n fs).length = fs.length := by
  refine ⟨?_, length_number fs n⟩
  induction fs generalizing n with
  | nil => trivial
  | cons f fs ih => exact ⟨hf f (List.mem_cons_self ..) n, ih (n + 1) (fun g hg => hf g (List.mem_cons_of_mem _ hg))⟩

theorem batch_nonce (hb : List Bytes) (ds : List DepositReceipt) (ps : List (Nat × Receipt)) (rs : List Nat) :
    ∀ f ∈ hb.map (fun h n => SysTx.newBlock n h) ++ ds.map (fun d n => SysTx.deposit n d) ++
        ps.map (fun p n => SysTx.paid n p.1 p.2) ++ rs.map (fun id n => SysTx.cancel2 n id), ∀ i, SysTx.nonce (f i) = i := by
  intro f hf i
  simp only [List.mem_append, List.mem_map] at hf
  rcases hf with ((⟨_, _, rfl⟩ | ⟨_, _, rfl⟩) | ⟨_, _, rfl⟩) | ⟨_, _, rfl⟩
  · rfl
  · rfl
  · rfl
  · rfl

/-- **Bridge dequeue: caps, nonces, nothing lost.**  One call hands over `nb ≤ 1` new block hashes and as
    many further system transactions as the first ≤ 8 queued deposits, the first ≤ 8 paid notices and the
    refunds up to the remaining part of those 8 make together; these prefixes are what leaves the queues
    (the rest stays, in order), the cursor of block hashes advances by `nb`, the transactions carry the
    consecutive nonces `nonce, nonce+1, …`, the stored nonce advances by exactly their number, and an empty
    hand-over changes nothing.  What each transaction carries (the hash above the cursor, the queued items
    kind by kind in queue order) is in `Bitcoin.dequeue_ok` and `C06H.dequeue_carries`. -/
theorem btc_dequeue_spec (s s' : State) (txs : List SysTx) (h : dequeue s = .ok (s', txs)) :
    ∃ (nb : Nat),
      let deps := s.queue.deposits.take 8
      let paid := s.queue.paid.take 8
      let rej := s.queue.rejected.take (8 - paid.length)
      nb ≤ 1 ∧ deps.length ≤ 8 ∧ paid.length + rej.length ≤ 8 ∧
      txs.length = nb + deps.length + paid.length + rej.length ∧
      Consecutive s.nonce txs ∧
      (txs = [] → s' = s) ∧
      (txs ≠ [] →
        s.queue.deposits = deps ++ s'.queue.deposits ∧ s.queue.paid = paid ++ s'.queue.paid ∧
        s.queue.rejected = rej ++ s'.queue.rejected ∧ s'.queue.blockNumber = s.queue.blockNumber + nb ∧
        s'.nonce = (s.nonce + txs.length) % two64) := by
  obtain ⟨hb, hlen, _, rfl, hq, he, hn⟩ := dequeue_ok h
  obtain ⟨c1, c2⟩ := consecutive_number s.nonce _ (batch_nonce hb (s.queue.deposits.take 8) (s.queue.paid.take 8)
    (s.queue.rejected.take (8 - (s.queue.paid.take 8).length)))
  refine ⟨hb.length, ?_⟩
  dsimp only
  refine ⟨hlen, ?_, ?_, ?_, c1, he, fun hne => ?_⟩
  · rw [List.length_take]; exact Nat.min_le_left ..
  · simp only [List.length_take]; omega
  · rw [c2]; simp only [List.length_append, List.length_map]
  · rw [hq]
    exact ⟨(List.take_append_drop ..).symm, (List.take_append_drop ..).symm, (List.take_append_drop ..).symm, rfl,
      congrArg State.nonce (hn hne)⟩

/-- **Voted block hashes are gap-free and append-only**: a successful batch starts right above the
    tip, stores its hashes at consecutive heights, moves the tip by their number, and never rewrites
    a height at or below the old tip. -/
theorem blockhashes_gapfree (rc : Relayer.Crypto) (chainId : String) (rel : Relayer.State) (s : State)
    (vote : Relayer.VoteMsg) (hv : Bool) (start : Nat) (hashes : List Bytes) (r : Relayer.State × State)
    (h : newBlockHashes rc chainId rel s vote hv start hashes = .ok r) :
    start = (s.tip + 1) % two64 ∧ r.2.tip = s.tip + hashes.length ∧
    (∀ k, (hk : k < hashes.length) → nlookup r.2.hashes (s.tip + 1 + k) = some hashes[k]) ∧
    (∀ j, j ≤ s.tip → nlookup r.2.hashes j = nlookup s.hashes j) ∧ r.2.queue = s.queue := by
  obtain ⟨_, _, _, _, _, hstart, _, _, _, rfl⟩ := newBlockHashes_ok h
  obtain ⟨k1, k2, k3⟩ := foldl_ninsert_above hashes s.hashes s.tip
  exact ⟨hstart, k1, k2, fun j hj => k3 j (Or.inl hj), rfl⟩

/-- **Locking dequeue: caps, order, nonces.**  At most 16 rewards then at most 16 unlocks, each kind
    first-in-first-out; nothing is dropped; the nonce advances by exactly the number handed over. Or both
    queues are empty and the state is unchanged. -/
theorem locking_dequeue_spec (s : Locking.State) :
    let r := Locking.dequeue s
    r.2.1.length ≤ 16 ∧ r.2.2.1.length ≤ 16 ∧
    s.qRewards = r.2.1 ++ r.1.qRewards ∧ s.qUnlocks = r.2.2.1 ++ r.1.qUnlocks ∧
    r.2.2.2 = s.nonce ∧ r.1.nonce = (s.nonce + r.2.1.length + r.2.2.1.length) % two64 ∨
    (s.qRewards = [] ∧ s.qUnlocks = [] ∧ (Locking.dequeue s).1 = s) := by
  dsimp only
  rw [Locking.dequeue_eq]
  by_cases h : s.qRewards = [] ∧ s.qUnlocks = []
  · right
    refine ⟨h.1, h.2, ?_⟩
    dsimp only
    rw [if_pos h, drop_of_eq_nil h.1, drop_of_eq_nil h.2]
  · left
    exact ⟨(List.length_take_le ..), (List.length_take_le ..), (List.take_append_drop ..).symm, (List.take_append_drop ..).symm,
      rfl, if_neg h⟩

end Goat.C06
