/-
  C07 — determinism of the state transition: order-insensitivity of the consensus-path loops that
  range (or ranged) over Go maps.

  (a) x/locking/keeper/abci.go:EndBlocker, removal loop `for val := range lastSet`
  (b) x/locking/keeper/msg_lock.go:Lock (aggregation map; repaired to first-request order, F3)
  (c) CometBFT's validator-set update (the consumer of the update list) does not depend on the
      order of the list, so comparing validator updates *as a set* is justified.

  The static part of C07 (every map range of consensus-path code is allow-listed, every source of
  non-determinism is confined) is `FactsThms.map_ranges_allowlisted` / `FactsThms.nondeterminism_confined`.
-/
import GoatModel.Locking
import GoatModel.Comet
import GoatProofs.Lemmas.Locking
import GoatProofs.Lemmas.LockingConserve
import GoatProofs.FactsThms
import GoatProofs.Lemmas.Bytes
namespace Goat.C07
open Goat.Locking

/-! ## (a) EndBlocker: the removal loop -/

/-- body of the first (ranking) loop of `endBlocker`, verbatim -/
def rankStep (acc : State × List (Bytes × Nat) × List Update) (e : Nat × Bytes) :
    Outcome (State × List (Bytes × Nat) × List Update) :=
  let (s, last, ups) := acc
  let addr := e.2
  match vget s addr with
  | none => (Outcome.err "not-found" : Outcome (State × List (Bytes × Nat) × List Update))
  | some v =>
    match v.status with
    | .active =>
      let old := ((last.find? (·.1 == addr)).map (·.2)).getD 0
      let last' := last.filter (·.1 != addr)
      if old ≠ v.power then
        .ok ({ s with valset := (s.valset.filter (·.1 != addr)) ++ [(addr, v.power)] }, last', ups ++ [{ pubkey := v.pubkey, power := v.power }])
      else .ok (s, last', ups)
    | .pending =>
      if last.any (·.1 == addr) then .err "pending-in-set"
      else
        let s1 := vset s addr { v with status := .active, offset := 0, missed := 0 }
        .ok ({ s1 with valset := s1.valset ++ [(addr, v.power)] }, last, ups ++ [{ pubkey := v.pubkey, power := v.power }])
    | _ => .err "status-in-ranking"

/-- the first phase of `endBlocker`: walk the top of the ranking, starting with `lastSet := valset` -/
def rankPhase (s : State) : Outcome (State × List (Bytes × Nat) × List Update) :=
  ((rankingDesc s).take s.params.maxValidators.toNat).foldlM rankStep (s, s.valset, [])

/-- body of the removal loop of `endBlocker`, verbatim -/
def removeStep (acc : State × List Update) (e : Bytes × Nat) : Outcome (State × List Update) :=
  let (s, ups) := acc
  match vget s e.1 with
  | none => (Outcome.err "not-found" : Outcome (State × List Update))
  | some v =>
    let s' := if v.status == .active then vset s e.1 { v with status := .pending } else s
    .ok ({ s' with valset := s'.valset.filter (·.1 != e.1) }, ups ++ [{ pubkey := v.pubkey, power := 0 }])

/-- `endBlocker` with the leftovers (the Go map `lastSet`) visited in the order chosen by `order` -/
def endBlockerWith (order : List (Bytes × Nat) → List (Bytes × Nat)) (s : State) : Outcome (State × List Update) :=
  match rankPhase s with
  | .err e => .err e
  | .panic e => .panic e
  | .ok (s1, leftovers, ups) => (order leftovers).foldlM removeStep (s1, ups)

/-- the model's `endBlocker` is `endBlockerWith` for the sorted order -/
theorem endBlocker_eq (s : State) :
    endBlocker s = endBlockerWith (fun l => l.mergeSort (fun a b => !bytesLt b.1 a.1)) s := rfl

/-! ### the two effects of one removal, as list functions -/

/-- in-place replacement of the record of `a` -/
def setV (l : List (Bytes × Validator)) (a : Bytes) (v : Validator) : List (Bytes × Validator) :=
  l.map (fun e => if e.1 == a then (a, v) else e)

/-- what one removal does to the validator table -/
def rmValidators (l : List (Bytes × Validator)) (a : Bytes) (v : Validator) : List (Bytes × Validator) :=
  if v.status == .active then setV l a { v with status := .pending } else l

/-- the state after the removal of `a`, whose record is `v` -/
def rmState (s : State) (a : Bytes) (v : Validator) : State :=
  let s' := if v.status == .active then vset s a { v with status := .pending } else s
  { s' with valset := s'.valset.filter (·.1 != a) }

theorem removeStep_eq (s : State) (ups : List Update) (e : Bytes × Nat) :
    removeStep (s, ups) e =
      match vget s e.1 with
      | none => .err "not-found"
      | some v => .ok (rmState s e.1 v, ups ++ [{ pubkey := v.pubkey, power := 0 }]) := rfl

/-- when `a` is present, a removal is a pure function of the two tables -/
theorem rmState_eq {s : State} {a : Bytes} {v : Validator} (h : vget s a = some v) :
    rmState s a v = { s with validators := rmValidators s.validators a v, valset := s.valset.filter (·.1 != a) } := by
  have hany := any_of_vget h
  unfold rmState rmValidators vset setV
  by_cases hs : (v.status == Status.active) = true
  · simp only [hs, if_true, hany]
  · simp only [hs, if_false, Bool.false_eq_true]

theorem vget_rmState_other (s : State) (a b : Bytes) (v : Validator) (hab : a ≠ b) :
    vget (rmState s a v) b = vget s b := by
  unfold rmState
  by_cases hs : (v.status == Status.active) = true
  · simp only [hs, if_true]
    exact (vget_congr _ (vset s a { v with status := .pending }) rfl b).trans (vget_vset_other s a b _ hab)
  · simp only [hs, if_false, Bool.false_eq_true]
    exact vget_congr _ s rfl b

theorem setV_comm (l : List (Bytes × Validator)) (a b : Bytes) (x y : Validator) (hab : a ≠ b) :
    setV (setV l a x) b y = setV (setV l b y) a x := by
  unfold setV
  rw [List.map_map, List.map_map]
  apply List.map_congr_left
  intro e _
  simp only [Function.comp]
  have hab' : (a == b) = false := bytes_beq_false_iff.mpr hab
  have hba : (b == a) = false := bytes_beq_false_iff.mpr (Ne.symm hab)
  by_cases ha : (e.1 == a) = true
  · have hb : (e.1 == b) = false := by rw [bytes_beq_iff.mp ha]; exact hab'
    rw [if_pos ha, hb, if_neg Bool.false_ne_true, if_neg (by rw [hab']; exact Bool.false_ne_true), if_pos ha]
  · by_cases hb : (e.1 == b) = true
    · rw [if_neg ha, if_pos hb, if_neg (by rw [hba]; exact Bool.false_ne_true)]
    · rw [if_neg ha, if_neg hb, if_neg ha]

theorem rmValidators_comm (l : List (Bytes × Validator)) (a b : Bytes) (x y : Validator) (hab : a ≠ b) :
    rmValidators (rmValidators l a x) b y = rmValidators (rmValidators l b y) a x := by
  unfold rmValidators
  by_cases hx : (x.status == Status.active) = true <;> by_cases hy : (y.status == Status.active) = true
  · simp only [hx, hy, if_true]; exact setV_comm l a b _ _ hab
  · simp only [hx, hy, if_true, if_false, Bool.false_eq_true]
  · simp only [hx, hy, if_true, if_false, Bool.false_eq_true]
  · simp only [hx, hy, if_false, Bool.false_eq_true]

/-- **two removals of distinct addresses commute, exactly** (the validator table is updated in place,
    the recorded set is filtered) -/
theorem rmState_comm {s : State} {a b : Bytes} {va vb : Validator} (hab : a ≠ b)
    (ha : vget s a = some va) (hb : vget s b = some vb) :
    rmState (rmState s a va) b vb = rmState (rmState s b vb) a va := by
  have hb' : vget (rmState s a va) b = some vb := (vget_rmState_other s a b va hab).trans hb
  have ha' : vget (rmState s b vb) a = some va := (vget_rmState_other s b a vb (Ne.symm hab)).trans ha
  rw [rmState_eq hb', rmState_eq ha', rmState_eq ha, rmState_eq hb]
  simp only [rmValidators_comm s.validators a b va vb hab, List.filter_filter]
  congr 2
  funext e
  exact Bool.and_comm _ _

/-! ### a successful EndBlocker read backwards -/

/-- a successful EndBlocker is a successful first phase followed by the removal loop over the sorted leftovers -/
theorem endBlocker_ok {s s' : State} {ups : List Update} (h : endBlocker s = .ok (s', ups)) :
    ∃ s1 leftovers ups1, rankPhase s = .ok (s1, leftovers, ups1) ∧
      (leftovers.mergeSort (fun a b => !bytesLt b.1 a.1)).foldlM removeStep (s1, ups1) = .ok (s', ups) := by
  rw [endBlocker_eq] at h
  unfold endBlockerWith at h
  split at h
  · cases h
  · cases h
  · exact ⟨_, _, _, ‹_›, h⟩

/-- what a successful iteration of the first loop did: an Active entry is struck from the leftovers and,
    if its power changed, recorded anew; a Pending entry is promoted (window counters zeroed) and recorded -/
theorem rankStep_inv {b : State} {last : List (Bytes × Nat)} {ups0 : List Update} {e : Nat × Bytes}
    {acc' : State × List (Bytes × Nat) × List Update} (h : rankStep (b, last, ups0) e = .ok acc') :
    ∃ u, vget b e.2 = some u ∧
      ((u.status = .active ∧ acc'.2.1 = last.filter (·.1 != e.2) ∧
          (acc'.1 = b ∨ acc'.1 = { b with valset := b.valset.filter (·.1 != e.2) ++ [(e.2, u.power)] })) ∨
       (u.status = .pending ∧ acc'.2.1 = last ∧
          acc'.1 = { vset b e.2 { u with status := .active, offset := 0, missed := 0 } with
                     valset := b.valset ++ [(e.2, u.power)] })) := by
  unfold rankStep at h
  dsimp only at h
  cases hu : vget b e.2 with
  | none => rw [hu] at h; cases h
  | some u =>
    rw [hu] at h
    dsimp only at h
    refine ⟨u, rfl, ?_⟩
    split at h
    · rename_i hst
      split at h <;> cases h
      · exact .inl ⟨hst, rfl, .inr rfl⟩
      · exact .inl ⟨hst, rfl, .inl rfl⟩
    · rename_i hst
      split at h <;> cases h
      exact .inr ⟨hst, rfl, rfl⟩
    · cases h

/-- EndBlocker writes the recorded set, promotes Pending validators (window counters zeroed) and sends
    Active ones that dropped out back to Pending: what these writes keep, EndBlocker keeps -/
theorem endBlocker_inv (P : State → Prop) (hval : ∀ t x, P t → P { t with valset := x })
    (hact : ∀ t a u, P t → vget t a = some u → u.status = .pending →
      P (vset t a { u with status := .active, offset := 0, missed := 0 }))
    (hpend : ∀ t a u, P t → vget t a = some u → u.status = .active → P (vset t a { u with status := .pending }))
    {s s' : State} {ups : List Update} (h : endBlocker s = .ok (s', ups)) (hs : P s) : P s' := by
  obtain ⟨s1, leftovers, ups1, h1, h2⟩ := endBlocker_ok h
  have hs1 : P s1 := by
    refine foldlM_inv (fun (acc : State × List (Bytes × Nat) × List Update) => P acc.1) _ ?_ _ _ _ hs h1
    intro ⟨b, last, ups0⟩ e acc' hacc hstep
    obtain ⟨u, hu, ⟨_, _, hb | hb⟩ | ⟨hst, _, hb⟩⟩ := rankStep_inv hstep <;> rw [hb]
    · exact hacc
    · exact hval _ _ hacc
    · exact hval _ _ (hact b e.2 u hacc hu hst)
  refine foldlM_inv (fun (acc : State × List Update) => P acc.1) _ ?_ _ _ _ hs1 h2
  intro ⟨b, ups0⟩ e acc' hacc hstep
  rw [removeStep_eq] at hstep
  cases hu : vget b e.1 with
  | none => rw [hu] at hstep; cases hstep
  | some u =>
    rw [hu] at hstep
    cases hstep
    unfold rmState
    split
    · exact hval _ _ (hpend b e.1 u hacc hu (eq_of_beq ‹_›))
    · exact hval _ _ hacc

/-! ### agreement of two runs -/

/-- Two outcomes of the removal loop *agree*: the same error (or panic) class, or success with
    **equal** states and update lists that are permutations of one another. -/
def Agree : Outcome (State × List Update) → Outcome (State × List Update) → Prop
  | .ok (s1, u1), .ok (s2, u2) => s1 = s2 ∧ u1.Perm u2
  | .err e1, .err e2 => e1 = e2
  | .panic e1, .panic e2 => e1 = e2
  | _, _ => False

theorem Agree.refl (x : Outcome (State × List Update)) : Agree x x := by
  cases x with
  | ok p => exact ⟨rfl, List.Perm.refl _⟩
  | err e => exact rfl
  | panic e => exact rfl

theorem Agree.symm {x y : Outcome (State × List Update)} (h : Agree x y) : Agree y x := by
  cases x <;> cases y <;> first | exact h.elim | skip
  · exact ⟨h.1.symm, h.2.symm⟩
  · exact Eq.symm h
  · exact Eq.symm h

theorem Agree.trans {x y z : Outcome (State × List Update)} (h1 : Agree x y) (h2 : Agree y z) : Agree x z := by
  cases x <;> cases y <;> first | exact h1.elim | skip
  all_goals cases z <;> first | exact h2.elim | skip
  · exact ⟨h1.1.trans h2.1, h1.2.trans h2.2⟩
  · exact Eq.trans h1 h2
  · exact Eq.trans h1 h2

/-- unpacking: agreement with a successful run -/
theorem Agree.of_ok {x : Outcome (State × List Update)} {s : State} {u : List Update} (h : Agree x (.ok (s, u))) :
    ∃ u', x = .ok (s, u') ∧ u'.Perm u := by
  cases x with
  | ok p => obtain ⟨s', u'⟩ := p; obtain ⟨h1, h2⟩ := h; subst h1; exact ⟨u', rfl, h2⟩
  | err e => exact h.elim
  | panic e => exact h.elim

/-- unpacking: agreement with a failed run -/
theorem Agree.of_err {x : Outcome (State × List Update)} {e : String} (h : Agree x (.err e)) : x = .err e := by
  cases x with
  | ok p => exact h.elim
  | err e' => exact congrArg _ h
  | panic e => exact h.elim

/-- agreeing runs succeed or fail together -/
theorem Agree.isOk_eq {x y : Outcome (State × List Update)} (h : Agree x y) : x.isOk = y.isOk := by
  cases x <;> cases y <;> first | exact h.elim | rfl

/-- the removal loop from two accumulators that differ only by a permutation of the updates -/
theorem removals_congr (l : List (Bytes × Nat)) (s : State) {u1 u2 : List Update} (hu : u1.Perm u2) :
    Agree (l.foldlM removeStep (s, u1)) (l.foldlM removeStep (s, u2)) := by
  induction l generalizing s u1 u2 with
  | nil => exact ⟨rfl, hu⟩
  | cons e l ih =>
    rw [List.foldlM_cons, List.foldlM_cons, removeStep_eq, removeStep_eq]
    cases vget s e.1 with
    | none => exact rfl
    | some v => exact ih _ (List.Perm.append_right _ hu)

/-- **commutation of two removals** of distinct addresses, in front of any remaining list -/
theorem removeStep_swap (a b : Bytes × Nat) (l : List (Bytes × Nat)) (s : State) (u : List Update) (hab : a.1 ≠ b.1) :
    Agree ((a :: b :: l).foldlM removeStep (s, u)) ((b :: a :: l).foldlM removeStep (s, u)) := by
  rw [List.foldlM_cons, List.foldlM_cons, removeStep_eq, removeStep_eq]
  cases ha : vget s a.1 with
  | none =>
    cases hb : vget s b.1 with
    | none => exact rfl
    | some vb =>
      show Agree (.err "not-found") (List.foldlM removeStep _ (a :: l))
      rw [List.foldlM_cons, removeStep_eq, vget_rmState_other s b.1 a.1 vb (Ne.symm hab), ha]
      exact rfl
  | some va =>
    cases hb : vget s b.1 with
    | none =>
      show Agree (List.foldlM removeStep _ (b :: l)) (.err "not-found")
      rw [List.foldlM_cons, removeStep_eq, vget_rmState_other s a.1 b.1 va hab, hb]
      exact rfl
    | some vb =>
      show Agree (List.foldlM removeStep _ (b :: l)) (List.foldlM removeStep _ (a :: l))
      rw [List.foldlM_cons, removeStep_eq, vget_rmState_other s a.1 b.1 va hab, hb,
          List.foldlM_cons, removeStep_eq, vget_rmState_other s b.1 a.1 vb (Ne.symm hab), ha]
      show Agree (List.foldlM removeStep _ l) (List.foldlM removeStep _ l)
      rw [rmState_comm hab ha hb]
      apply removals_congr
      rw [List.append_assoc, List.append_assoc]
      exact List.Perm.append_left _ (List.Perm.swap _ _ [])

/-- **the removal loop is insensitive to the order in which the leftovers are visited**, as long as
    their addresses are pairwise distinct (they are the keys of a Go map) -/
theorem removals_perm {l l' : List (Bytes × Nat)} (hp : l.Perm l') (hnd : (l.map (·.1)).Nodup)
    (s : State) (u : List Update) :
    Agree (l.foldlM removeStep (s, u)) (l'.foldlM removeStep (s, u)) := by
  induction hp generalizing s u with
  | nil => exact Agree.refl _
  | cons x _ ih =>
    rw [List.map_cons, List.nodup_cons] at hnd
    rw [List.foldlM_cons, List.foldlM_cons, removeStep_eq]
    cases vget s x.1 with
    | none => exact rfl
    | some v => exact ih hnd.2 _ _
  | swap x y l =>
    rw [List.map_cons, List.map_cons, List.nodup_cons] at hnd
    exact removeStep_swap y x l s u (fun h => hnd.1 (by rw [h]; exact List.mem_cons_self))
  | trans h1 _ ih1 ih2 =>
    exact Agree.trans (ih1 hnd s u) (ih2 ((h1.map (·.1)).nodup hnd) s u)

/-! ### the leftovers have pairwise distinct addresses -/

theorem rankStep_sublist {acc res : State × List (Bytes × Nat) × List Update} {e : Nat × Bytes}
    (h : rankStep acc e = .ok res) : res.2.1.Sublist acc.2.1 := by
  obtain ⟨s, last, ups⟩ := acc
  unfold rankStep at h
  dsimp only at h
  split at h
  · cases h
  · split at h
    · split at h <;> cases h <;> exact List.filter_sublist
    · split at h <;> cases h
      exact List.Sublist.refl _
    · cases h

theorem rankFold_sublist (l : List (Nat × Bytes)) {acc res : State × List (Bytes × Nat) × List Update}
    (h : l.foldlM rankStep acc = .ok res) : res.2.1.Sublist acc.2.1 := by
  induction l generalizing acc with
  | nil => cases h; exact List.Sublist.refl _
  | cons e l ih =>
    rw [List.foldlM_cons] at h
    cases hr : rankStep acc e with
    | ok acc' =>
      rw [hr] at h
      exact (ih h).trans (rankStep_sublist hr)
    | err x => rw [hr] at h; cases h
    | panic x => rw [hr] at h; cases h

/-- the leftovers handed to the removal loop are a sub-list of the recorded validator set (entries
    are only ever deleted from `lastSet`) -/
theorem leftovers_sublist {s s1 : State} {lo : List (Bytes × Nat)} {ups : List Update}
    (h : rankPhase s = .ok (s1, lo, ups)) : lo.Sublist s.valset :=
  rankFold_sublist _ h

/-- hence their addresses are pairwise distinct whenever those of the recorded set are -/
theorem leftovers_nodup {s s1 : State} {lo : List (Bytes × Nat)} {ups : List Update}
    (h : rankPhase s = .ok (s1, lo, ups)) (hnd : (s.valset.map (·.1)).Nodup) : (lo.map (·.1)).Nodup :=
  List.Nodup.sublist ((leftovers_sublist h).map _) hnd

/-! ### main theorems of (a) -/

/-- **C07, removal loop, list form.**  Running the removal loop over any permutation `lo'` of the
    leftovers `lo` (pairwise distinct addresses) from the same state and the same updates-so-far
    fails with the same error, or succeeds with *exactly the same* state and a list of validator
    updates that is a permutation of the other one. -/
theorem removal_loop_order_insensitive (s1 : State) (ups : List Update) (lo lo' : List (Bytes × Nat))
    (hp : lo'.Perm lo) (hnd : (lo.map (·.1)).Nodup) :
    Agree (lo'.foldlM removeStep (s1, ups)) (lo.foldlM removeStep (s1, ups)) :=
  removals_perm hp ((hp.map (·.1)).symm.nodup hnd) s1 ups

/-- **C07, EndBlocker.**  Whatever order the Go runtime picks for `range lastSet` (any function
    `order` that returns a permutation of its argument), `EndBlocker` agrees with the model's sorted
    traversal: the same error, or the same final state and the same validator updates up to order.
    The only hypothesis is that the recorded validator set has pairwise distinct addresses. -/
theorem endBlocker_removal_order_insensitive (s : State) (order : List (Bytes × Nat) → List (Bytes × Nat))
    (hord : ∀ l, (order l).Perm l) (hnd : (s.valset.map (·.1)).Nodup) :
    Agree (endBlockerWith order s) (endBlocker s) := by
  rw [endBlocker_eq]
  unfold endBlockerWith
  cases hr : rankPhase s with
  | err e => exact rfl
  | panic e => exact rfl
  | ok r =>
    obtain ⟨s1, lo, ups⟩ := r
    have hlo := leftovers_nodup hr hnd
    exact removals_perm ((hord lo).trans (List.mergeSort_perm lo _).symm) (((hord lo).map (·.1)).symm.nodup hlo) s1 ups

/-- two arbitrary traversal orders agree with each other -/
theorem endBlocker_any_two_orders (s : State) (o1 o2 : List (Bytes × Nat) → List (Bytes × Nat))
    (h1 : ∀ l, (o1 l).Perm l) (h2 : ∀ l, (o2 l).Perm l) (hnd : (s.valset.map (·.1)).Nodup) :
    Agree (endBlockerWith o1 s) (endBlockerWith o2 s) :=
  (endBlocker_removal_order_insensitive s o1 h1 hnd).trans (endBlocker_removal_order_insensitive s o2 h2 hnd).symm

/-- explicit form: if the model's `endBlocker` succeeds, so does every other traversal order, with
    the same state and a permutation of the updates; if it fails, every order fails the same way -/
theorem endBlocker_order_explicit (s : State) (order : List (Bytes × Nat) → List (Bytes × Nat))
    (hord : ∀ l, (order l).Perm l) (hnd : (s.valset.map (·.1)).Nodup) :
    (∀ s' ups, endBlocker s = .ok (s', ups) → ∃ ups', endBlockerWith order s = .ok (s', ups') ∧ ups'.Perm ups) ∧
    (∀ e, endBlocker s = .err e → endBlockerWith order s = .err e) := by
  have h := endBlocker_removal_order_insensitive s order hord hnd
  constructor
  · intro s' ups he; rw [he] at h; exact h.of_ok
  · intro e he; rw [he] at h; exact h.of_err

/-! ### a concrete instance: the hypotheses are satisfiable and `Perm` (not `=`) is sharp for the updates -/

def exV (pk : Bytes) (st : Status) : Validator :=
  { pubkey := pk, power := 5, locking := [], reward := 0, gasReward := 0, status := st, offset := 0, missed := 0, jailedUntil := 0 }

def exS : State :=
  { (default : State) with
    validators := [([1], exV [11] .active), ([2], exV [12] .downgrade), ([3], exV [13] .active)],
    valset := [([1], 5), ([2], 5), ([3], 5)] }

def upsOf : Outcome (State × List Update) → List Update
  | .ok (_, u) => u
  | _ => []

example : (([([1], 5), ([2], 5)] : List (Bytes × Nat)).map (·.1)).Nodup := by decide
example : upsOf ([([1], 5), ([2], 5)].foldlM removeStep (exS, [])) = [⟨[11], 0⟩, ⟨[12], 0⟩] := by decide +kernel
example : upsOf ([([2], 5), ([1], 5)].foldlM removeStep (exS, [])) = [⟨[12], 0⟩, ⟨[11], 0⟩] := by decide +kernel
example : Agree ([([2], 5), ([1], 5)].foldlM removeStep (exS, [])) ([([1], 5), ([2], 5)].foldlM removeStep (exS, [])) :=
  removal_loop_order_insensitive exS [] _ _ (List.Perm.swap _ _ []) (by decide)

/-! ## (b) Lock: aggregation of the requests per validator -/

/-! ### the aggregation fold -/

/-- body of the aggregation loop of `aggregateLocks`, verbatim -/
def aggStep (acc : List (Bytes × Coins)) (r : LockReq) : List (Bytes × Coins) :=
  let cur := ((acc.find? (·.1 == r.validator)).map (·.2)).getD []
  let cur' := addCoin cur r.token r.amount
  if acc.any (·.1 == r.validator) then acc.map (fun e => if e.1 == r.validator then (e.1, cur') else e)
  else acc ++ [(r.validator, cur')]

/-- the aggregated requests (the Go `updates` map together with its first-insertion order) -/
def aggregate (reqs : List LockReq) : List (Bytes × Coins) := reqs.foldl aggStep []

/-- `aggregateLocks` is `aggregate` plus the 256-bit overflow check; it depends on the request list
    only (no state, no clock, no map order) and never returns an error -/
theorem aggregateLocks_eq (reqs : List LockReq) :
    aggregateLocks reqs =
      if (aggregate reqs).any (fun e => e.2.any (fun c => !fits256 c.2)) then .panic "int-overflow"
      else .ok (aggregate reqs) := rfl

theorem aggregateLocks_never_err (reqs : List LockReq) (e : String) : aggregateLocks reqs ≠ .err e := by
  rw [aggregateLocks_eq]
  split <;> intro h <;> cases h

/-- the validators of an aggregate, in list order -/
def keys (l : List (Bytes × Coins)) : List Bytes := l.map (·.1)

/-- the coins recorded for validator `v` -/
def coinsOf (v : Bytes) (l : List (Bytes × Coins)) : Coins := ((l.find? (·.1 == v)).map (·.2)).getD []

/-- one request either leaves the key list alone (validator already present) or appends its validator -/
theorem keys_aggStep (acc : List (Bytes × Coins)) (r : LockReq) :
    keys (aggStep acc r) = if r.validator ∈ keys acc then keys acc else keys acc ++ [r.validator] :=
  (congrArg keys (Locking.aggStep_eq acc r)).trans (keys_aset acc r.validator _)

theorem keys_fold (rs : List LockReq) (acc : List (Bytes × Coins)) :
    keys (rs.foldl aggStep acc) =
      keys acc ++ ((rs.map (·.validator)).filter (fun v => !(keys acc).contains v)).eraseDups := by
  induction rs generalizing acc with
  | nil => exact (List.append_nil _).symm
  | cons r rs ih =>
    rw [List.foldl_cons, ih, keys_aggStep, List.map_cons, List.filter_cons]
    split
    · rw [List.contains_iff_mem.mpr ‹_›, if_neg (by decide)]
    · rw [Bool.eq_false_iff.mpr (fun h => ‹r.validator ∉ keys acc› (List.contains_iff_mem.mp h)), if_pos (by decide),
        List.eraseDups_cons, List.filter_filter, List.append_assoc]
      refine congrArg (fun f => keys acc ++ r.validator :: (List.filter f _).eraseDups) (funext fun v => ?_)
      rw [List.contains_append, List.contains_cons, List.contains_nil, Bool.or_false, Bool.not_or, Bool.and_comm]

/-- **validators appear in the order of their first request**: the key list of the aggregate is the
    list of requested validators with later duplicates erased (`List.eraseDups` keeps first occurrences) -/
theorem keys_aggregate (reqs : List LockReq) : keys (aggregate reqs) = (reqs.map (·.validator)).eraseDups := by
  unfold aggregate
  rw [keys_fold]
  have : (List.filter (fun v => !(keys ([] : List (Bytes × Coins))).contains v) (reqs.map (·.validator))) = reqs.map (·.validator) :=
    List.filter_eq_self.mpr (fun _ _ => rfl)
  rw [this]; rfl

theorem keys_nodup_fold (rs : List LockReq) (acc : List (Bytes × Coins)) (h : (keys acc).Nodup) :
    (keys (rs.foldl aggStep acc)).Nodup := by
  induction rs generalizing acc with
  | nil => exact h
  | cons r rs ih =>
    rw [List.foldl_cons]
    refine ih _ ?_
    show AKeys (Locking.aggStep acc r)
    rw [Locking.aggStep_eq]
    exact akeys_aset _ _ _ h

/-- **each validator appears once** in the aggregate -/
theorem keys_aggregate_nodup (reqs : List LockReq) : (keys (aggregate reqs)).Nodup :=
  keys_nodup_fold reqs [] (by simp [keys])

/-- the aggregate has an entry for exactly the validators that occur in some request -/
theorem mem_keys_aggregate (reqs : List LockReq) (v : Bytes) :
    v ∈ keys (aggregate reqs) ↔ ∃ r ∈ reqs, r.validator = v := by
  rw [keys_aggregate, List.mem_eraseDups, List.mem_map]

/-- first-occurrence order, spelled out with positions: if `a` comes before `b` in the aggregate then
    the first request for `a` comes before the first request for `b` -/
theorem keys_fold_idx (rs p : List LockReq) (acc : List (Bytes × Coins))
    (hmem : ∀ a, a ∈ keys acc ↔ a ∈ p.map (·.validator))
    (hpw : (keys acc).Pairwise (fun a b => (p.map (·.validator)).idxOf a < (p.map (·.validator)).idxOf b)) :
    (keys (rs.foldl aggStep acc)).Pairwise
      (fun a b => ((p ++ rs).map (·.validator)).idxOf a < ((p ++ rs).map (·.validator)).idxOf b) := by
  induction rs generalizing p acc with
  | nil => rwa [List.append_nil]
  | cons r rs ih =>
    rw [List.foldl_cons, List.append_cons]
    -- the positions of the validators seen so far do not change when `r` is appended
    have hidx : ∀ a, a ∈ keys acc →
        ((p ++ [r]).map (·.validator)).idxOf a = (p.map (·.validator)).idxOf a := by
      intro a ha
      rw [List.map_append, List.idxOf_append, if_pos ((hmem a).mp ha)]
    have hpw' : (keys acc).Pairwise (fun a b =>
        ((p ++ [r]).map (·.validator)).idxOf a < ((p ++ [r]).map (·.validator)).idxOf b) :=
      hpw.imp_of_mem fun ha hb hab => by rw [hidx _ ha, hidx _ hb]; exact hab
    refine ih (p ++ [r]) _ (fun a => ?_) ?_ <;> rw [keys_aggStep]
    · rw [List.map_append, List.mem_append, List.map_singleton, List.mem_singleton, ← hmem a]
      split
      · exact ⟨Or.inl, fun h => h.elim id (fun h => h ▸ ‹_›)⟩
      · rw [List.mem_append, List.mem_singleton]
    · split
      · exact hpw'
      · rename_i hm
        refine List.pairwise_append.mpr ⟨hpw', List.pairwise_singleton _ _, fun a ha b hb => ?_⟩
        rw [List.mem_singleton.mp hb, hidx a ha, List.map_append, List.idxOf_append,
          if_neg (fun h => hm ((hmem _).mpr h))]
        exact Nat.lt_add_left _ (List.idxOf_lt_length_of_mem ((hmem a).mp ha))

theorem keys_aggregate_first_occurrence (reqs : List LockReq) :
    (keys (aggregate reqs)).Pairwise
      (fun a b => (reqs.map (·.validator)).idxOf a < (reqs.map (·.validator)).idxOf b) := by
  have := keys_fold_idx reqs [] [] (by simp [keys]) (by simp [keys])
  simpa [aggregate] using this

/-! ### the aggregated coins -/

/-- one request adds its coin to the coins of its validator and touches no other validator -/
theorem coinsOf_aggStep (v : Bytes) (acc : List (Bytes × Coins)) (r : LockReq) :
    coinsOf v (aggStep acc r) = if r.validator = v then addCoin (coinsOf v acc) r.token r.amount else coinsOf v acc := by
  show (aget (Locking.aggStep acc r) v).getD [] = _
  rw [Locking.aggStep_eq]
  by_cases hv : r.validator = v
  · subst hv
    rw [if_pos rfl, aget_aset_same]
    rfl
  · rw [if_neg hv, aget_aset_other _ _ _ _ hv]
    rfl

/-- the coins of `v` after a run of requests: its own requests folded in request order -/
theorem coinsOf_fold (v : Bytes) (rs : List LockReq) (acc : List (Bytes × Coins)) :
    coinsOf v (rs.foldl aggStep acc) =
      (rs.filter (·.validator == v)).foldl (fun c r => addCoin c r.token r.amount) (coinsOf v acc) := by
  induction rs generalizing acc with
  | nil => rfl
  | cons r rs ih =>
    rw [List.foldl_cons, ih, coinsOf_aggStep, List.filter_cons]
    by_cases hv : r.validator = v
    · have : (r.validator == v) = true := bytes_beq_iff.mpr hv
      rw [if_pos hv, if_pos this, List.foldl_cons]
    · have : ¬ (r.validator == v) = true := fun h => hv (bytes_beq_iff.mp h)
      rw [if_neg hv, if_neg this]

theorem amountOf_fold_addCoin (rs : List LockReq) (c : Coins) (d : String) :
    amountOf (rs.foldl (fun c r => addCoin c r.token r.amount) c) d =
      amountOf c d + ((rs.filter (·.token == d)).map (·.amount)).sum := by
  induction rs generalizing c with
  | nil => simp
  | cons r rs ih =>
    rw [List.foldl_cons, ih, amountOf_addCoin, List.filter_cons]
    by_cases hd : r.token = d
    · rw [if_pos hd, if_pos (beq_iff_eq.mpr hd), List.map_cons, List.sum_cons, Int.add_assoc]
    · rw [if_neg hd, if_neg (fun h => hd (beq_iff_eq.mp h)), Int.add_zero]

/-- **the aggregated amount of token `d` for validator `v` is the sum of the amounts of `v`'s requests
    for `d`** (unconditionally — no assumption on signs, order or sortedness) -/
theorem aggregate_amount (reqs : List LockReq) (v : Bytes) (d : String) :
    amountOf (coinsOf v (aggregate reqs)) d =
      ((reqs.filter (fun r => r.validator == v && r.token == d)).map (·.amount)).sum := by
  unfold aggregate
  rw [coinsOf_fold, amountOf_fold_addCoin, List.filter_filter]
  have h0 : amountOf (coinsOf v []) d = 0 := rfl
  rw [h0, Int.zero_add]
  congr 2
  exact List.filter_congr (fun r _ => Bool.and_comm _ _)

/-- the *content* of the aggregate (what the Go map held) does not depend on the order of the
    requests at all; only the traversal order does, and that is fixed by `keys_aggregate` -/
theorem aggregate_amount_perm {reqs reqs' : List LockReq} (hp : reqs.Perm reqs') (v : Bytes) (d : String) :
    amountOf (coinsOf v (aggregate reqs)) d = amountOf (coinsOf v (aggregate reqs')) d := by
  rw [aggregate_amount, aggregate_amount]
  exact sum_perm ((hp.filter (fun r => r.validator == v && r.token == d)).map (·.amount))

/-- **C07, Lock.**  Everything that makes the (repaired) aggregation deterministic, in one statement:
    a successful `aggregateLocks` returns a list that is a function of the request list only, in which
    every requested validator appears exactly once, in the order of first request, holding for every
    token the sum of that validator's requested amounts. -/
theorem aggregateLocks_deterministic {reqs : List LockReq} {agg : List (Bytes × Coins)}
    (h : aggregateLocks reqs = .ok agg) :
    agg = aggregate reqs ∧
    (agg.map (·.1)).Nodup ∧
    agg.map (·.1) = (reqs.map (·.validator)).eraseDups ∧
    (agg.map (·.1)).Pairwise (fun a b => (reqs.map (·.validator)).idxOf a < (reqs.map (·.validator)).idxOf b) ∧
    (∀ v, v ∈ agg.map (·.1) ↔ ∃ r ∈ reqs, r.validator = v) ∧
    (∀ v d, amountOf (coinsOf v agg) d = ((reqs.filter (fun r => r.validator == v && r.token == d)).map (·.amount)).sum) := by
  obtain rfl : agg = aggregate reqs := Locking.aggregateLocks_ok reqs agg h
  exact ⟨rfl, keys_aggregate_nodup reqs, keys_aggregate reqs, keys_aggregate_first_occurrence reqs,
    mem_keys_aggregate reqs, aggregate_amount reqs⟩

/-- since each validator appears once, `coinsOf v agg` is the coins of *the* entry of `v` -/
theorem coinsOf_of_mem {agg : List (Bytes × Coins)} (hnd : (keys agg).Nodup) {v : Bytes} {c : Coins}
    (hm : (v, c) ∈ agg) : coinsOf v agg = c := by
  unfold coinsOf
  induction agg with
  | nil => cases hm
  | cons e es ih =>
    unfold keys at hnd ih
    rw [List.map_cons, List.nodup_cons] at hnd
    rw [List.find?_cons]
    rcases List.mem_cons.mp hm with h | h
    · subst h; simp
    · have hne : (e.1 == v) = false := by
        have : e.1 ≠ v := fun he => hnd.1 (he ▸ List.mem_map.mpr ⟨(v, c), h, rfl⟩)
        simpa using this
      rw [hne]
      exact ih hnd.2 h

/-- a concrete run: two validators, interleaved requests, two tokens -/
def exReqs : List LockReq :=
  [⟨[2], "btc", 5⟩, ⟨[1], "goat", 3⟩, ⟨[2], "btc", 7⟩, ⟨[2], "goat", 1⟩]

example : aggregateLocks exReqs = .ok [([2], [("btc", 12), ("goat", 1)]), ([1], [("goat", 3)])] := by decide +kernel

/-- the same requests in another order: same content, other traversal order (the order is part of the
    result, which is why the Go code must not take it from a map) -/
example : aggregateLocks [exReqs[1], exReqs[0], exReqs[3], exReqs[2]] =
    .ok [([1], [("goat", 3)]), ([2], [("btc", 12), ("goat", 1)])] := by decide +kernel

/-! ## (c) CometBFT's validator-set update does not depend on the order of the update list -/

section CometOrder
open Goat.Comet

theorem hasDup_false_iff_nodup (l : List Bytes) : hasDup l = false ↔ l.Nodup := by
  induction l with
  | nil => simp [hasDup]
  | cons x xs ih =>
    rw [hasDup, List.nodup_cons, Bool.or_eq_false_iff, ih]
    simp

/-- the duplicate check is itself order-insensitive -/
theorem hasDup_perm {l l' : List Bytes} (hp : l.Perm l') : hasDup l = hasDup l' := by
  cases h1 : hasDup l <;> cases h2 : hasDup l' <;> try rfl
  · have := hp.nodup ((hasDup_false_iff_nodup l).mp h1)
    rw [(hasDup_false_iff_nodup l').mpr this] at h2; cases h2
  · have := hp.symm.nodup ((hasDup_false_iff_nodup l').mp h2)
    rw [(hasDup_false_iff_nodup l).mpr this] at h1; cases h1

/-- looking up a key in a list with pairwise distinct keys does not depend on the list order -/
theorem find_key_perm {l l' : List (Bytes × Int)} (hp : l.Perm l') (hnd : (l.map (·.1)).Nodup) (k : Bytes) :
    l.find? (·.1 == k) = l'.find? (·.1 == k) := by
  induction hp with
  | nil => rfl
  | cons x _ ih =>
    rw [List.map_cons, List.nodup_cons] at hnd
    rw [List.find?_cons, List.find?_cons, ih hnd.2]
  | swap x y l =>
    rw [List.map_cons, List.map_cons, List.nodup_cons] at hnd
    rw [List.find?_cons, List.find?_cons, List.find?_cons, List.find?_cons]
    by_cases hx : (x.1 == k) = true <;> by_cases hy : (y.1 == k) = true
    · have h1 : x.1 = k := bytes_beq_iff.mp hx
      have h2 : y.1 = k := bytes_beq_iff.mp hy
      exact absurd (by rw [h1, h2]; exact List.mem_cons_self) hnd.1
    · simp [hx, hy]
    · simp [hx, hy]
    · simp [hx, hy]
  | trans h1 _ ih1 ih2 => exact (ih1 hnd).trans (ih2 ((h1.map (·.1)).nodup hnd))

/-- the removals of an update list -/
def dels (ups : List (Bytes × Int)) : List (Bytes × Int) := ups.filter (fun u => u.2 == 0)
/-- the power changes / additions of an update list -/
def upds (ups : List (Bytes × Int)) : List (Bytes × Int) := ups.filter (fun u => u.2 != 0)
/-- the additions: updates for keys that are not members yet, in list order -/
def news (s : VSet) (ups : List (Bytes × Int)) : VSet :=
  ((upds ups).filter (fun u => !(s.any (·.1 == u.1)))).map (fun u => (u.1, u.2.toNat))
/-- the surviving members with their new powers, in the order of the old set -/
def base (s : VSet) (ups : List (Bytes × Int)) : VSet :=
  (s.filter (fun e => !((dels ups).any (·.1 == e.1)))).map (fun e =>
    match (upds ups).find? (·.1 == e.1) with
    | some u => (e.1, u.2.toNat)
    | none => e)

/-- `Comet.apply`, with its intermediate lists named -/
theorem apply_eq (s : VSet) (ups : List (Bytes × Int)) :
    Comet.apply s ups =
      if ups.isEmpty then .ok s
      else if hasDup (ups.map (·.1)) then .error "duplicate"
      else if ups.any (fun u => u.2 < 0) then .error "negative"
      else if ups.any (fun u => u.2 > (maxTotal : Int)) then .error "too-high"
      else if (news s ups).length == 0 && s.length == (dels ups).length then .error "empty-set"
      else if (dels ups).any (fun d => !(s.any (·.1 == d.1))) then .error "remove-non-member"
      else if total (base s ups ++ news s ups) > maxTotal then .error "total-overflow"
      else .ok (base s ups ++ news s ups) := by
  unfold Comet.apply news base dels upds
  simp only [List.length_map]
  rfl

theorem apply_nil (s : VSet) : Comet.apply s [] = .ok s := rfl

theorem ite_error_eq_ok {ε α : Type} {c : Prop} [Decidable c] {e : ε} {x : Except ε α} {v : α} :
    (if c then .error e else x) = .ok v ↔ ¬ c ∧ x = .ok v := by
  by_cases hc : c
  · rw [if_pos hc]; exact ⟨(fun h => nomatch h), fun h => absurd hc h.1⟩
  · rw [if_neg hc]; exact ⟨fun h => ⟨hc, h⟩, fun h => h.2⟩

/-- a non-empty update list is accepted only if no rule fires, and then the new set is the surviving
    members followed by the additions -/
theorem apply_ok {s s' : VSet} {ups : List (Bytes × Int)} (h : Comet.apply s ups = .ok s') (hne : ups ≠ []) :
    hasDup (ups.map (·.1)) = false ∧ ups.any (fun u => u.2 < 0) = false ∧
    ups.any (fun u => u.2 > (maxTotal : Int)) = false ∧
    ((news s ups).length == 0 && s.length == (dels ups).length) = false ∧
    (dels ups).any (fun d => !(s.any (·.1 == d.1))) = false ∧
    total s' ≤ maxTotal ∧ s' = base s ups ++ news s ups := by
  rw [apply_eq, if_neg (by rwa [List.isEmpty_iff])] at h
  simp only [ite_error_eq_ok, Bool.not_eq_true] at h
  obtain ⟨h1, h2, h3, h4, h5, h6, h7⟩ := h
  cases h7
  exact ⟨h1, h2, h3, h4, h5, Nat.le_of_not_gt h6, rfl⟩

/-- Two results of `Comet.apply` *agree*: the same error, or two validator sets that consist of the
    same leading part (the surviving old members, in the old order, with their new powers) followed
    by the new members in possibly different order. -/
def CometAgree : Except String VSet → Except String VSet → Prop
  | .ok a, .ok b => ∃ pre n n', a = pre ++ n ∧ b = pre ++ n' ∧ n.Perm n'
  | .error e, .error e' => e = e'
  | _, _ => False

/-- agreement passes through a guard common to both sides -/
theorem CometAgree.ite_error {c : Prop} [Decidable c] (e : String) {x y : Except String VSet}
    (h : ¬ c → CometAgree x y) : CometAgree (if c then .error e else x) (if c then .error e else y) := by
  by_cases hc : c
  · rw [if_pos hc, if_pos hc]; exact rfl
  · rw [if_neg hc, if_neg hc]; exact h hc

theorem CometAgree.perm {a b : VSet} (h : CometAgree (.ok a) (.ok b)) : a.Perm b := by
  obtain ⟨pre, n, n', rfl, rfl, hp⟩ := h
  exact List.Perm.append_left _ hp

theorem base_perm (s : VSet) {ups ups' : List (Bytes × Int)} (hp : ups.Perm ups') (hnd : (ups.map (·.1)).Nodup) :
    base s ups = base s ups' := by
  unfold base
  have hd : ∀ e : Bytes × Nat, (dels ups).any (·.1 == e.1) = (dels ups').any (·.1 == e.1) :=
    fun e => (hp.filter _).any_eq
  have hund : ((upds ups).map (·.1)).Nodup := List.Nodup.sublist (List.filter_sublist.map _) hnd
  have hf : ∀ e : Bytes × Nat, (upds ups).find? (·.1 == e.1) = (upds ups').find? (·.1 == e.1) :=
    fun e => find_key_perm (hp.filter _) hund e.1
  simp only [hd, hf]

/-- **C07, consumer side.**  CometBFT's update of the validator set gives the same verdict for every
    ordering of the update list: the same error, or the same set — identical on the surviving members,
    with the new members appended in the order of the list (CometBFT then sorts the set, so only the
    set matters).  No distinctness hypothesis is needed: a list with a repeated key is refused as
    "duplicate" in every order. -/
theorem comet_apply_order_insensitive (s : VSet) {ups ups' : List (Bytes × Int)} (hp : ups.Perm ups') :
    CometAgree (Comet.apply s ups) (Comet.apply s ups') := by
  rw [apply_eq, apply_eq]
  have h1 : ups'.isEmpty = ups.isEmpty := hp.symm.isEmpty_eq
  have h2 : hasDup (ups'.map (·.1)) = hasDup (ups.map (·.1)) := (hasDup_perm (hp.map _)).symm
  have h3 : ups'.any (fun u => u.2 < 0) = ups.any (fun u => u.2 < 0) := hp.symm.any_eq
  have h4 : ups'.any (fun u => u.2 > (maxTotal : Int)) = ups.any (fun u => u.2 > (maxTotal : Int)) := hp.symm.any_eq
  have hnews : (news s ups).Perm (news s ups') := ((hp.filter _).filter _).map _
  have h5 : (news s ups').length = (news s ups).length := hnews.symm.length_eq
  have h6 : (dels ups').length = (dels ups).length := (hp.filter _).symm.length_eq
  have h7 : (dels ups').any (fun d => !(s.any (·.1 == d.1))) = (dels ups).any (fun d => !(s.any (·.1 == d.1))) :=
    (hp.filter _).symm.any_eq
  rw [h1, h2, h3, h4, h5, h6, h7]
  by_cases c1 : ups.isEmpty = true
  · rw [if_pos c1, if_pos c1]; exact ⟨s, [], [], by simp, by simp, List.Perm.refl _⟩
  rw [if_neg c1, if_neg c1]
  refine .ite_error _ fun c2 => ?_
  have hnd : (ups.map (·.1)).Nodup := (hasDup_false_iff_nodup _).mp (by simpa using c2)
  have ht : total (base s ups ++ news s ups') = total (base s ups ++ news s ups) := by
    unfold total
    exact ((List.Perm.append_left _ hnews.symm).map _).sum_nat
  rw [← base_perm s hp hnd, ht]
  refine .ite_error _ fun _ => .ite_error _ fun _ => .ite_error _ fun _ => .ite_error _ fun _ => .ite_error _ fun _ => ?_
  exact ⟨base s ups, news s ups, news s ups', rfl, rfl, hnews⟩

/-- corollary in the plain form: both refuse with the same error, or both accept and the resulting
    sets are permutations of one another -/
theorem comet_apply_perm (s : VSet) {ups ups' : List (Bytes × Int)} (hp : ups.Perm ups') :
    (∀ e, Comet.apply s ups = .error e → Comet.apply s ups' = .error e) ∧
    (∀ v, Comet.apply s ups = .ok v → ∃ v', Comet.apply s ups' = .ok v' ∧ v.Perm v') := by
  have h := comet_apply_order_insensitive s hp
  constructor
  · intro e he
    rw [he] at h
    cases hr : Comet.apply s ups' with
    | error e' => rw [hr] at h; exact congrArg _ (Eq.symm h)
    | ok v' => rw [hr] at h; exact h.elim
  · intro v hv
    rw [hv] at h
    cases hr : Comet.apply s ups' with
    | error e' => rw [hr] at h; exact h.elim
    | ok v' => rw [hr] at h; exact ⟨v', rfl, h.perm⟩

/-- how the driver hands EndBlocker's updates to CometBFT (World.lean / Driver.lean) -/
def toComet (ups : List Update) : List (Bytes × Int) := ups.map (fun u => (u.pubkey, Comet.toInt64 u.power))

/-- **(a) and (c) together**: two EndBlocker runs that *agree* (same state, updates equal up to order)
    lead CometBFT to the same verdict and the same validator set up to order — comparing validator
    updates as a set loses nothing. -/
theorem agree_then_comet_agree (vs : VSet) {s s' : State} {u u' : List Update}
    (h : Agree (.ok (s, u)) (.ok (s', u'))) :
    s = s' ∧ CometAgree (Comet.apply vs (toComet u)) (Comet.apply vs (toComet u')) :=
  ⟨h.1, comet_apply_order_insensitive vs (h.2.map _)⟩

/-- sharpness: with two *new* members the resulting lists do differ in order, so `Perm` (equality of
    sets) and not `=` is the strongest statement for the model's list representation -/
example : (Comet.apply [([9], 1)] [([1], 1), ([2], 1)]).toOption = some [([9], 1), ([1], 1), ([2], 1)] ∧
          (Comet.apply [([9], 1)] [([2], 1), ([1], 1)]).toOption = some [([9], 1), ([2], 1), ([1], 1)] := by
  decide +kernel

/-- an instance with a removal, a power change and an addition, in two orders -/
example : CometAgree (Comet.apply [([7], 3), ([8], 4), ([9], 1)] [([8], 0), ([1], 2), ([9], 6)])
                     (Comet.apply [([7], 3), ([8], 4), ([9], 1)] [([9], 6), ([8], 0), ([1], 2)]) :=
  comet_apply_order_insensitive _ ((List.Perm.swap _ _ _).trans (List.Perm.cons _ (List.Perm.swap _ _ _))).symm

end CometOrder

end Goat.C07
