/-
  C06H — hand-over exactly once, over histories.

  C06 (GoatProofs/C06.lean) says what ONE call of `dequeue` does.  Here the bridge queue and the locking
  queue are first-in-first-out logs: along any interleaving of dequeues and of the operations that append,
  what has been handed to the execution layer followed by what is still queued is exactly what was queued
  at the start followed by everything appended since, kind by kind and in order; every dequeue keeps the
  per-block caps; the system transactions of the whole history carry consecutive nonces.  Every entry
  point of x/bitcoin and x/locking is shown to be such a step, so every run of the operation languages
  of C05H and C11H is such a history (`C06_run`, `C06_locking_run`).

  The no-wrap hypothesis of the two `…nonces_consecutive` theorems is necessary in the model
  (`Example.exW`): the stored nonce is reduced mod 2^64 but the numbering inside a batch is not.  Block
  hashes are not queue items; for them only `block_cursor` and the per-dequeue statement in
  `dequeue_carries` (the hash is the voted hash of the height right above the cursor) are proved here;
  their gap-freeness is `C06.blockhashes_gapfree`.
-/
import GoatModel.Bitcoin
import GoatModel.Locking
import GoatProofs.Lemmas.Bitcoin
import GoatProofs.Lemmas.BitcoinOps
import GoatProofs.C03
import GoatProofs.C05H
import GoatProofs.C06
import GoatProofs.Lemmas.LockingConserve
import GoatProofs.C12H
import GoatProofs.Lemmas.LockingHist
import GoatProofs.Lemmas.LockingOps
namespace Goat.C06H
open Goat.Bitcoin Goat.C06

theorem two64_eq : two64 = 2 ^ 64 := by decide

/-! ## what a batch of system transactions carries -/

def hashOf : SysTx → Option Bytes
  | .newBlock _ h => some h
  | _ => none
def depositOf : SysTx → Option DepositReceipt
  | .deposit _ r => some r
  | _ => none
def paidNoticeOf : SysTx → Option (Nat × Receipt)
  | .paid _ id r => some (id, r)
  | _ => none
def rejectedIdOf : SysTx → Option Nat
  | .cancel2 _ id => some id
  | _ => none

/-- block hashes announced by a batch, in order -/
def hashesOf (txs : List SysTx) : List Bytes := txs.filterMap hashOf
/-- deposit receipts credited by a batch, in order -/
def depositsOf (txs : List SysTx) : List DepositReceipt := txs.filterMap depositOf
/-- paid notices (id, receipt) of a batch, in order -/
def paidOf (txs : List SysTx) : List (Nat × Receipt) := txs.filterMap paidNoticeOf
/-- refund notices (ids) of a batch, in order -/
def rejectedOf (txs : List SysTx) : List Nat := txs.filterMap rejectedIdOf

theorem hashesOf_append (a b : List SysTx) : hashesOf (a ++ b) = hashesOf a ++ hashesOf b := by
  unfold hashesOf; rw [List.filterMap_append]
theorem depositsOf_append (a b : List SysTx) : depositsOf (a ++ b) = depositsOf a ++ depositsOf b := by
  unfold depositsOf; rw [List.filterMap_append]
theorem paidOf_append (a b : List SysTx) : paidOf (a ++ b) = paidOf a ++ paidOf b := by
  unfold paidOf; rw [List.filterMap_append]
theorem rejectedOf_append (a b : List SysTx) : rejectedOf (a ++ b) = rejectedOf a ++ rejectedOf b := by
  unfold rejectedOf; rw [List.filterMap_append]

/-- the four kinds of item of a bridge batch, awaiting their nonce -/
def items (hb : List Bytes) (ds : List DepositReceipt) (ps : List (Nat × Receipt)) (rs : List Nat) : List (Nat → SysTx) :=
  hb.map (fun h n => SysTx.newBlock n h) ++ ds.map (fun d n => SysTx.deposit n d) ++
    ps.map (fun p n => SysTx.paid n p.1 p.2) ++ rs.map (fun id n => SysTx.cancel2 n id)

theorem items_length (hb ds ps rs) : (items hb ds ps rs).length = hb.length + ds.length + ps.length + rs.length := by
  simp [items]; omega

/-- a numbered batch carries exactly its four lists, each in order -/
theorem carried_number_items (n : Nat) (hb : List Bytes) (ds : List DepositReceipt) (ps : List (Nat × Receipt)) (rs : List Nat) :
    hashesOf (number n (items hb ds ps rs)) = hb ∧ depositsOf (number n (items hb ds ps rs)) = ds ∧
    paidOf (number n (items hb ds ps rs)) = ps ∧ rejectedOf (number n (items hb ds ps rs)) = rs := by
  unfold items hashesOf depositsOf paidOf rejectedOf
  refine ⟨?_, ?_, ?_, ?_⟩
  · rw [filterMap_number_items hashOf some (fun _ => none) (fun _ => none) (fun _ => none)
      (fun _ _ => rfl) (fun _ _ => rfl) (fun _ _ => rfl) (fun _ _ => rfl),
      filterMap_none, filterMap_none, filterMap_none, List.filterMap_some, List.append_nil, List.append_nil, List.append_nil]
  · rw [filterMap_number_items depositOf (fun _ => none) some (fun _ => none) (fun _ => none)
      (fun _ _ => rfl) (fun _ _ => rfl) (fun _ _ => rfl) (fun _ _ => rfl),
      filterMap_none, filterMap_none, filterMap_none, List.filterMap_some, List.nil_append, List.append_nil, List.append_nil]
  · rw [filterMap_number_items paidNoticeOf (fun _ => none) (fun _ => none) some (fun _ => none)
      (fun _ _ => rfl) (fun _ _ => rfl) (fun _ _ => rfl) (fun _ _ => rfl),
      filterMap_none, filterMap_none, filterMap_none, List.filterMap_some, List.nil_append, List.nil_append, List.append_nil]
  · rw [filterMap_number_items rejectedIdOf (fun _ => none) (fun _ => none) (fun _ => none) some
      (fun _ _ => rfl) (fun _ _ => rfl) (fun _ _ => rfl) (fun _ _ => rfl),
      filterMap_none, filterMap_none, filterMap_none, List.filterMap_some, List.nil_append, List.nil_append, List.nil_append]

/-! ## what one bridge dequeue hands over -/

/-- `Bitcoin.dequeue_ok` read off the batch: at most one block hash, the voted hash of the height right
    above the cursor; the first 8 deposits, the first 8 paid notices and refunds up to the rest of
    those 8, in this order; exactly these leave the queue and the cursor advances by the number of
    hashes -/
theorem dequeue_carries (s s' : State) (txs : List SysTx) (h : dequeue s = .ok (s', txs)) :
    (hashesOf txs).length ≤ 1 ∧
    (∀ x ∈ hashesOf txs, s.queue.blockNumber < s.tip ∧ nlookup s.hashes (s.queue.blockNumber + 1) = some x) ∧
    depositsOf txs = s.queue.deposits.take 8 ∧ paidOf txs = s.queue.paid.take 8 ∧
    rejectedOf txs = s.queue.rejected.take (8 - (s.queue.paid.take 8).length) ∧
    txs = number s.nonce (items (hashesOf txs) (depositsOf txs) (paidOf txs) (rejectedOf txs)) ∧
    s'.queue = { blockNumber := s.queue.blockNumber + (hashesOf txs).length, deposits := s.queue.deposits.drop 8,
                 paid := s.queue.paid.drop 8, rejected := s.queue.rejected.drop (8 - (s.queue.paid.take 8).length) } := by
  obtain ⟨hb, h1, h2, h3, h4, _⟩ := dequeue_ok h
  obtain ⟨c1, c2, c3, c4⟩ := carried_number_items s.nonce hb (s.queue.deposits.take 8) (s.queue.paid.take 8)
    (s.queue.rejected.take (8 - (s.queue.paid.take 8).length))
  rw [← show txs = number s.nonce (items hb _ _ _) from h3] at c1 c2 c3 c4
  rw [c1, c2, c3, c4]
  exact ⟨h1, h2, rfl, rfl, rfl, h3, h4⟩

/-- **one dequeue conserves each kind**: handed over ++ still queued = previously queued -/
theorem dequeue_conserves (s s' : State) (txs : List SysTx) (h : dequeue s = .ok (s', txs)) :
    depositsOf txs ++ s'.queue.deposits = s.queue.deposits ∧ paidOf txs ++ s'.queue.paid = s.queue.paid ∧
    rejectedOf txs ++ s'.queue.rejected = s.queue.rejected := by
  obtain ⟨_, _, c1, c2, c3, _, hq⟩ := dequeue_carries s s' txs h
  rw [c1, c2, c3, hq]
  exact ⟨List.take_append_drop .., List.take_append_drop .., List.take_append_drop ..⟩

/-- **caps of one dequeue**: ≤ 1 block hash, ≤ 8 deposits, ≤ 8 paid + refunds together, ≤ 17 in all -/
theorem dequeue_caps (s s' : State) (txs : List SysTx) (h : dequeue s = .ok (s', txs)) :
    (hashesOf txs).length ≤ 1 ∧ (depositsOf txs).length ≤ 8 ∧ (paidOf txs).length + (rejectedOf txs).length ≤ 8 ∧
    txs.length = (hashesOf txs).length + (depositsOf txs).length + (paidOf txs).length + (rejectedOf txs).length ∧
    txs.length ≤ 17 := by
  obtain ⟨c0, _, c1, c2, c3, c4, _⟩ := dequeue_carries s s' txs h
  have hl := congrArg List.length c4
  rw [length_number, items_length] at hl
  have l1 : (depositsOf txs).length ≤ 8 := by rw [c1]; exact List.length_take_le ..
  have l2 : (paidOf txs).length + (rejectedOf txs).length ≤ 8 := by
    rw [c3, c2]; exact Nat.add_le_of_le_sub' (List.length_take_le ..) (List.length_take_le ..)
  exact ⟨c0, l1, l2, hl, by omega⟩

/-- nonces of one dequeue: the batch is numbered from the stored nonce, which then advances by its
    length unless that wraps -/
theorem dequeue_nonce {s s' : State} {txs : List SysTx} (h : dequeue s = .ok (s', txs)) (hw : s.nonce + txs.length < two64) :
    Consecutive s.nonce txs ∧ s'.nonce = s.nonce + txs.length := by
  obtain ⟨_, _, _, _, _, hc, e1, e2⟩ := btc_dequeue_spec s s' txs h
  refine ⟨hc, ?_⟩
  by_cases ht : txs = []
  · rw [e1 ht, ht]; rfl
  · rw [(e2 ht).2.2.2.2, Nat.mod_eq_of_lt hw]

/-! ## bridge histories -/

/-- **append-only step**: some deposits / paid notices / refund notices are appended at the
    back of their queue; the cursor and the nonce are untouched (everything else may change). -/
structure Appends (s s' : State) (d : List DepositReceipt) (p : List (Nat × Receipt)) (r : List Nat) : Prop where
  deposits : s'.queue.deposits = s.queue.deposits ++ d
  paid : s'.queue.paid = s.queue.paid ++ p
  rejected : s'.queue.rejected = s.queue.rejected ++ r
  blockNumber : s'.queue.blockNumber = s.queue.blockNumber
  nonce : s'.nonce = s.nonce

/-- a step that leaves the queue and the nonce alone (in particular: a failed operation, rolled back
    by the transaction wrapper; a proposed payload that is never finalised) -/
def Unchanged (s s' : State) : Prop := s'.queue = s.queue ∧ s'.nonce = s.nonce

theorem Unchanged.refl (s : State) : Unchanged s s := ⟨rfl, rfl⟩

theorem Unchanged.appends {s s' : State} (h : Unchanged s s') : Appends s s' [] [] [] :=
  ⟨by rw [h.1, List.append_nil], by rw [h.1, List.append_nil], by rw [h.1, List.append_nil], by rw [h.1], h.2⟩

theorem Appends.refl (s : State) : Appends s s [] [] [] := (Unchanged.refl s).appends

theorem Appends.trans {a b c : State} {d1 d2 p1 p2 r1 r2} (h1 : Appends a b d1 p1 r1) (h2 : Appends b c d2 p2 r2) :
    Appends a c (d1 ++ d2) (p1 ++ p2) (r1 ++ r2) :=
  ⟨by rw [h2.deposits, h1.deposits, List.append_assoc], by rw [h2.paid, h1.paid, List.append_assoc],
   by rw [h2.rejected, h1.rejected, List.append_assoc], h2.blockNumber.trans h1.blockNumber, h2.nonce.trans h1.nonce⟩

theorem Appends.unchanged {a b c : State} {d p r} (h : Appends a b d p r) (hu : Unchanged b c) : Appends a c d p r :=
  ⟨by rw [hu.1, h.deposits], by rw [hu.1, h.paid], by rw [hu.1, h.rejected], by rw [hu.1, h.blockNumber], hu.2.trans h.nonce⟩

theorem Appends.of_deposits {s s' : State} {d : List DepositReceipt}
    (hq : s'.queue = { s.queue with deposits := s.queue.deposits ++ d }) (hn : s'.nonce = s.nonce) : Appends s s' d [] [] :=
  ⟨by rw [hq], by rw [hq, List.append_nil], by rw [hq, List.append_nil], by rw [hq], hn⟩

theorem Appends.of_paid {s s' : State} {p : List (Nat × Receipt)}
    (hq : s'.queue = { s.queue with paid := s.queue.paid ++ p }) (hn : s'.nonce = s.nonce) : Appends s s' [] p [] :=
  ⟨by rw [hq, List.append_nil], by rw [hq], by rw [hq, List.append_nil], by rw [hq], hn⟩

theorem Appends.of_rejected {s s' : State} {r : List Nat}
    (hq : s'.queue = { s.queue with rejected := s.queue.rejected ++ r }) (hn : s'.nonce = s.nonce) : Appends s s' [] [] r :=
  ⟨by rw [hq, List.append_nil], by rw [hq, List.append_nil], by rw [hq], by rw [hq], hn⟩

/-- **History** from `s`: a sequence of successful dequeues (each contributes its batch of
    system transactions to `batches`) and append-only steps (each contributes what it
    appended to `d`, `p`, `r`), in any interleaving.  The execution layer has been handed
    `batches.flatten`. -/
inductive Hist (s : State) : State → List (List SysTx) → List DepositReceipt → List (Nat × Receipt) → List Nat → Prop
  | nil : Hist s s [] [] [] []
  | deq {s1 s2 : State} {bs d p r} {txs : List SysTx} :
      Hist s s1 bs d p r → dequeue s1 = .ok (s2, txs) → Hist s s2 (bs ++ [txs]) d p r
  | app {s1 s2 : State} {bs d p r d' p' r'} :
      Hist s s1 bs d p r → Appends s1 s2 d' p' r' → Hist s s2 bs (d ++ d') (p ++ p') (r ++ r')

/-- everything handed to the execution layer along a history, in order -/
abbrev handed (bs : List (List SysTx)) : List SysTx := bs.flatten

theorem handed_snoc (bs : List (List SysTx)) (txs : List SysTx) : handed (bs ++ [txs]) = handed bs ++ txs := by
  simp only [handed, List.flatten_append, List.flatten_cons, List.flatten_nil, List.append_nil]

theorem Hist.single_deq {s s' : State} {txs : List SysTx} (h : dequeue s = .ok (s', txs)) : Hist s s' [txs] [] [] [] :=
  Hist.deq Hist.nil h

theorem Hist.single_app {s s' : State} {d p r} (h : Appends s s' d p r) : Hist s s' [] d p r :=
  Hist.app Hist.nil h

/-- a step that changes neither queue nor nonce can be inserted anywhere -/
theorem Hist.unchanged {s s1 s2 : State} {bs d p r} (h : Hist s s1 bs d p r) (hu : Unchanged s1 s2) : Hist s s2 bs d p r := by
  have := Hist.app h hu.appends
  simpa using this

/-- histories compose -/
theorem Hist.trans {a b c : State} {bs1 d1 p1 r1 bs2 d2 p2 r2} (h1 : Hist a b bs1 d1 p1 r1) (h2 : Hist b c bs2 d2 p2 r2) :
    Hist a c (bs1 ++ bs2) (d1 ++ d2) (p1 ++ p2) (r1 ++ r2) := by
  induction h2 with
  | nil => simpa using h1
  | deq _ hd ih =>
    rw [← List.append_assoc]
    exact Hist.deq ih hd
  | app _ ha ih =>
    rw [← List.append_assoc, ← List.append_assoc, ← List.append_assoc]
    exact Hist.app ih ha

/-- **FIFO, all three kinds at once.** -/
theorem fifo {s s' : State} {bs d p r} (h : Hist s s' bs d p r) :
    depositsOf (handed bs) ++ s'.queue.deposits = s.queue.deposits ++ d ∧
    paidOf (handed bs) ++ s'.queue.paid = s.queue.paid ++ p ∧
    rejectedOf (handed bs) ++ s'.queue.rejected = s.queue.rejected ++ r := by
  induction h with
  | nil => simp [handed, depositsOf, paidOf, rejectedOf]
  | deq _ hd ih =>
    obtain ⟨i1, i2, i3⟩ := ih
    obtain ⟨c1, c2, c3⟩ := dequeue_conserves _ _ _ hd
    simp only [handed, List.flatten_append, List.flatten_cons, List.flatten_nil, List.append_nil,
      depositsOf_append, paidOf_append, rejectedOf_append, List.append_assoc]
    rw [c1, c2, c3]
    exact ⟨i1, i2, i3⟩
  | app _ ha ih =>
    obtain ⟨i1, i2, i3⟩ := ih
    refine ⟨?_, ?_, ?_⟩
    · rw [ha.deposits, ← List.append_assoc, i1, List.append_assoc]
    · rw [ha.paid, ← List.append_assoc, i2, List.append_assoc]
    · rw [ha.rejected, ← List.append_assoc, i3, List.append_assoc]

/-- **FIFO (deposits).**  The deposit receipts handed over (in hand-over order) followed by the
    deposits still queued are exactly the deposits queued at the start followed by all deposits
    appended since (in append order): no credited deposit is dropped, duplicated, invented or
    overtaken. -/
theorem fifo_deposits {s s' : State} {bs d p r} (h : Hist s s' bs d p r) :
    depositsOf (handed bs) ++ s'.queue.deposits = s.queue.deposits ++ d := (fifo h).1

/-- **FIFO (paid).** the same for paid notices (id and receipt) -/
theorem fifo_paid {s s' : State} {bs d p r} (h : Hist s s' bs d p r) :
    paidOf (handed bs) ++ s'.queue.paid = s.queue.paid ++ p := (fifo h).2.1

/-- **FIFO (refunds).** the same for refund notices -/
theorem fifo_rejected {s s' : State} {bs d p r} (h : Hist s s' bs d p r) :
    rejectedOf (handed bs) ++ s'.queue.rejected = s.queue.rejected ++ r := (fifo h).2.2

/-- corollary: what has been handed over is a prefix of (initially queued ++ appended) — nothing is
    handed over that was not owed, and never ahead of an older item of its kind -/
theorem handed_prefix {s s' : State} {bs d p r} (h : Hist s s' bs d p r) :
    depositsOf (handed bs) <+: s.queue.deposits ++ d ∧ paidOf (handed bs) <+: s.queue.paid ++ p ∧
    rejectedOf (handed bs) <+: s.queue.rejected ++ r := by
  obtain ⟨h1, h2, h3⟩ := fifo h
  exact ⟨⟨_, h1⟩, ⟨_, h2⟩, ⟨_, h3⟩⟩

/-- corollary: once the queue has drained, exactly everything owed has been handed over -/
theorem drained_all_handed {s s' : State} {bs d p r} (h : Hist s s' bs d p r)
    (hd : s'.queue.deposits = []) (hp : s'.queue.paid = []) (hr : s'.queue.rejected = []) :
    depositsOf (handed bs) = s.queue.deposits ++ d ∧ paidOf (handed bs) = s.queue.paid ++ p ∧
    rejectedOf (handed bs) = s.queue.rejected ++ r := by
  obtain ⟨h1, h2, h3⟩ := fifo h
  rw [hd, List.append_nil] at h1
  rw [hp, List.append_nil] at h2
  rw [hr, List.append_nil] at h3
  exact ⟨h1, h2, h3⟩

/-- **an unfinalised payload consumes nothing**: `dequeue` is a function of the committed state
    only and a history contains only the dequeues whose payload was finalised (a proposal that is
    dropped leaves the state where it was — the trivial step `Unchanged.refl`).  Building a payload
    again from the same committed state therefore hands over the very same transactions under the
    very same nonces. -/
theorem proposal_deterministic (s s1 s2 : State) (t1 t2 : List SysTx)
    (h1 : dequeue s = .ok (s1, t1)) (h2 : dequeue s = .ok (s2, t2)) : s1 = s2 ∧ t1 = t2 := by
  rw [h1] at h2
  simp only [Outcome.ok.injEq, Prod.mk.injEq] at h2
  exact h2

/-- the stored nonce along a history, wrap-around included -/
theorem nonce_mod {s s' : State} {bs d p r} (h : Hist s s' bs d p r) (h0 : s.nonce < two64) :
    s'.nonce = (s.nonce + (handed bs).length) % two64 := by
  induction h with
  | nil => simp only [handed, List.flatten_nil, List.length_nil, Nat.add_zero]; exact (Nat.mod_eq_of_lt h0).symm
  | @deq s1 s2 bs d p r txs _ hd ih =>
    obtain ⟨_, _, _, _, _, _, e1, e2⟩ := btc_dequeue_spec _ _ _ hd
    rw [handed_snoc, List.length_append]
    by_cases ht : txs = []
    · rw [e1 ht, ht]; exact ih
    · rw [(e2 ht).2.2.2.2, ih, Nat.mod_add_mod, Nat.add_assoc]
  | app _ ha ih => rw [ha.nonce]; exact ih

/-- **Nonces.**  If the 64-bit nonce does not wrap during the history, the system transactions
    handed over along the *whole* history carry the consecutive nonces `s.nonce, s.nonce+1, …` — no
    gap, no reuse, across all dequeues — and the stored nonce has advanced by exactly their number. -/
theorem nonces_consecutive {s s' : State} {bs d p r} (h : Hist s s' bs d p r)
    (hw : s.nonce + (handed bs).length < two64) :
    Consecutive s.nonce (handed bs) ∧ s'.nonce = s.nonce + (handed bs).length := by
  induction h with
  | nil => exact ⟨trivial, rfl⟩
  | @deq s1 s2 bs d p r txs _ hd ih =>
    rw [handed_snoc, List.length_append] at hw ⊢
    obtain ⟨i1, i2⟩ := ih (by omega)
    obtain ⟨hc, hn⟩ := dequeue_nonce hd (by omega)
    exact ⟨consecutive_append _ _ _ i1 (i2 ▸ hc), by rw [hn, i2, Nat.add_assoc]⟩
  | app _ ha ih =>
    obtain ⟨i1, i2⟩ := ih hw
    exact ⟨i1, ha.nonce.trans i2⟩

theorem consecutive_getElem : ∀ (l : List SysTx) (n : Nat), Consecutive n l → ∀ i, (hi : i < l.length) → SysTx.nonce l[i] = n + i := by
  intro l
  induction l with
  | nil => intro n _ i hi; exact absurd hi (by simp)
  | cons t ts ih =>
    intro n hc i hi
    cases i with
    | zero => exact hc.1
    | succ k =>
      have := ih (n + 1) hc.2 k (by simp at hi; omega)
      simp only [List.getElem_cons_succ]
      omega

/-- **Nonces, pointwise**: the `i`-th system transaction ever handed over carries nonce `s.nonce + i` -/
theorem nonce_at {s s' : State} {bs d p r} (h : Hist s s' bs d p r) (hw : s.nonce + (handed bs).length < two64)
    (i : Nat) (hi : i < (handed bs).length) : SysTx.nonce (handed bs)[i] = s.nonce + i :=
  consecutive_getElem _ _ (nonces_consecutive h hw).1 i hi

/-- **Nonces, no reuse**: two different positions of the hand-over log never carry the same nonce -/
theorem nonce_injective {s s' : State} {bs d p r} (h : Hist s s' bs d p r) (hw : s.nonce + (handed bs).length < two64)
    (i j : Nat) (hi : i < (handed bs).length) (hj : j < (handed bs).length)
    (he : SysTx.nonce (handed bs)[i] = SysTx.nonce (handed bs)[j]) : i = j := by
  rw [nonce_at h hw i hi, nonce_at h hw j hj] at he
  omega

/-- **Caps and shape of every batch of a history**: each single dequeue hands over at most one
    block hash, at most 8 deposits, at most 8 paid + refund notices together (at most 17
    transactions), in the order hash, deposits, paid, refunds. -/
theorem caps {s s' : State} {bs d p r} (h : Hist s s' bs d p r) :
    ∀ txs ∈ bs, (hashesOf txs).length ≤ 1 ∧ (depositsOf txs).length ≤ 8 ∧
      (paidOf txs).length + (rejectedOf txs).length ≤ 8 ∧ txs.length ≤ 17 ∧
      ∃ n, txs = number n (items (hashesOf txs) (depositsOf txs) (paidOf txs) (rejectedOf txs)) := by
  induction h with
  | nil => intro txs ht; cases ht
  | @deq s1 s2 bs d p r txs _ hd ih =>
    intro t ht
    rcases List.mem_append.mp ht with ht | ht
    · exact ih t ht
    · simp only [List.mem_singleton] at ht
      subst ht
      obtain ⟨k1, k2, k3, _, k5⟩ := dequeue_caps _ _ _ hd
      exact ⟨k1, k2, k3, k5, s1.nonce, (dequeue_carries _ _ _ hd).2.2.2.2.2.1⟩
  | app _ _ ih => exact ih

/-- the block-hash cursor advances by exactly the number of block hashes handed over: heights are
    announced one by one, each at most once, none skipped -/
theorem block_cursor {s s' : State} {bs d p r} (h : Hist s s' bs d p r) :
    s'.queue.blockNumber = s.queue.blockNumber + (hashesOf (handed bs)).length := by
  induction h with
  | nil => simp [handed, hashesOf]
  | deq _ hd ih =>
    rw [(dequeue_carries _ _ _ hd).2.2.2.2.2.2, handed_snoc, hashesOf_append, List.length_append, ← Nat.add_assoc, ← ih]
  | app _ ha ih => rw [ha.blockNumber]; exact ih

/-! ## every bridge entry point is an append-only step -/

theorem onlyWithdrawals_unchanged {a b : State} (h : C05H.OnlyWithdrawals a b) : Unchanged a b := by
  unfold C05H.OnlyWithdrawals at h
  exact ⟨by rw [h], by rw [h]⟩

theorem Unchanged.trans {a b c : State} (h1 : Unchanged a b) (h2 : Unchanged b c) : Unchanged a c :=
  ⟨h2.1.trans h1.1, h2.2.trans h1.2⟩

/-- **NewDeposits appends** its receipts (one per deposit of the message, in message order) at
    the back of the deposit queue and touches nothing else of the queue, nor the nonce. -/
theorem newDeposits_appends (c : Crypto) (rel : Relayer.State) (s : State) (m : NewDepositsMsg) (r : Relayer.State × State)
    (h : newDeposits c rel s m = .ok r) :
    ∃ new : List DepositReceipt, Appends s r.2 new [] [] ∧ new.length = m.deposits.length := by
  obtain ⟨_, _, _, _, _, _, _, _, s1, rs, hgo, rfl⟩ := newDeposits_ok h
  have hu : Unchanged s s1 := by rw [newDeposits_go_frame hgo]; exact ⟨rfl, rfl⟩
  exact ⟨rs, hu.appends.trans (Appends.of_deposits rfl rfl), (newDeposits_go_length hgo).trans (Nat.zero_add _)⟩

/-- the appended receipts are the ones C03 proves to be credited for the first time (link to
    `C03_deposit_once`: same list) -/
theorem newDeposits_appends_credited (c : Crypto) (rel rel' : Relayer.State) (s s' : State) (m : NewDepositsMsg)
    (h : newDeposits c rel s m = .ok (rel', s')) (hn : (C03.depositedKeys s).Nodup) :
    ∃ new : List DepositReceipt, Appends s s' new [] [] ∧
      C03.depositedKeys s' = C03.depositedKeys s ++ new.map (fun r => (r.txid, r.txout)) ∧ (C03.depositedKeys s').Nodup := by
  obtain ⟨new, ha, _⟩ := newDeposits_appends c rel s m _ h
  obtain ⟨new', e1, e2, e3⟩ := C03.C03_deposit_once c rel rel' s s' m h hn
  have : new = new' := List.append_cancel_left (ha.deposits.symm.trans e1)
  subst this
  exact ⟨new, ha, e2, e3⟩

/-- **FinalizeWithdrawal appends** one paid notice per withdrawal of the finalised processing
    record (in record order) at the back of the paid queue and touches nothing else of the queue,
    nor the nonce. -/
theorem finalizeWithdrawal_appends (c : Crypto) (rel : Relayer.State) (s : State) (m : FinalizeMsg) (r : Relayer.State × State)
    (h : finalizeWithdrawal c rel s m = .ok r) :
    ∃ (pr : Processing) (extra : List (Nat × Receipt)), nlookup s.processing m.pid = some pr ∧
      extra.map (·.1) = pr.withdrawals ∧ Appends s r.2 [] extra [] := by
  obtain ⟨_, _, _, _, _, _, p, idx, _, hp, _, _, _, _, _, _, s1, hgo, rfl⟩ := finalizeWithdrawal_ok h
  obtain ⟨_, extra, g3, g4, _⟩ := C05H.finalize_go_spec m _ _ _ _ _ hgo
  have hf := finalizeWithdrawal_go_frame hgo
  rw [g3] at hf
  exact ⟨p, extra, hp, g4, (Appends.of_paid (congrArg State.queue hf) (by rw [hf])).unchanged ⟨rfl, rfl⟩⟩

/-- **ApproveCancellation appends** exactly the approved ids, in message order, at the back of
    the refund queue and touches nothing else of the queue, nor the nonce. -/
theorem approveCancellation_appends (rel : Relayer.State) (s : State) (proposer : String) (ids : List Nat)
    (r : Relayer.State × State) (h : approveCancellation rel s proposer ids = .ok r) : Appends s r.2 [] [] ids := by
  obtain ⟨_, _, _, _, s1, hgo, rfl⟩ := approveCancellation_ok h
  exact (onlyWithdrawals_unchanged (approveCancellation_go_frame hgo)).appends.trans (Appends.of_rejected rfl rfl)

/-- **ProcessBridgeRequest appends** exactly the ids of the creation requests whose address does
    not decode (refund at creation), in request order, at the back of the refund queue and touches
    nothing else of the queue, nor the nonce. -/
theorem processBridgeRequest_appends (c : Crypto) (s s' : State) (r : BridgeReqs)
    (h : processBridgeRequest c s r = .ok s') : Appends s s' [] [] (C05H.badIds c r.withdraws) := by
  rcases processBridgeRequest_ok h with ⟨hc, rfl⟩ | ⟨_, s2, s3, hrbf, hcan, rfl⟩
  · rw [withdraws_nil_of_count hc]
    exact Appends.refl _
  · have hu : Unchanged _ { s3 with params := applyParamReqs s3.params r } :=
      ((onlyWithdrawals_unchanged (processBridgeRequest_goRbf_frame hrbf)).trans
        (onlyWithdrawals_unchanged (processBridgeRequest_goCancel_frame hcan))).trans ⟨rfl, rfl⟩
    rw [← List.nil_append (C05H.badIds c r.withdraws), ← C05H.create_fold_refunds c r.withdraws (s.withdrawals, [])]
    refine Appends.unchanged ?_ hu
    exact Appends.of_rejected rfl rfl

/-- **NewBlockHashes** leaves the queue and the nonce unchanged (it only extends the voted chain) -/
theorem newBlockHashes_unchanged (rc : Relayer.Crypto) (chainId : String) (rel : Relayer.State) (s : State)
    (vote : Relayer.VoteMsg) (hv : Bool) (start : Nat) (hashes : List Bytes) (r : Relayer.State × State)
    (h : newBlockHashes rc chainId rel s vote hv start hashes = .ok r) : Unchanged s r.2 := by
  rw [newBlockHashes_frame h]
  exact ⟨rfl, rfl⟩

/-- **NewPubkey** leaves the queue and the nonce unchanged -/
theorem newPubkey_unchanged (rc : Relayer.Crypto) (chainId : String) (rel : Relayer.State) (s : State)
    (vote : Relayer.VoteMsg) (hv : Bool) (pk : PubKey) (r : Relayer.State × State)
    (h : newPubkey rc chainId rel s vote hv pk = .ok r) : Unchanged s r.2 := by
  rw [newPubkey_frame h]
  exact ⟨rfl, rfl⟩

/-- **NewConsolidation** leaves the queue and the nonce unchanged -/
theorem newConsolidation_unchanged (c : Crypto) (rc : Relayer.Crypto) (chainId : String) (rel : Relayer.State) (s : State)
    (vote : Relayer.VoteMsg) (hv : Bool) (tx : Bytes) (r : Relayer.State × State)
    (h : newConsolidation c rc chainId rel s vote hv tx = .ok r) : Unchanged s r.2 := by
  rw [newConsolidation_frame h]
  exact Unchanged.refl s

/-- **ProcessWithdrawal** leaves the queue and the nonce unchanged (the notice is queued only when
    the payment is finalised) -/
theorem processWithdrawal_unchanged (c : Crypto) (rc : Relayer.Crypto) (chainId : String) (rel : Relayer.State) (s : State)
    (vote : Relayer.VoteMsg) (hv : Bool) (ids : List Nat) (tx : Bytes) (fee : Nat) (r : Relayer.State × State)
    (h : processWithdrawal c rc chainId rel s vote hv ids tx fee = .ok r) : Unchanged s r.2 := by
  rw [processWithdrawal_frame h]
  exact ⟨rfl, rfl⟩

/-- **ReplaceWithdrawal** leaves the queue and the nonce unchanged -/
theorem replaceWithdrawal_unchanged (c : Crypto) (rc : Relayer.Crypto) (chainId : String) (rel : Relayer.State) (s : State)
    (vote : Relayer.VoteMsg) (hv : Bool) (pid : Nat) (tx : Bytes) (fee : Nat) (r : Relayer.State × State)
    (h : replaceWithdrawal c rc chainId rel s vote hv pid tx fee = .ok r) : Unchanged s r.2 := by
  rw [replaceWithdrawal_frame h]
  exact ⟨rfl, rfl⟩

/-! ### every run of the C05H operation language is a history -/

theorem paidIds_eq (txs : List SysTx) : C05H.paidIds txs = (paidOf txs).map (·.1) := by
  unfold C05H.paidIds paidOf
  rw [List.map_filterMap]
  congr 1
  funext t
  cases t <;> rfl

theorem refundIds_eq (txs : List SysTx) : C05H.refundIds txs = rejectedOf txs := by
  unfold C05H.refundIds rejectedOf
  congr 1

/-- one operation of the C05H language (any of the eight message handlers with arbitrary arguments,
    the execution-layer request processing, a dequeue, or an arbitrary change of the relayer group;
    failed operations leave the state unchanged) is a one-step history; the ghost logs of delivered
    notices grow by exactly what the batch carries -/
theorem apply_hist (e : C05H.Env) (g : C05H.G) (op : C05H.Op) :
    ∃ bs d p r, Hist g.st (C05H.apply e g op).st bs d p r ∧ bs.length ≤ 1 ∧
      (C05H.apply e g op).dPaid = g.dPaid ++ (paidOf (handed bs)).map (·.1) ∧
      (C05H.apply e g op).dRefund = g.dRefund ++ rejectedOf (handed bs) := by
  have quiet : ∀ {g' : C05H.G} {d p r}, Appends g.st g'.st d p r → g'.dPaid = g.dPaid → g'.dRefund = g.dRefund →
      ∃ bs d p r, Hist g.st g'.st bs d p r ∧ bs.length ≤ 1 ∧
        g'.dPaid = g.dPaid ++ (paidOf (handed bs)).map (·.1) ∧ g'.dRefund = g.dRefund ++ rejectedOf (handed bs) :=
    fun ha hp hr => ⟨[], _, _, _, Hist.single_app ha, Nat.zero_le 1, hp.trans (List.append_nil _).symm, hr.trans (List.append_nil _).symm⟩
  have wr : ∀ (o : Outcome (Relayer.State × State)),
      (∀ r, o = .ok r → ∃ d p r', Appends g.st r.2 d p r') →
      ∃ bs d p r, Hist g.st (C05H.withRes g o).st bs d p r ∧ bs.length ≤ 1 ∧
        (C05H.withRes g o).dPaid = g.dPaid ++ (paidOf (handed bs)).map (·.1) ∧
        (C05H.withRes g o).dRefund = g.dRefund ++ rejectedOf (handed bs) := by
    intro o ho
    cases o with
    | ok r =>
      obtain ⟨d, p, r', ha⟩ := ho r rfl
      exact quiet ha rfl rfl
    | err x => exact quiet (Appends.refl _) rfl rfl
    | panic x => exact quiet (Appends.refl _) rfl rfl
  cases op with
  | process v hv ids tx fee =>
    exact wr _ (fun r h => ⟨[], [], [], (processWithdrawal_unchanged _ _ _ _ _ _ _ _ _ _ r h).appends⟩)
  | replace v hv pid tx fee =>
    exact wr _ (fun r h => ⟨[], [], [], (replaceWithdrawal_unchanged _ _ _ _ _ _ _ _ _ _ r h).appends⟩)
  | finalize m =>
    refine wr _ (fun r h => ?_)
    obtain ⟨_, extra, _, _, ha⟩ := finalizeWithdrawal_appends _ _ _ _ r h
    exact ⟨[], extra, [], ha⟩
  | approve pr ids =>
    exact wr _ (fun r h => ⟨[], [], ids, approveCancellation_appends _ _ _ _ r h⟩)
  | bridge rq =>
    simp only [C05H.apply]
    split
    · rename_i s' hb
      exact quiet (processBridgeRequest_appends _ _ _ _ hb) rfl rfl
    · exact quiet (Appends.refl _) rfl rfl
  | deposits m =>
    refine wr _ (fun r h => ?_)
    obtain ⟨new, ha, _⟩ := newDeposits_appends _ _ _ _ r h
    exact ⟨new, [], [], ha⟩
  | blockHashes v hv start hashes =>
    exact wr _ (fun r h => ⟨[], [], [], (newBlockHashes_unchanged _ _ _ _ _ _ _ _ r h).appends⟩)
  | pubkey v hv pk =>
    exact wr _ (fun r h => ⟨[], [], [], (newPubkey_unchanged _ _ _ _ _ _ _ r h).appends⟩)
  | consolidation v hv tx =>
    exact wr _ (fun r h => ⟨[], [], [], (newConsolidation_unchanged _ _ _ _ _ _ _ _ r h).appends⟩)
  | dequeue =>
    simp only [C05H.apply]
    split
    · rename_i s' txs hd
      refine ⟨[txs], [], [], [], Hist.single_deq hd, Nat.le_refl 1, ?_, ?_⟩
      · rw [paidIds_eq, handed, List.flatten_singleton]
      · rw [refundIds_eq, handed, List.flatten_singleton]
    · exact quiet (Appends.refl _) rfl rfl
  | relayer rel' => exact quiet (Appends.refl _) rfl rfl

/-- **Every run is a history.**  For any sequence of C05H operations (all eight message
    handlers with arbitrary arguments, execution-layer requests, dequeues; failures roll back) from
    any state, there is a `Hist` from the start state to the end state whose batches are exactly the
    successful dequeues; the ghost logs of delivered notices are what those batches carry.  No
    freshness or well-formedness hypothesis is needed. -/
theorem run_hist (e : C05H.Env) : ∀ (ops : List C05H.Op) (g : C05H.G),
    ∃ bs d p r, Hist g.st (C05H.run e g ops).st bs d p r ∧ bs.length ≤ ops.length ∧
      (C05H.run e g ops).dPaid = g.dPaid ++ (paidOf (handed bs)).map (·.1) ∧
      (C05H.run e g ops).dRefund = g.dRefund ++ rejectedOf (handed bs) := by
  intro ops
  induction ops with
  | nil => intro g; exact ⟨[], [], [], [], Hist.nil, by simp, by simp [C05H.run, handed, paidOf], by simp [C05H.run, handed, rejectedOf]⟩
  | cons op ops ih =>
    intro g
    obtain ⟨bs1, d1, p1, r1, h1, l1, a1, b1⟩ := apply_hist e g op
    obtain ⟨bs2, d2, p2, r2, h2, l2, a2, b2⟩ := ih (C05H.apply e g op)
    refine ⟨bs1 ++ bs2, d1 ++ d2, p1 ++ p2, r1 ++ r2, h1.trans h2, by simp; omega, ?_, ?_⟩
    · show (C05H.run e (C05H.apply e g op) ops).dPaid = _
      rw [a2, a1]
      simp [handed, paidOf_append]
    · show (C05H.run e (C05H.apply e g op) ops).dRefund = _
      rw [b2, b1]
      simp [handed, rejectedOf_append]

/-- **C06 over runs**: along any run, what the execution layer has been handed plus what is still
    queued is what was queued at the start plus what the handlers appended, kind by kind and in
    order; and if the nonce does not wrap, all system transactions of the run are numbered
    consecutively from the initial nonce. -/
theorem C06_run (e : C05H.Env) (ops : List C05H.Op) (g : C05H.G) :
    ∃ bs d p r,
      (depositsOf (handed bs) ++ (C05H.run e g ops).st.queue.deposits = g.st.queue.deposits ++ d ∧
       paidOf (handed bs) ++ (C05H.run e g ops).st.queue.paid = g.st.queue.paid ++ p ∧
       rejectedOf (handed bs) ++ (C05H.run e g ops).st.queue.rejected = g.st.queue.rejected ++ r) ∧
      (g.st.nonce + (handed bs).length < two64 →
        Consecutive g.st.nonce (handed bs) ∧ (C05H.run e g ops).st.nonce = g.st.nonce + (handed bs).length) ∧
      (∀ txs ∈ bs, (hashesOf txs).length ≤ 1 ∧ (depositsOf txs).length ≤ 8 ∧
        (paidOf txs).length + (rejectedOf txs).length ≤ 8) ∧
      (C05H.run e g ops).dPaid = g.dPaid ++ (paidOf (handed bs)).map (·.1) ∧
      (C05H.run e g ops).dRefund = g.dRefund ++ rejectedOf (handed bs) := by
  obtain ⟨bs, d, p, r, h, _, a, b⟩ := run_hist e ops g
  refine ⟨bs, d, p, r, fifo h, nonces_consecutive h, fun txs ht => ?_, a, b⟩
  obtain ⟨k1, k2, k3, _⟩ := caps h txs ht
  exact ⟨k1, k2, k3⟩

/-! ## locking histories -/

section locking
open Goat.Locking (Reward Unlock)

/-- a locking batch as returned by `Locking.dequeue`: rewards, unlocks, first nonce -/
abbrev LBatch := List Reward × List Unlock × Nat

/-- the items of a locking batch awaiting their nonce: rewards first, then unlocks -/
def lockItems (rw : List Reward) (ul : List Unlock) : List (Nat → SysTx) :=
  rw.map (fun r n => SysTx.reward n r.id r.recipient r.goat r.gas) ++
    ul.map (fun u n => SysTx.unlock n u.id u.recipient u.token u.amount)

/-- the system transactions of a locking batch: rewards first, then unlocks, numbered from the
    nonce returned by `Locking.dequeue` (this is how the block builder numbers them:
    reward `i` gets `n0 + i`, unlock `i` gets `n0 + #rewards + i`) -/
def lockTxs (b : LBatch) : List SysTx := number b.2.2 (lockItems b.1 b.2.1)

def rewardOf : SysTx → Option Reward
  | .reward _ id rc g gs => some { id := id, recipient := rc, goat := g, gas := gs }
  | _ => none
def unlockOf : SysTx → Option Unlock
  | .unlock _ id rc tk a => some { id := id, token := tk, recipient := rc, amount := a }
  | _ => none

/-- claimed rewards carried by a list of system transactions, in order -/
def rewardsOf (txs : List SysTx) : List Reward := txs.filterMap rewardOf
/-- matured unlocks carried by a list of system transactions, in order -/
def unlocksOf (txs : List SysTx) : List Unlock := txs.filterMap unlockOf

theorem rewardsOf_append (a b : List SysTx) : rewardsOf (a ++ b) = rewardsOf a ++ rewardsOf b := by
  unfold rewardsOf; rw [List.filterMap_append]
theorem unlocksOf_append (a b : List SysTx) : unlocksOf (a ++ b) = unlocksOf a ++ unlocksOf b := by
  unfold unlocksOf; rw [List.filterMap_append]

theorem lockItems_length (rw : List Reward) (ul : List Unlock) : (lockItems rw ul).length = rw.length + ul.length := by
  simp [lockItems]

theorem lockTxs_length (b : LBatch) : (lockTxs b).length = b.1.length + b.2.1.length := by
  unfold lockTxs; rw [length_number, lockItems_length]

theorem lockItems_nonce (rw : List Reward) (ul : List Unlock) : ∀ f ∈ lockItems rw ul, ∀ i, SysTx.nonce (f i) = i := by
  intro f hf i
  simp only [lockItems, List.mem_append, List.mem_map] at hf
  rcases hf with ⟨_, _, rfl⟩ | ⟨_, _, rfl⟩ <;> rfl

/-- a locking batch carries exactly its rewards and its unlocks, and is numbered consecutively from
    its first nonce -/
theorem lockTxs_carries (b : LBatch) :
    rewardsOf (lockTxs b) = b.1 ∧ unlocksOf (lockTxs b) = b.2.1 ∧ Consecutive b.2.2 (lockTxs b) := by
  refine ⟨?_, ?_, (consecutive_number _ _ (lockItems_nonce _ _)).1⟩
  · unfold lockTxs lockItems rewardsOf
    rw [number_append, List.filterMap_append,
      filterMap_number rewardOf (fun (r : Reward) n => SysTx.reward n r.id r.recipient r.goat r.gas) (fun r => some r) (fun _ _ => rfl),
      filterMap_number rewardOf (fun (u : Unlock) n => SysTx.unlock n u.id u.recipient u.token u.amount) (fun _ => none) (fun _ _ => rfl)]
    simp [filterMap_none]
  · unfold lockTxs lockItems unlocksOf
    rw [number_append, List.filterMap_append,
      filterMap_number unlockOf (fun (r : Reward) n => SysTx.reward n r.id r.recipient r.goat r.gas) (fun _ => none) (fun _ _ => rfl),
      filterMap_number unlockOf (fun (u : Unlock) n => SysTx.unlock n u.id u.recipient u.token u.amount) (fun u => some u) (fun _ _ => rfl)]
    simp [filterMap_none]

/-- position by position: reward `i` of a batch carries nonce `n0 + i`, unlock `i` carries
    `n0 + #rewards + i` -/
theorem lockTxs_nonce_at (b : LBatch) (i : Nat) (hi : i < (lockTxs b).length) : SysTx.nonce (lockTxs b)[i] = b.2.2 + i :=
  consecutive_getElem _ _ (lockTxs_carries b).2.2 i hi

/-- **append-only step of the locking queue** -/
structure LAppends (s s' : Locking.State) (rw : List Reward) (ul : List Unlock) : Prop where
  qRewards : s'.qRewards = s.qRewards ++ rw
  qUnlocks : s'.qUnlocks = s.qUnlocks ++ ul
  nonce : s'.nonce = s.nonce

/-- neither queue nor the nonce is touched -/
def LUnchanged (s s' : Locking.State) : Prop :=
  s'.qRewards = s.qRewards ∧ s'.qUnlocks = s.qUnlocks ∧ s'.nonce = s.nonce

theorem LUnchanged.refl (s : Locking.State) : LUnchanged s s := ⟨rfl, rfl, rfl⟩
theorem LUnchanged.trans {a b c : Locking.State} (h1 : LUnchanged a b) (h2 : LUnchanged b c) : LUnchanged a c :=
  ⟨h2.1.trans h1.1, h2.2.1.trans h1.2.1, h2.2.2.trans h1.2.2⟩
theorem LUnchanged.appends {s s' : Locking.State} (h : LUnchanged s s') : LAppends s s' [] [] :=
  ⟨by rw [h.1, List.append_nil], by rw [h.2.1, List.append_nil], h.2.2⟩
theorem LAppends.refl (s : Locking.State) : LAppends s s [] [] := (LUnchanged.refl s).appends
theorem LAppends.trans {a b c : Locking.State} {r1 r2 u1 u2} (h1 : LAppends a b r1 u1) (h2 : LAppends b c r2 u2) :
    LAppends a c (r1 ++ r2) (u1 ++ u2) :=
  ⟨by rw [h2.qRewards, h1.qRewards, List.append_assoc], by rw [h2.qUnlocks, h1.qUnlocks, List.append_assoc],
   h2.nonce.trans h1.nonce⟩

theorem LAppends.unchanged {a b c : Locking.State} {rw ul} (h : LAppends a b rw ul) (hu : LUnchanged b c) : LAppends a c rw ul :=
  ⟨hu.1.trans h.qRewards, hu.2.1.trans h.qUnlocks, hu.2.2.trans h.nonce⟩

/-- **Locking history** from `s`: `Locking.dequeue` steps (each contributes its batch) and
    append-only steps (claims appended to `rw`, matured unlocks appended to `ul`), interleaved. -/
inductive LHist (s : Locking.State) : Locking.State → List LBatch → List Reward → List Unlock → Prop
  | nil : LHist s s [] [] []
  | deq {s1 : Locking.State} {bs rw ul} :
      LHist s s1 bs rw ul → LHist s (Locking.dequeue s1).1 (bs ++ [(Locking.dequeue s1).2]) rw ul
  | app {s1 s2 : Locking.State} {bs rw ul rw' ul'} :
      LHist s s1 bs rw ul → LAppends s1 s2 rw' ul' → LHist s s2 bs (rw ++ rw') (ul ++ ul')

/-- all system transactions of the locking module handed over along a history, in order -/
def lhanded (bs : List LBatch) : List SysTx := (bs.map lockTxs).flatten

theorem lhanded_snoc (bs : List LBatch) (b : LBatch) : lhanded (bs ++ [b]) = lhanded bs ++ lockTxs b := by
  simp [lhanded]

theorem LHist.single_app {s s' : Locking.State} {rw ul} (h : LAppends s s' rw ul) : LHist s s' [] rw ul :=
  LHist.app LHist.nil h

theorem LHist.trans {a b c : Locking.State} {bs1 r1 u1 bs2 r2 u2} (h1 : LHist a b bs1 r1 u1) (h2 : LHist b c bs2 r2 u2) :
    LHist a c (bs1 ++ bs2) (r1 ++ r2) (u1 ++ u2) := by
  induction h2 with
  | nil => simpa using h1
  | deq _ ih =>
    rw [← List.append_assoc]
    exact LHist.deq ih
  | app _ ha ih =>
    rw [← List.append_assoc, ← List.append_assoc]
    exact LHist.app ih ha

/-- **one locking dequeue conserves each kind**: handed over ++ still queued = previously queued -/
theorem locking_dequeue_conserves (s : Locking.State) :
    (Locking.dequeue s).2.1 ++ (Locking.dequeue s).1.qRewards = s.qRewards ∧
    (Locking.dequeue s).2.2.1 ++ (Locking.dequeue s).1.qUnlocks = s.qUnlocks := by
  rw [Locking.dequeue_eq]
  exact ⟨List.take_append_drop .., List.take_append_drop ..⟩

/-- **caps of one locking dequeue** -/
theorem locking_dequeue_caps (s : Locking.State) :
    (Locking.dequeue s).2.1.length ≤ 16 ∧ (Locking.dequeue s).2.2.1.length ≤ 16 := by
  rw [Locking.dequeue_eq]
  exact ⟨List.length_take_le .., List.length_take_le ..⟩

/-- nonces of one locking dequeue: the batch starts at the stored nonce, which then advances by the
    number handed over unless that wraps -/
theorem locking_dequeue_nonce (s : Locking.State) (hw : s.nonce + (lockTxs (Locking.dequeue s).2).length < two64) :
    (Locking.dequeue s).2.2.2 = s.nonce ∧ (Locking.dequeue s).1.nonce = s.nonce + (lockTxs (Locking.dequeue s).2).length := by
  rw [lockTxs_length] at hw ⊢
  rw [Locking.dequeue_eq] at hw ⊢
  refine ⟨rfl, ?_⟩
  dsimp only at hw ⊢
  split
  · rename_i he
    rw [he.1, he.2]; rfl
  · rw [Nat.mod_eq_of_lt (by omega), Nat.add_assoc]

/-- **FIFO for claimed rewards and matured unlocks.** -/
theorem locking_fifo {s s' : Locking.State} {bs rw ul} (h : LHist s s' bs rw ul) :
    (bs.map (·.1)).flatten ++ s'.qRewards = s.qRewards ++ rw ∧
    (bs.map (·.2.1)).flatten ++ s'.qUnlocks = s.qUnlocks ++ ul := by
  induction h with
  | nil => simp
  | @deq s1 bs rw ul _ ih =>
    obtain ⟨c1, c2⟩ := locking_dequeue_conserves s1
    simp only [List.map_append, List.map_cons, List.map_nil, List.flatten_append, List.flatten_cons, List.flatten_nil,
      List.append_nil, List.append_assoc]
    rw [c1, c2]
    exact ih
  | app _ ha ih =>
    obtain ⟨i1, i2⟩ := ih
    refine ⟨?_, ?_⟩
    · rw [ha.qRewards, ← List.append_assoc, i1, List.append_assoc]
    · rw [ha.qUnlocks, ← List.append_assoc, i2, List.append_assoc]

/-- **FIFO (rewards).**  The rewards handed over (batch after batch, in order) followed by the rewards
    still queued are exactly the rewards queued at the start followed by all claims appended since. -/
theorem locking_fifo_rewards {s s' : Locking.State} {bs rw ul} (h : LHist s s' bs rw ul) :
    (bs.map (·.1)).flatten ++ s'.qRewards = s.qRewards ++ rw := (locking_fifo h).1

/-- **FIFO (unlocks).**  The same for matured unlocks. -/
theorem locking_fifo_unlocks {s s' : Locking.State} {bs rw ul} (h : LHist s s' bs rw ul) :
    (bs.map (·.2.1)).flatten ++ s'.qUnlocks = s.qUnlocks ++ ul := (locking_fifo h).2

/-- the system transactions of the history carry exactly the batches' rewards and unlocks -/
theorem lhanded_carries (bs : List LBatch) :
    rewardsOf (lhanded bs) = (bs.map (·.1)).flatten ∧ unlocksOf (lhanded bs) = (bs.map (·.2.1)).flatten := by
  induction bs with
  | nil => simp [lhanded, rewardsOf, unlocksOf]
  | cons b bs ih =>
    obtain ⟨c1, c2, _⟩ := lockTxs_carries b
    have : lhanded (b :: bs) = lockTxs b ++ lhanded bs := by simp [lhanded]
    rw [this, rewardsOf_append, unlocksOf_append, ih.1, ih.2, c1, c2]
    simp

/-- **FIFO, in terms of the system transactions handed over** -/
theorem locking_fifo_txs {s s' : Locking.State} {bs rw ul} (h : LHist s s' bs rw ul) :
    rewardsOf (lhanded bs) ++ s'.qRewards = s.qRewards ++ rw ∧
    unlocksOf (lhanded bs) ++ s'.qUnlocks = s.qUnlocks ++ ul := by
  rw [(lhanded_carries bs).1, (lhanded_carries bs).2]
  exact locking_fifo h

/-- **Locking nonces.**  If the 64-bit nonce does not wrap during the history, every batch
    starts at the nonce where the previous one stopped, so that all locking system transactions of
    the history (rewards first then unlocks inside a batch) carry the consecutive nonces
    `s.nonce, s.nonce+1, …`; the stored nonce has advanced by exactly their number. -/
theorem locking_nonces_consecutive {s s' : Locking.State} {bs rw ul} (h : LHist s s' bs rw ul)
    (hw : s.nonce + (lhanded bs).length < two64) :
    Consecutive s.nonce (lhanded bs) ∧ s'.nonce = s.nonce + (lhanded bs).length := by
  induction h with
  | nil => exact ⟨trivial, rfl⟩
  | @deq s1 bs rw ul _ ih =>
    rw [lhanded_snoc, List.length_append] at hw ⊢
    obtain ⟨i1, i2⟩ := ih (by omega)
    obtain ⟨h0, hn⟩ := locking_dequeue_nonce s1 (by omega)
    exact ⟨consecutive_append _ _ _ i1 (i2 ▸ h0 ▸ (lockTxs_carries _).2.2), by rw [hn, i2, Nat.add_assoc]⟩
  | app _ ha ih =>
    obtain ⟨i1, i2⟩ := ih hw
    exact ⟨i1, ha.nonce.trans i2⟩

/-- each batch of the history starts at the stored nonce of that moment: batch `k` starts at
    `s.nonce +` (number of system transactions of the batches before it) -/
theorem locking_batch_start {s s' : Locking.State} {bs rw ul} (h : LHist s s' bs rw ul)
    (hw : s.nonce + (lhanded bs).length < two64) (k : Nat) (hk : k < bs.length) :
    (bs[k]).2.2 = s.nonce + (lhanded (bs.take k)).length := by
  induction h with
  | nil => exact absurd hk (by simp)
  | @deq s1 bs rw ul h1 ih =>
    have hw' : s.nonce + (lhanded bs).length < two64 := by
      rw [lhanded_snoc, List.length_append] at hw; omega
    by_cases hlt : k < bs.length
    · rw [List.getElem_append_left hlt, List.take_append_of_le_length (Nat.le_of_lt hlt)]
      exact ih hw' hlt
    · rw [List.length_append, List.length_singleton] at hk
      have hk' : k = bs.length := Nat.le_antisymm (Nat.le_of_lt_succ hk) (Nat.le_of_not_lt hlt)
      subst hk'
      rw [List.getElem_append_right (Nat.le_refl _)]
      simp only [Nat.sub_self, List.getElem_cons_zero, List.take_left']
      rw [Locking.dequeue_eq]
      exact (locking_nonces_consecutive h1 hw').2
  | app _ _ ih => exact ih hw hk

/-- **Caps of every batch**: at most 16 rewards and at most 16 unlocks per dequeue -/
theorem locking_caps {s s' : Locking.State} {bs rw ul} (h : LHist s s' bs rw ul) :
    ∀ b ∈ bs, b.1.length ≤ 16 ∧ b.2.1.length ≤ 16 := by
  induction h with
  | nil => intro b hb; cases hb
  | @deq s1 bs rw ul _ ih =>
    intro b hb
    rcases List.mem_append.mp hb with hb | hb
    · exact ih b hb
    · simp only [List.mem_singleton] at hb
      subst hb
      exact locking_dequeue_caps s1
  | app _ _ ih => exact ih

end locking

end Goat.C06H

/-! ## every locking entry point is an append-only step -/

namespace Goat.C06H
open Goat.Locking

theorem lu_vset (s : State) (a : Bytes) (v : Validator) : LUnchanged s (vset s a v) := ⟨rfl, rfl, rfl⟩
theorem lu_tset (s : State) (d : String) (t : Token) : LUnchanged s (tset s d t) := ⟨rfl, rfl, rfl⟩
theorem lu_enqueueUnlock (s : State) (t : Int) (u : Unlock) : LUnchanged s (enqueueUnlock s t u) := ⟨rfl, rfl, rfl⟩

theorem lu_of_idxWrites {a : Bytes} {s t : State} (h : IdxWrites a s t) : LUnchanged s t := ⟨h.qRewards, h.qUnlocks, h.nonce⟩

theorem lu_slashAll (s : State) (addr : Bytes) (v : Validator) (frac : Nat) : LUnchanged s (slashAll s addr v frac).1 := by
  rw [slashAll_fst]
  exact (lu_of_idxWrites (idxWrites_idxRemoves addr v.locking s)).trans ⟨rfl, rfl, rfl⟩

theorem lockOne_lu (s s' : State) (now : Int) (b : Bytes) (coins : Coins) (h : lockOne s now b coins = .ok s') : LUnchanged s s' := by
  obtain ⟨_, s₀, v', _, hw, rfl, _⟩ := lockOne_writes h
  exact (lu_of_idxWrites hw).trans (lu_vset s₀ b v')

theorem lock_lu (s s' : State) (now : Int) (reqs : List LockReq) (h : lock s now reqs = .ok s') : LUnchanged s s' := by
  obtain ⟨_, agg, _, h⟩ := lock_agg h
  exact foldlM_inv (fun b => LUnchanged s b) _ (fun b e b' hb hstep => hb.trans (lockOne_lu b b' now e.1 e.2 hstep)) _ _ _
    (LUnchanged.refl s) h

theorem unlockOne_lu (s s' : State) (now : Int) (r : UnlockReq) (h : unlockOne s now r = .ok s') : LUnchanged s s' := by
  obtain ⟨s3, ex, amt, hcore, rfl⟩ := unlockOne_ok h
  obtain ⟨_, s₀, v', _, hw, rfl, _⟩ := unlockCore_writes hcore
  exact ((lu_of_idxWrites hw).trans (lu_vset s₀ _ v')).trans (lu_enqueueUnlock _ _ _)

theorem unlock_lu (s s' : State) (now : Int) (reqs : List UnlockReq) (h : unlock s now reqs = .ok s') : LUnchanged s s' :=
  foldlM_inv (fun b => LUnchanged s b) _ (fun b x b' hb hstep => hb.trans (unlockOne_lu b b' now x hstep)) _ _ _
    (LUnchanged.refl s) h

theorem handleVote_lu (s s' : State) (now : Int) (vi : VoteInfo) (h : handleVote s now vi = .ok s') : LUnchanged s s' := by
  obtain ⟨v, _, h⟩ := handleVote_ok h
  rcases h with ⟨_, rfl⟩ | ⟨_, _, rfl⟩ | ⟨_, _, rfl⟩
  · exact LUnchanged.refl _
  · exact lu_vset _ _ _
  · exact ((lu_of_idxWrites (idxWrites_rankRemove s v.power vi.address)).trans (lu_slashAll _ _ _ _)).trans (lu_vset _ _ _)

theorem handleVotes_lu (s s' : State) (now : Int) (votes : List VoteInfo) (h : handleVotes s now votes = .ok s') : LUnchanged s s' :=
  foldlM_inv (fun b => LUnchanged s b) _ (fun b x b' hb hstep => hb.trans (handleVote_lu b b' now x hstep)) _ _ _
    (LUnchanged.refl s) h

theorem handleEvidence_lu (s s' : State) (now height : Int) (maxAge : Option (Int × Int)) (e : Evidence)
    (h : handleEvidence s now height maxAge e = .ok s') : LUnchanged s s' := by
  rcases handleEvidence_ok h with ⟨_, rfl⟩ | ⟨v, _, _, _, _, rfl⟩
  · exact LUnchanged.refl _
  · exact ((lu_of_idxWrites (idxWrites_rankRemove s v.power e.address)).trans (lu_slashAll _ _ _ _)).trans (lu_vset _ _ _)

theorem onWeightChanged_lu (s s' : State) (token : String) (prev cur : Nat) (h : onWeightChanged s token prev cur = .ok s') :
    LUnchanged s s' := by
  rw [onWeightChanged_eq] at h
  split at h
  · cases h; exact LUnchanged.refl s
  · refine foldlM_inv (fun b => LUnchanged s b) _ ?_ _ _ _ (LUnchanged.refl s) h
    intro b e b' hb hstep
    obtain ⟨_, s₀, _, _, hw, rfl, _⟩ := weightStep_writes hstep
    exact hb.trans ((lu_of_idxWrites hw).trans (lu_vset s₀ _ _))

theorem updateTokens_lu (s s' : State) (weights : List (String × Nat)) (thresholds : List (String × Int))
    (h : updateTokens s weights thresholds = .ok s') : LUnchanged s s' := by
  obtain ⟨s₁, h1, h2⟩ := updateTokens_ok h
  have hs1 : LUnchanged s s₁ := by
    refine foldlM_inv (fun b => LUnchanged s b) _ ?_ _ _ _ (LUnchanged.refl s) h1
    intro b u b' hb hstep
    obtain ⟨_, b₁, hw, rfl⟩ := weightSet_ok hstep
    exact hb.trans ((onWeightChanged_lu b b₁ _ _ _ hw).trans (lu_tset _ _ _))
  refine foldlM_inv (fun b => LUnchanged s b) _ ?_ _ _ _ hs1 h2
  intro b u b' hb hstep
  rcases thresholdSet_ok hstep with rfl | ⟨_, _, rfl⟩
  · exact hb
  · exact hb.trans ⟨rfl, rfl, rfl⟩

theorem create_lu (hash160 : Bytes → Bytes) (hasAccount : Bytes → Bool) (s s' : State) (reqs : List CreateReq)
    (accs : List Bytes) (h : create hash160 hasAccount s reqs = .ok (s', accs)) : LUnchanged s s' := by
  rw [create_eq] at h
  refine foldlM_inv (fun (acc : State × List Bytes) => LUnchanged s acc.1) _ ?_ _ _ _ (LUnchanged.refl s) h
  intro acc r acc' hacc hstep
  rcases (createStep_ok hstep).2 with rfl | ⟨_, _, _, rfl⟩
  · exact hacc
  · exact hacc.trans (lu_vset _ _ _)

/-- reward distribution leaves both hand-over queues, the nonce and the time queue of unlocks alone -/
theorem distributeReward_lu (s s' : State) (height : Int) (votes : List VoteInfo)
    (h : distributeReward s height votes = .ok s') : LUnchanged s s' ∧ s'.unlockQueue = s.unlockQueue := by
  rcases distributeReward_cases h with ⟨_, rfl⟩ | ⟨_, _, _, s₂, rg, rr, hgo, rfl⟩
  · exact ⟨LUnchanged.refl _, rfl⟩
  · exact distributeReward_go_inv (fun t => LUnchanged s t ∧ t.unlockQueue = s.unlockQueue)
      (fun t a val g r ht _ => ⟨ht.1.trans (lu_vset t a _), ht.2⟩) _ votes s _ _ _ ⟨LUnchanged.refl s, rfl⟩ hgo

theorem updateRewardPool_lu (s s' : State) (height : Int) (gas grants : List Int)
    (h : updateRewardPool s height gas grants = .ok s') : LUnchanged s s' := by
  obtain ⟨_, _, _, _, _, rfl⟩ := updateRewardPool_ok_iff.mp h
  exact ⟨rfl, rfl, rfl⟩

/-- **claim appends** exactly the payout records of C12H (`payouts`: one per request, in
    request order, carrying the request's id and recipient) to the reward queue; the unlock queue
    and the nonce are untouched. -/
theorem claim_appends (s s' : State) (reqs : List ClaimReq) (h : claim s reqs = .ok s') :
    LAppends s s' (C12H.payouts s [] reqs) [] := by
  obtain ⟨k1, _, _⟩ := C12H.claim_exact s s' reqs h
  have k2 : s'.qUnlocks = s.qUnlocks ∧ s'.nonce = s.nonce := by
    rw [claim_eq] at h
    refine foldlM_inv (fun (b : State) => b.qUnlocks = s.qUnlocks ∧ b.nonce = s.nonce) _ ?_ reqs s s' ⟨rfl, rfl⟩ h
    intro b r b' hb hstep
    obtain ⟨_, _, rfl⟩ := claimStep_ok hstep
    exact hb
  exact ⟨k1, k2.1.trans (List.append_nil _).symm, k2.2⟩

theorem payouts_ids (s : State) : ∀ (reqs : List ClaimReq) (seen : List Bytes),
    (C12H.payouts s seen reqs).map (·.id) = reqs.map (·.id) ∧
    (C12H.payouts s seen reqs).map (·.recipient) = reqs.map (·.recipient) := by
  intro reqs
  induction reqs with
  | nil => intro seen; exact ⟨rfl, rfl⟩
  | cons r rs ih =>
    intro seen
    obtain ⟨i1, i2⟩ := ih (r.validator :: seen)
    simp only [C12H.payouts, List.map_cons, i1, i2, and_self]

/-- **The begin-block hook's maturity sweep appends** the unlocks that are due (time-queue
    entries with key ≤ now, in key order, each entry in insertion order) to the unlock queue; the
    reward queue and the nonce are untouched. -/
theorem dequeueMature_appends (s : State) (now : Int) :
    LAppends s (dequeueMature s now) [] (((dueUnlocks s now).map (·.2)).flatten) := by
  rw [dequeueMature_eq]
  exact ⟨(List.append_nil _).symm, rfl, rfl⟩

/-- **processRequests** (reward pool, tokens, create, lock, unlock, claim) is an append-only
    step: it appends the claim payouts — one record per claim request, in request order, with the
    request's id and recipient — and nothing else; the nonce is untouched. -/
theorem processRequests_appends (hash160 : Bytes → Bytes) (hasAccount : Bytes → Bool) (s s' : State) (height now : Int)
    (R : Reqs) (accs : List Bytes) (h : processRequests hash160 hasAccount s height now R = .ok (s', accs)) :
    ∃ rw : List Reward, LAppends s s' rw [] ∧ rw.map (·.id) = R.claims.map (·.id) ∧
      rw.map (·.recipient) = R.claims.map (·.recipient) := by
  obtain ⟨s1, s2, s3, s4, s5, h1, h2, h3, h4, h5, h6⟩ := processRequests_ok h
  have k5 : LUnchanged s s5 :=
    ((((updateRewardPool_lu s s1 _ _ _ h1).trans (updateTokens_lu s1 s2 _ _ h2)).trans
      (create_lu _ _ s2 s3 _ _ h3)).trans (lock_lu s3 s4 _ _ h4)).trans (unlock_lu s4 s5 _ _ h5)
  exact ⟨_, k5.appends.trans (claim_appends s5 s' R.claims h6), (payouts_ids s5 R.claims []).1, (payouts_ids s5 R.claims []).2⟩

/-- **beginBlock** (reward distribution, maturity sweep, votes, evidence) is an append-only
    step: it appends exactly the unlocks due at `now` and nothing else; the nonce is untouched. -/
theorem beginBlock_appends (s s' : State) (height now : Int) (votes : List VoteInfo) (maxAge : Option (Int × Int))
    (evs : List Evidence) (h : beginBlock s height now votes maxAge evs = .ok s') :
    LAppends s s' [] (((dueUnlocks s now).map (·.2)).flatten) := by
  obtain ⟨s1, s3, h1, h3, h⟩ := beginBlock_ok h
  obtain ⟨k1, q1⟩ := distributeReward_lu s s1 height votes h1
  have k2 := dequeueMature_appends s1 now
  have hdue : dueUnlocks s1 now = dueUnlocks s now := by unfold dueUnlocks; rw [q1]
  rw [hdue] at k2
  have k3 : LUnchanged (dequeueMature s1 now) s3 := handleVotes_lu _ s3 now votes h3
  have k4 : LUnchanged s3 s' :=
    foldlM_inv (fun b => LUnchanged s3 b) _ (fun b x b' hb hstep => hb.trans (handleEvidence_lu b b' now height maxAge x hstep))
      evs s3 s' (LUnchanged.refl s3) h
  exact (k1.appends.trans k2).unchanged (k3.trans k4)

/-- **endBlocker** leaves both queues and the nonce unchanged -/
theorem endBlocker_unchanged (s s' : State) (ups : List Update) (h : endBlocker s = .ok (s', ups)) : LUnchanged s s' :=
  C07.endBlocker_inv (fun t => LUnchanged s t) (fun _ _ ht => ht.trans ⟨rfl, rfl, rfl⟩) (fun t a _ ht _ _ => ht.trans (lu_vset t a _))
    (fun t a _ ht _ _ => ht.trans (lu_vset t a _)) h (LUnchanged.refl s)

/-- one entry point of the locking module (the operation language of C11H / C12H / C14H: request
    processing, begin-block hook, end-block hook, dequeue; failures leave the state unchanged) is a
    one-step locking history -/
theorem lstep_hist (s : State) (op : C11H.Op) :
    ∃ bs rw ul, LHist s (Locking.step s op) bs rw ul ∧ bs.length ≤ 1 := by
  have quiet : ∀ {s' : State} {rw ul}, LAppends s s' rw ul → ∃ bs rw ul, LHist s s' bs rw ul ∧ bs.length ≤ 1 :=
    fun ha => ⟨[], _, _, LHist.single_app ha, Nat.zero_le 1⟩
  cases op with
  | process hash160 hasAccount height now r =>
    simp only [Locking.step]
    split
    · rename_i s' accs h
      obtain ⟨rw, ha, _⟩ := processRequests_appends _ _ _ _ _ _ _ _ h
      exact quiet ha
    · exact quiet (LAppends.refl s)
  | beginBlock height now votes maxAge evs =>
    simp only [Locking.step]
    split
    · rename_i s' h
      exact quiet (beginBlock_appends _ _ _ _ _ _ _ h)
    · exact quiet (LAppends.refl s)
  | endBlocker =>
    simp only [Locking.step]
    split
    · rename_i s' ups h
      exact quiet (endBlocker_unchanged _ _ _ h).appends
    · exact quiet (LAppends.refl s)
  | dequeue => exact ⟨[(Locking.dequeue s).2], [], [], LHist.deq LHist.nil, Nat.le_refl 1⟩

/-- **Every run of the locking module is a locking history** -/
theorem lrun_hist : ∀ (ops : List C11H.Op) (s : State),
    ∃ bs rw ul, LHist s (Locking.runS s ops) bs rw ul ∧ bs.length ≤ ops.length := by
  intro ops
  induction ops with
  | nil => intro s; exact ⟨[], [], [], LHist.nil, by simp⟩
  | cons op ops ih =>
    intro s
    obtain ⟨bs1, r1, u1, h1, l1⟩ := lstep_hist s op
    obtain ⟨bs2, r2, u2, h2, l2⟩ := ih (Locking.step s op)
    exact ⟨bs1 ++ bs2, r1 ++ r2, u1 ++ u2, h1.trans h2, by simp; omega⟩

/-- **C06 over locking runs**: along any run of the locking module, rewards and unlocks handed over
    plus those still queued are those queued at the start plus those appended by claims / the
    maturity sweep, in order; per-dequeue caps hold; and, absent wrap-around, the locking system
    transactions of the whole run are numbered consecutively from the initial nonce. -/
theorem C06_locking_run (ops : List C11H.Op) (s : State) :
    ∃ bs rw ul,
      (rewardsOf (lhanded bs) ++ (Locking.runS s ops).qRewards = s.qRewards ++ rw ∧
       unlocksOf (lhanded bs) ++ (Locking.runS s ops).qUnlocks = s.qUnlocks ++ ul) ∧
      (s.nonce + (lhanded bs).length < two64 →
        C06.Consecutive s.nonce (lhanded bs) ∧ (Locking.runS s ops).nonce = s.nonce + (lhanded bs).length) ∧
      (∀ b ∈ bs, b.1.length ≤ 16 ∧ b.2.1.length ≤ 16) := by
  obtain ⟨bs, rw, ul, h, _⟩ := lrun_hist ops s
  exact ⟨bs, rw, ul, locking_fifo_txs h, locking_nonces_consecutive h, locking_caps h⟩

end Goat.C06H

/-! ## non-vacuity -/

namespace Goat.C06H.Example
open Goat.Bitcoin Goat.C06

def mkDep (i : Nat) : DepositReceipt := { address := [], txid := [], txout := i, amount := 1000 + i, tax := 0 }
def mkPaid (i : Nat) : Nat × Receipt := (100 + i, { txid := [], txout := i, amount := 50 + i })

/-- 10 queued deposits, 9 paid notices, 3 refunds; nonce 5; cursor at height 0, voted tip 2 -/
def ex0 : State :=
  { params := default, pubkey := default, tip := 2, hashes := [(1, [1]), (2, [2])], deposited := [], nonce := 5,
    withdrawals := [], processId := 0, processing := [],
    queue := { blockNumber := 0, deposits := (List.range 10).map mkDep, paid := (List.range 9).map mkPaid,
               rejected := [200, 201, 202] } }

def okOr {α : Type} (d : α) : Outcome α → α
  | .ok a => a
  | _ => d

/-- first dequeue -/
def r1 : State × List SysTx := okOr (ex0, []) (dequeue ex0)
theorem r1_ok : dequeue ex0 = .ok r1 := rfl

/-- a real append in between: the execution layer asks for a withdrawal to an undecodable address,
    which is refunded at creation (refund notice 77) … -/
def s2 : State := okOr r1.1 (processBridgeRequest C05H.c0 r1.1 { withdraws := [{ id := 77, amount := 5, txPrice := 1, address := "bad" }] })
theorem s2_ok : processBridgeRequest C05H.c0 r1.1 { withdraws := [{ id := 77, amount := 5, txPrice := 1, address := "bad" }] } = .ok s2 := rfl
/-- … and one more deposit is credited -/
def s3 : State := { s2 with queue := { s2.queue with deposits := s2.queue.deposits ++ [mkDep 10] } }

/-- second dequeue -/
def r2 : State × List SysTx := okOr (s3, []) (dequeue s3)
theorem r2_ok : dequeue s3 = .ok r2 := rfl

theorem s2_appends : Appends r1.1 s2 [] [] [77] := processBridgeRequest_appends C05H.c0 r1.1 s2 _ s2_ok
theorem s3_appends : Appends s2 s3 [mkDep 10] [] [] := ⟨rfl, (List.append_nil _).symm, (List.append_nil _).symm, rfl, rfl⟩

/-- **the hypotheses of the history theorems are satisfiable**: two dequeues with two appends in between -/
theorem exHist : Hist ex0 r2.1 [r1.2, r2.2] [mkDep 10] [] [77] := by
  exact Hist.deq (Hist.app (Hist.app (Hist.deq Hist.nil r1_ok) s2_appends) s3_appends) r2_ok

/-- what the two batches are: 1 hash + 8 deposits + 8 paid (17, the caps bind), then
    1 hash + 3 deposits + 1 paid + 4 refunds -/
example : r1.2.length = 17 ∧ r2.2.length = 9 := by decide
example : hashesOf r1.2 = [[1]] ∧ hashesOf r2.2 = [[2]] := by decide
example : depositsOf r1.2 = (List.range 8).map mkDep ∧ depositsOf r2.2 = [mkDep 8, mkDep 9, mkDep 10] := by decide
example : paidOf r1.2 = (List.range 8).map mkPaid ∧ paidOf r2.2 = [mkPaid 8] := by decide
example : rejectedOf r1.2 = [] ∧ rejectedOf r2.2 = [200, 201, 202, 77] := by decide
/-- nonces 5 … 30 over both batches, the stored nonce ends at 31, the cursor at height 2, the queue is empty -/
example : (handed [r1.2, r2.2]).map SysTx.nonce = List.range' 5 26 := by decide
example : r2.1.nonce = 31 ∧ r2.1.queue.blockNumber = 2 ∧ r2.1.queue.deposits = [] ∧ r2.1.queue.paid = [] ∧
    r2.1.queue.rejected = [] := by decide

/-- the theorems applied to this history -/
example : depositsOf (handed [r1.2, r2.2]) ++ r2.1.queue.deposits = ex0.queue.deposits ++ [mkDep 10] := fifo_deposits exHist
example : paidOf (handed [r1.2, r2.2]) ++ r2.1.queue.paid = ex0.queue.paid ++ [] := fifo_paid exHist
example : rejectedOf (handed [r1.2, r2.2]) ++ r2.1.queue.rejected = ex0.queue.rejected ++ [77] := fifo_rejected exHist
example : Consecutive 5 (handed [r1.2, r2.2]) ∧ r2.1.nonce = 5 + (handed [r1.2, r2.2]).length :=
  nonces_consecutive exHist (by decide)
example : depositsOf (handed [r1.2, r2.2]) = ex0.queue.deposits ++ [mkDep 10] :=
  (drained_all_handed exHist (by decide) (by decide) (by decide)).1

/-- a dequeue on an empty queue with the cursor at the tip hands over nothing and changes nothing
    (`Hist.deq` with an empty batch) -/
example : ∃ s', dequeue r2.1 = .ok (s', []) := ⟨_, rfl⟩

/-- the same through the C05H operation language (`run_hist` is not vacuous): the refund 77 queued
    by a real request and handed over by a real dequeue -/
example : (C05H.run C05H.e0 { rel := C05H.rel0, st := ex0, dPaid := [], dRefund := [] }
    [.dequeue, .bridge { withdraws := [{ id := 77, amount := 5, txPrice := 1, address := "bad" }] }, .dequeue]).dRefund
    = [200, 201, 202, 77] := by decide

/-- the no-wrap hypothesis of `nonces_consecutive` cannot be dropped: at the very top of the 64-bit
    range the stored nonce wraps (31 would follow 2^64 − 1 + 2 ≡ 1) while the numbering inside the
    batch runs on — the next batch would reuse nonce 1 … (unreachable in practice: 2^64 hand-overs) -/
def exW : State :=
  { ex0 with nonce := two64 - 1, tip := 0, queue := { blockNumber := 0, deposits := [mkDep 0, mkDep 1], paid := [], rejected := [] } }
example : ∃ s' txs, dequeue exW = .ok (s', txs) ∧ txs.map SysTx.nonce = [two64 - 1, two64] ∧ s'.nonce = 1 :=
  ⟨_, _, rfl, by decide, by decide⟩

/-! ### locking -/
section
open Goat.Locking (Reward Unlock)

def mkRew (i : Nat) : Reward := { id := i, recipient := [], goat := 10 + i, gas := i }
def mkUnl (i : Nat) : Unlock := { id := i, token := [], recipient := [], amount := 7 + i }

/-- 20 claimed rewards and 3 matured unlocks queued, two unlocks maturing at time 5, nonce 100 -/
def l0 : Locking.State :=
  { (default : Locking.State) with
    nonce := 100
    qRewards := (List.range 20).map mkRew
    qUnlocks := (List.range 3).map mkUnl
    unlockQueue := [(5, [mkUnl 3, mkUnl 4]), (50, [mkUnl 5])] }

def l1 : Locking.State := (Locking.dequeue l0).1
def l2 : Locking.State := Locking.dequeueMature l1 10
def l3 : Locking.State := (Locking.dequeue l2).1

/-- dequeue, begin-block maturity sweep at time 10 (a real append), dequeue -/
theorem exLHist : LHist l0 l3 [(Locking.dequeue l0).2, (Locking.dequeue l2).2] [] (((Locking.dueUnlocks l1 10).map (·.2)).flatten) := by
  exact LHist.deq (LHist.app (LHist.deq (LHist.nil (s := l0))) (dequeueMature_appends l1 10))

example : ((Locking.dueUnlocks l1 10).map (·.2)).flatten = [mkUnl 3, mkUnl 4] := by decide +kernel
example : (Locking.dequeue l0).2 = ((List.range 16).map mkRew, (List.range 3).map mkUnl, 100) := by decide +kernel
example : (Locking.dequeue l2).2 = ([mkRew 16, mkRew 17, mkRew 18, mkRew 19], [mkUnl 3, mkUnl 4], 119) := by decide +kernel
example : (lhanded [(Locking.dequeue l0).2, (Locking.dequeue l2).2]).map SysTx.nonce = List.range' 100 25 := by decide +kernel
example : l3.nonce = 125 ∧ l3.qRewards = [] ∧ l3.qUnlocks = [] := by decide +kernel

example : rewardsOf (lhanded [(Locking.dequeue l0).2, (Locking.dequeue l2).2]) ++ l3.qRewards = l0.qRewards ++ [] :=
  (locking_fifo_txs exLHist).1
example : Consecutive 100 (lhanded [(Locking.dequeue l0).2, (Locking.dequeue l2).2]) ∧
    l3.nonce = 100 + (lhanded [(Locking.dequeue l0).2, (Locking.dequeue l2).2]).length :=
  locking_nonces_consecutive exLHist (by decide +kernel)
end

end Goat.C06H.Example
