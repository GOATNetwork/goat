/-
  C04 — Merkle inclusion proofs (x/bitcoin/types/proof.go, `VerifyMerkelProof`) are sound and position-binding, for
  every node hash with 32-byte outputs.  The lemmas about `chunks` and `foldUp` are in GoatProofs/Lemmas/Merkle.lean.
-/
import GoatModel.Merkle
import GoatProofs.Lemmas.Merkle
namespace Goat.C04
open Goat.Merkle

/-- **C04, first sentence, verbatim**: verification accepts (leaf, position, path, root) exactly
    when the sizes are well-formed, hashing the leaf up the path (left/right chosen from the bits of
    the position) reproduces the root, and the position is smaller than 2^(path length).
    For every hash function `H`. -/
theorem C04_exact (H : Bytes → Bytes) (txid root proof : Bytes) (index : Nat) :
    verify H txid root proof index = true ↔
      txid.length = 32 ∧ root.length = 32 ∧ proof.length % 32 = 0 ∧
      index < 2 ^ (proof.length / 32) ∧
      foldUp H txid (chunks proof) index = root := by
  unfold verify indexAfter
  simp only [Bool.if_false_left, Bool.and_eq_true, Bool.not_eq_true', decide_eq_false_iff_not, not_or, Decidable.not_not,
    beq_iff_eq, and_assoc]
  refine and_congr_right fun _ => and_congr_right fun _ => and_congr_right fun h3 => ?_
  rw [chunks_length proof h3, Nat.div_eq_zero_iff_lt (Nat.two_pow_pos _)]

/-- Malformed inputs (wrong hash sizes, ragged paths) are rejected. -/
theorem C04_malformed_rejected (H : Bytes → Bytes) (txid root proof : Bytes) (index : Nat)
    (h : txid.length ≠ 32 ∨ root.length ≠ 32 ∨ proof.length % 32 ≠ 0) :
    verify H txid root proof index = false := by
  unfold verify; simp [h]

/-- Out-of-range (aliased) positions are rejected whatever the path hashes to. -/
theorem C04_alias_rejected (H : Bytes → Bytes) (txid root proof : Bytes) (index : Nat)
    (h : 2 ^ (proof.length / 32) ≤ index) : verify H txid root proof index = false := by
  cases hv : verify H txid root proof index with
  | false => rfl
  | true => have := (C04_exact H txid root proof index).mp hv; omega

/-! ### Position binding ("hence a leaf can be proven only at a position it really occupies") -/

/-- A perfect binary hash tree over 32-byte leaves. -/
inductive Tree where
  | leaf : Bytes → Tree
  | node : Tree → Tree → Tree

def Tree.depth : Tree → Nat
  | .leaf _ => 0
  | .node l _ => l.depth + 1

/-- perfect: both subtrees have the same depth; every leaf is 32 bytes -/
def Tree.Perfect : Tree → Prop
  | .leaf b => b.length = 32
  | .node l r => l.Perfect ∧ r.Perfect ∧ l.depth = r.depth

def Tree.root (H : Bytes → Bytes) : Tree → Bytes
  | .leaf b => b
  | .node l r => H (l.root H ++ r.root H)

/-- the leaf at position `i` (bit `depth-1` of `i` selects the top-level subtree) -/
def Tree.leafAt : Tree → Nat → Bytes
  | .leaf b, _ => b
  | .node l r, i => if i / 2 ^ l.depth % 2 = 0 then l.leafAt (i % 2 ^ l.depth) else r.leafAt (i % 2 ^ l.depth)

/-- A collision of `H` on 64-byte inputs: two different concatenations of two 32-byte nodes with the same hash.
    Every function with 32-byte outputs *has* such pairs (256^64 inputs, 256^32 outputs: `collision64_exists` in GoatProofs/C04I.lean), so
    neither "there is no collision" (unsatisfiable: a theorem assuming it says nothing) nor "… or some collision exists"
    (always true: a theorem concluding it says nothing) can carry the property.  What can: the collision is **one of the
    finitely many pairs the run itself computed** — `RunCollision` below. -/
def Collision64 (H : Bytes → Bytes) : Prop :=
  ∃ a b : Bytes, a.length = 64 ∧ b.length = 64 ∧ a ≠ b ∧ H a = H b

/-- the 64-byte strings hashed while folding `cur` up `path` at index `i` (what the verifier feeds to `H`) -/
def foldInputs (H : Bytes → Bytes) : Bytes → List Bytes → Nat → List Bytes
  | _, [], _ => []
  | cur, next :: rest, index =>
    (if index % 2 = 0 then cur ++ next else next ++ cur) :: foldInputs H (stepNode H cur next index) rest (index / 2)

/-- the 64-byte strings hashed when the tree's root was computed (what the block's producer fed to `H`) -/
def Tree.inputs (H : Bytes → Bytes) : Tree → List Bytes
  | .leaf _ => []
  | .node l r => (l.root H ++ r.root H) :: (l.inputs H ++ r.inputs H)

/-- **a collision found by the run**: one of the strings the verifier hashed and one of the strings the tree's producer
    hashed are different 64-byte strings with the same hash.  Both lists are computable from the presented proof and the
    block, so whoever gets a wrong leaf accepted has *exhibited* a double-SHA-256 collision. -/
def RunCollision (H : Bytes → Bytes) (leaf : Bytes) (path : List Bytes) (i : Nat) (t : Tree) : Prop :=
  ∃ a ∈ foldInputs H leaf path i, ∃ b ∈ t.inputs H, a.length = 64 ∧ b.length = 64 ∧ a ≠ b ∧ H a = H b

theorem RunCollision.collision64 {H leaf path i t} (h : RunCollision H leaf path i t) : Collision64 H := by
  obtain ⟨a, _, b, _, ha, hb, hne, he⟩ := h; exact ⟨a, b, ha, hb, hne, he⟩

/-- the only assumption on the hash: its outputs are 32 bytes (true of double SHA-256) -/
def Out32 (H : Bytes → Bytes) : Prop := ∀ b, (H b).length = 32

/-- The usual idealisation (outputs 32 bytes **and** injective on 64-byte inputs), under which position binding takes its
    familiar form (`C04_position_binding_ideal`); it is met by no function (`idealHash_unsatisfiable` in GoatProofs/C04I.lean). -/
structure IdealHash (H : Bytes → Bytes) : Prop where
  out32 : ∀ b, (H b).length = 32
  inj64 : ∀ a b : Bytes, a.length = 64 → b.length = 64 → H a = H b → a = b

theorem IdealHash.no_collision {H} (hH : IdealHash H) : ¬ Collision64 H := by
  rintro ⟨a, b, ha, hb, hne, h⟩; exact hne (hH.inj64 a b ha hb h)

theorem Tree.root_len {H} (hH : Out32 H) (t : Tree) (hp : t.Perfect) : (t.root H).length = 32 := by
  cases t with
  | leaf b => exact hp
  | node l r => exact hH _

theorem foldUp_len {H} (hH : Out32 H) (cur : Bytes) (path : List Bytes) (i : Nat)
    (hc : cur.length = 32) : (foldUp H cur path i).length = 32 := by
  induction path generalizing cur i with
  | nil => simpa [foldUp]
  | cons p ps ih => simp only [foldUp]; apply ih; unfold stepNode; split <;> exact hH _

theorem foldInputs_append (H : Bytes → Bytes) (cur : Bytes) (path : List Bytes) (x : Bytes) (idx : Nat) :
    foldInputs H cur (path ++ [x]) idx = foldInputs H cur path idx ++
      [if (idx / 2 ^ path.length) % 2 = 0 then foldUp H cur path idx ++ x else x ++ foldUp H cur path idx] := by
  induction path generalizing cur idx with
  | nil => simp [foldInputs, foldUp]
  | cons p ps ih =>
    simp only [List.cons_append, foldInputs, foldUp, List.length_cons]
    rw [ih]
    rw [div_two_div_pow]

theorem foldInputs_mod (H : Bytes → Bytes) (cur : Bytes) (path : List Bytes) (i : Nat) :
    foldInputs H cur path i = foldInputs H cur path (i % 2 ^ path.length) := by
  induction path generalizing cur i with
  | nil => simp [foldInputs]
  | cons p ps ih =>
    simp only [foldInputs, List.length_cons]
    unfold stepNode
    simp only [mod_pow_succ_mod_two, mod_pow_succ_div_two]
    congr 1
    split <;> exact ih _ _

/-- **Position binding.**  If a 32-byte leaf hashes up a well-formed path of the tree's depth to the tree's root at
    position `i < 2^depth`, then the leaf *is* the tree's leaf at position `i` — or the verifier's own hash inputs and the
    tree's hash inputs contain a collision (`RunCollision`).  No assumption on `H` beyond the size of its outputs. -/
theorem C04_position_binding {H} (hH : Out32 H) (t : Tree) (hp : t.Perfect)
    (leaf : Bytes) (path : List Bytes) (i : Nat)
    (hl : leaf.length = 32) (hpath : ∀ c ∈ path, c.length = 32)
    (hd : path.length = t.depth) (hi : i < 2 ^ t.depth)
    (hroot : foldUp H leaf path i = t.root H) : leaf = t.leafAt i ∨ RunCollision H leaf path i t := by
  induction t generalizing path i with
  | leaf b =>
    simp [Tree.depth] at hd
    subst hd
    left
    simpa [foldUp, Tree.root, Tree.leafAt] using hroot
  | node l r ihl ihr =>
    obtain ⟨hpl, hpr, hdep⟩ := hp
    -- split the path into its lower part and the top sibling
    have hne : path ≠ [] := by intro h; subst h; simp [Tree.depth] at hd
    obtain ⟨init, last, rfl⟩ : ∃ init last, path = init ++ [last] :=
      ⟨path.dropLast, path.getLast hne, (List.dropLast_concat_getLast hne).symm⟩
    have hlen : init.length = l.depth := by simp [Tree.depth] at hd; exact hd
    have hinit : ∀ c ∈ init, c.length = 32 := fun c hc => hpath c (by simp [hc])
    have hlast : last.length = 32 := hpath last (by simp)
    rw [foldUp_append, hlen] at hroot
    have hsub := foldUp_len hH leaf init i hl
    have hlr := Tree.root_len hH l hpl
    have hrr := Tree.root_len hH r hpr
    simp only [Tree.depth, Nat.pow_succ] at hi
    have hlt : i % 2 ^ l.depth < 2 ^ l.depth := Nat.mod_lt _ (Nat.two_pow_pos _)
    have hfold : foldUp H leaf init i = foldUp H leaf init (i % 2 ^ l.depth) := by
      rw [← hlen]; exact foldUp_mod H leaf init i
    have hins : foldInputs H leaf init (i % 2 ^ l.depth) = foldInputs H leaf init i := by
      rw [← hlen]; exact (foldInputs_mod H leaf init i).symm
    -- a collision found below is a collision of the whole run
    have lift : ∀ s : Tree, (∀ b ∈ s.inputs H, b ∈ (Tree.node l r).inputs H) →
        RunCollision H leaf init (i % 2 ^ l.depth) s → RunCollision H leaf (init ++ [last]) i (Tree.node l r) := by
      intro s hs ⟨a, ha, b, hb, h1, h2, h3, h4⟩
      refine ⟨a, ?_, b, hs b hb, h1, h2, h3, h4⟩
      rw [foldInputs_append]; rw [hins] at ha; simp [ha]
    have top : ∀ a : Bytes, a ∈ foldInputs H leaf (init ++ [last]) i → a.length = 64 → a ≠ l.root H ++ r.root H →
        H a = H (l.root H ++ r.root H) → RunCollision H leaf (init ++ [last]) i (Tree.node l r) := by
      intro a ha hlen64 hne' he
      exact ⟨a, ha, l.root H ++ r.root H, by simp [Tree.inputs], hlen64, by simp [hlr, hrr], hne', he⟩
    unfold stepNode at hroot
    simp only [Tree.root] at hroot
    simp only [Tree.leafAt]
    split at hroot
    · rename_i hbit
      by_cases heq : foldUp H leaf init i ++ last = l.root H ++ r.root H
      · have h1 := List.append_inj_left heq (by rw [hsub, hlr])
        rw [if_pos hbit]
        rw [hfold] at h1
        rcases ihl hpl init (i % 2 ^ l.depth) hinit hlen hlt h1 with e | c
        · exact Or.inl e
        · exact Or.inr (lift l (fun b hb => by simp [Tree.inputs, hb]) c)
      · refine Or.inr (top _ ?_ (by simp [hsub, hlast]) heq hroot)
        rw [foldInputs_append, hlen, if_pos hbit]; simp
    · rename_i hbit
      by_cases heq : last ++ foldUp H leaf init i = l.root H ++ r.root H
      · have h1 := List.append_inj_right heq (by rw [hlast, hlr])
        rw [if_neg hbit]
        rw [hfold] at h1
        rcases ihr hpr init (i % 2 ^ l.depth) hinit (hlen.trans hdep) (by rw [← hdep]; exact hlt) h1 with e | c
        · exact Or.inl e
        · exact Or.inr (lift r (fun b hb => by simp [Tree.inputs, hb]) c)
      · refine Or.inr (top _ ?_ (by simp [hsub, hlast]) heq hroot)
        rw [foldInputs_append, hlen, if_neg hbit]; simp

/-- Corollary used by C03: with a proof accepted by `verify` against a block's tree, the transaction presented at
    position `i` is the tree's leaf at `i` (so the first transaction can be presented at position 0 only, and no other
    transaction there) — or the run exhibits a collision. -/
theorem C04_accepted_is_leaf {H} (hH : Out32 H) (t : Tree) (hp : t.Perfect)
    (txid proof : Bytes) (i : Nat) (hdepth : proof.length / 32 = t.depth)
    (hacc : verify H txid (t.root H) proof i = true) :
    txid = t.leafAt i ∨ RunCollision H txid (chunks proof) i t := by
  obtain ⟨h1, _, h3, h4, h5⟩ := (C04_exact H txid (t.root H) proof i).mp hacc
  exact C04_position_binding hH t hp txid (chunks proof) i h1 (chunks_all32 proof h3)
    (by rw [chunks_length proof h3, hdepth]) (by rw [← hdepth]; exact h4) h5

/-- **Two presentations of one position agree**: whatever is accepted at position `i` of the same tree is the same
    leaf, or one of the two runs exhibits a collision. -/
theorem C04_same_position_same_leaf {H} (hH : Out32 H) (t : Tree) (hp : t.Perfect)
    (tx1 tx2 pr1 pr2 : Bytes) (i : Nat) (hd1 : pr1.length / 32 = t.depth) (hd2 : pr2.length / 32 = t.depth)
    (h1 : verify H tx1 (t.root H) pr1 i = true) (h2 : verify H tx2 (t.root H) pr2 i = true) :
    tx1 = tx2 ∨ RunCollision H tx1 (chunks pr1) i t ∨ RunCollision H tx2 (chunks pr2) i t := by
  rcases C04_accepted_is_leaf hH t hp tx1 pr1 i hd1 h1 with e1 | c
  · rcases C04_accepted_is_leaf hH t hp tx2 pr2 i hd2 h2 with e2 | c
    · exact Or.inl (e1.trans e2.symm)
    · exact Or.inr (Or.inr c)
  · exact Or.inr (Or.inl c)

/-- the familiar form, under the (unsatisfiable) idealisation; not a property theorem -/
theorem C04_position_binding_ideal {H} (hH : IdealHash H) (t : Tree) (hp : t.Perfect)
    (leaf : Bytes) (path : List Bytes) (i : Nat)
    (hl : leaf.length = 32) (hpath : ∀ c ∈ path, c.length = 32)
    (hd : path.length = t.depth) (hi : i < 2 ^ t.depth)
    (hroot : foldUp H leaf path i = t.root H) : leaf = t.leafAt i :=
  (C04_position_binding hH.out32 t hp leaf path i hl hpath hd hi hroot).resolve_right
    (fun c => hH.no_collision c.collision64)

/-- non-vacuity, both ways: with a toy hash of 32-byte outputs, a genuine two-leaf tree and its genuine proof for
    position 1 are accepted and there is **no** run collision (so the disjunction is decided by its first half) … -/
def toyH : Bytes → Bytes := fun b => (b.take 16 ++ b.drop 48 ++ List.replicate 32 0).take 32
def toyT : Tree := Tree.node (.leaf (List.replicate 32 1)) (.leaf (List.replicate 32 2))

example : Out32 toyH := by
  intro b
  simp only [toyH, List.length_take, List.length_append, List.length_drop, List.length_replicate]
  omega
example : toyT.Perfect := ⟨List.length_replicate, List.length_replicate, rfl⟩
example : verify toyH (List.replicate 32 2) (toyT.root toyH) (List.replicate 32 1) 1 = true ∧
    toyT.leafAt 1 = List.replicate 32 2 := by decide +kernel
/-- … and a wrong leaf that the toy hash lets through at position 1 comes with its collision: the verifier hashed
    `1…1 ‖ 7…7 2…2` (bytes 16–47 are ignored by the toy hash), the producer `1…1 ‖ 2…2`. -/
example : let bad := List.replicate 16 7 ++ List.replicate 16 2
    verify toyH bad (toyT.root toyH) (List.replicate 32 1) 1 = true ∧ bad ≠ toyT.leafAt 1 ∧
    (foldInputs toyH bad [List.replicate 32 1] 1).any (fun a => (toyT.inputs toyH).any (fun b => a != b && toyH a == toyH b)) = true := by
  decide +kernel

/-! ### The unrepaired function (pinned commit) violates the range clause — finding F2 -/

/-- Witness: with the identity-like hash `H x = x.take 32`, leaf at position 0 with a one-node
    path is accepted under the aliased position 2 by the *unchecked* function. -/
theorem F2_unchecked_accepts_alias :
    ∃ (H : Bytes → Bytes) (txid root proof : Bytes) (index : Nat),
      verifyUnchecked H txid root proof index = true ∧ ¬ index < 2 ^ (proof.length / 32) := by
  refine ⟨fun b => b.take 32, List.replicate 32 1, List.replicate 32 1, List.replicate 32 2, 2, ?_, ?_⟩
  · decide +kernel
  · decide

example : verify (fun b => b.take 32) (List.replicate 32 1) (List.replicate 32 1) (List.replicate 32 2) 0 = true := by
  decide +kernel
example : verify (fun b => b.take 32) (List.replicate 32 1) (List.replicate 32 1) (List.replicate 32 2) 2 = false := by
  decide +kernel

end Goat.C04
