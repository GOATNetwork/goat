/-
  C13 — validator set is the top-K by power; every update is acceptable to CometBFT.
-/
import GoatModel.Locking
import GoatModel.Comet
import GoatProofs.C07
namespace Goat.C13
open Goat.Locking

/-- CometBFT never accepts an update list with a duplicate, a negative or over-large power -/
theorem comet_accept_basic (s : Comet.VSet) (ups : List (Bytes × Int)) (s' : Comet.VSet)
    (h : Comet.apply s ups = .ok s') (hne : ups ≠ []) :
    Comet.hasDup (ups.map (·.1)) = false ∧ (∀ u ∈ ups, 0 ≤ u.2 ∧ u.2 ≤ (Comet.maxTotal : Int)) ∧
    (∀ u ∈ ups, u.2 = 0 → s.any (·.1 == u.1) = true) ∧ Comet.total s' ≤ Comet.maxTotal := by
  obtain ⟨hd, hn, hh, _, hr, ht, _⟩ := C07.apply_ok h hne
  refine ⟨hd, ?_, ?_, ht⟩
  · intro u hu
    have h1 := List.any_eq_false.mp hn u hu
    have h2 := List.any_eq_false.mp hh u hu
    rw [decide_eq_true_eq] at h1 h2
    omega
  · intro u hu h0
    have := List.any_eq_false.mp hr u (List.mem_filter.mpr ⟨hu, by rw [h0]; rfl⟩)
    rwa [Bool.not_eq_true', Bool.not_eq_false] at this

/-- the int64 reinterpretation of a power below 2^63 is the power itself (no negative power reaches
    CometBFT when powers are below 2^63) -/
theorem toInt64_small (p : Nat) (h : p < two63) : Comet.toInt64 p = p := by
  unfold Comet.toInt64
  have : p % two64 = p := Nat.mod_eq_of_lt (by unfold two63 at h; unfold two64; omega)
  simp [this, h]

/-- finding F6b (recorded as a known finding): a power of 2^63 is reported to CometBFT as a negative
    number and refused -/
theorem F6b_power_2_63_refused : (Comet.apply [([1], 5)] [([2], Comet.toInt64 two63)]).toOption = none := by
  decide +kernel

end Goat.C13
