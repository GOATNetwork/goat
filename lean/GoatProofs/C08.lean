/-
  C08 — honest proposals are always accepted; accepted proposals are well-formed; no data races
  (the race clause is the regenerated footprint theorem FactsThms.no_conflicting_access — partial,
  see DESIGN §11).
-/
import GoatModel.App
import GoatProofs.FactsThms
import GoatProofs.Lemmas.Outcome
namespace Goat.C08
open Goat.App

/-- the system transactions due now are the leading transactions and the count byte is their number -/
def DequeueOk (extra : Bytes) (txs dueB dueL : List String) : Prop :=
  extra.length = 33 ∧ (∃ rest, txs = dueB ++ dueL ++ rest) ∧ (extra.head!).toNat = dueB.length + dueL.length

/-- **VerifyDequeue, exactly**: a payload's transactions are accepted iff the extra-data is 33 bytes,
    the transactions start with exactly the system transactions due now (bridge first, then locking)
    and the count byte equals their number. -/
theorem verifyDequeue_exact (extra : Bytes) (txs dueB dueL : List String) :
    verifyDequeue extra txs dueB dueL = .ok () ↔ DequeueOk extra txs dueB dueL := by
  unfold DequeueOk verifyDequeue
  simp only [Outcome.guard_err_ok_iff, Decidable.not_not, Nat.not_lt, and_true]
  constructor
  · rintro ⟨h1, _, _, h4, _, h6, h7⟩
    refine ⟨h1, ⟨(txs.drop dueB.length).drop dueL.length, ?_⟩, by omega⟩
    rw [List.append_assoc]
    conv => lhs; rw [← List.take_append_drop dueB.length txs, ← List.take_append_drop dueL.length (txs.drop dueB.length), h4, h6]
  · rintro ⟨h1, ⟨rest, rfl⟩, hc⟩
    rw [List.append_assoc, List.take_left, List.drop_left, List.take_left]
    simp only [List.length_append]
    exact ⟨h1, by omega, by omega, trivial, by omega, trivial, by omega⟩

/-- what makes a proposal acceptable — every clause of the statement -/
def WellFormed (g : GState) (dueB dueL : List String) (p : Proposal) : Prop :=
  1 ≤ p.kinds.length ∧ p.kinds.length ≤ 16 ∧ p.anteOk.any (· == false) = false ∧
  p.kinds.head? = some "eth" ∧ p.kinds.tail.any (fun k => k == "eth" || k == "eth+") = false ∧
  ∃ pl, p.payload = some pl ∧ p.proposer = p.comet ∧ p.proposer = pl.feeRecipient ∧ pl.timestampInFuture = false ∧
    g.head.blockHash = pl.parentHash ∧ g.head.blockNumber + 1 = pl.blockNumber ∧ p.reqDecodeOk = true ∧ p.gasRequests = 1 ∧
    g.beaconRoot = pl.beaconRoot ∧ DequeueOk pl.extraData pl.txs dueB dueL ∧ p.engineStatus = "VALID"

/-- **ProcessProposal, exactly.**  A proposal is accepted iff it has 1–16 transactions that all pass
    the ante chain, exactly one execution-block message, first and alone in its transaction, authored
    by that height's consensus proposer and naming it as fee recipient, not from the future, extending
    the recorded head by one with the recorded beacon root, with a decodable request list holding a
    single gas-revenue request, exactly the due system transactions, and the engine reports VALID. -/
theorem processProposal_exact (g : GState) (dueB dueL : List String) (p : Proposal) :
    processProposal g dueB dueL p = .ok () ↔ WellFormed g dueB dueL p := by
  unfold WellFormed processProposal
  simp only [Outcome.guard_err_ok_iff, ← verifyDequeue_exact]
  cases p.payload with
  | none => exact ⟨(fun ⟨_, _, _, _, _, h⟩ => nomatch h), fun ⟨_, _, _, _, _, _, h, _⟩ => nomatch h⟩
  | some pl =>
    simp only [Outcome.guard_err_ok_iff, Option.some.injEq, exists_eq_left']
    cases verifyDequeue pl.extraData pl.txs dueB dueL with
    | err e => simp only [reduceCtorEq, false_and, and_false]
    | panic e => simp only [reduceCtorEq, false_and, and_false]
    | ok u =>
      -- clause by clause the two sides differ only in how a negation is written
      simp only [Outcome.guard_err_ok_iff, Decidable.not_not, Bool.not_eq_true, Nat.not_lt, Nat.one_le_iff_ne_zero, ne_eq,
        Bool.not_eq_true', Bool.not_eq_false, bne_iff_ne, and_true, true_and]

/-- **Accepted proposals are well-formed.** -/
theorem accepted_wellformed (g : GState) (dueB dueL : List String) (p : Proposal)
    (h : processProposal g dueB dueL p = .ok ()) : WellFormed g dueB dueL p :=
  (processProposal_exact g dueB dueL p).mp h

/-- **Honest proposals are accepted.**  A proposal whose first transaction is the single
    execution-block message by the consensus proposer, whose payload extends the recorded head with the
    recorded beacon root, starts with exactly the due system transactions (count byte = their number,
    fewer than 256 as the caps guarantee), carries one gas request, has a past timestamp, whose other
    (≤ 15) transactions are ante-valid relayer transactions, and which the engine reports VALID, is
    accepted — whatever the state. -/
theorem honest_accepted (g : GState) (dueB dueL : List String) (proposer : Bytes) (user : List String) (rel : Nat)
    (hrel : rel ≤ 15) (hash : Bytes) (blob : Nat) (hcap : dueB.length + dueL.length < 256) :
    processProposal g dueB dueL
      { kinds := "eth" :: List.replicate rel "rel", anteOk := List.replicate (rel + 1) true,
        payload := some { parentHash := g.head.blockHash, feeRecipient := proposer, blockNumber := g.head.blockNumber + 1, blockHash := hash,
                          blobGasUsed := blob, beaconRoot := g.beaconRoot,
                          extraData := UInt8.ofNat (dueB.length + dueL.length) :: List.replicate 32 0,
                          txs := dueB ++ dueL ++ user, timestampInFuture := false },
        proposer := proposer, comet := proposer, reqDecodeOk := true, gasRequests := 1, engineStatus := "VALID" } = .ok () := by
  rw [processProposal_exact]
  unfold WellFormed
  refine ⟨by simp, by simp; omega, ?_, by simp, ?_, _, rfl, rfl, rfl, rfl, rfl, rfl, rfl, rfl, rfl, ?_, rfl⟩
  · rw [List.any_eq_false]; intro x hx; have := List.eq_of_mem_replicate hx; simp [this]
  · simp only [List.tail_cons]
    rw [List.any_eq_false]; intro x hx; have := List.eq_of_mem_replicate hx; subst this; decide
  · refine ⟨by simp, ⟨user, rfl⟩, ?_⟩
    show (UInt8.ofNat (dueB.length + dueL.length)).toNat = dueB.length + dueL.length
    rw [UInt8.toNat_ofNat']
    exact Nat.mod_eq_of_lt hcap

/-- the dues of one block stay far below 256: ≤ 1 + 8 + 8 bridge and ≤ 16 + 16 locking transactions -/
theorem due_cap : (1 + 8 + 8) + (16 + 16) < 256 := by decide

/-- the race clause, re-decided against the goroutine footprints of the current source -/
theorem no_conflicting_access : FactsThms.conflicts Facts.goroutineAccess = [] := FactsThms.no_conflicting_access

end Goat.C08
