/-
  C03H — deposits over whole histories (the history half of C03).

  C03 (GoatProofs/C03.lean) says what ONE successful `verifyDeposit` / `NewDeposits` implies.  Here, along
  arbitrary finite runs of the C05H operation language (all eight message handlers with arbitrary
  arguments, execution-layer requests, dequeues, arbitrary changes of the relayer group; failed
  operations roll back): only `NewDeposits` writes the credited table, its keys stay pairwise distinct and
  are never removed, a credited (txid, output) is refused ever after, and the receipts ever queued
  (handed over ++ still queued, C06H) are exactly the credited ones, each the result of a successful
  `verifyDeposit`.

  The handler calls `verifyDeposit` on the *intermediate* state of its batch loop (the state of the
  moment with the earlier receipts of the same batch already credited — this is what rejects duplicates
  inside one batch).  `VerifiedBy` states both: acceptance on that intermediate state (the call really
  made) and, as a consequence (`verifyDeposit_uncredit`), acceptance with the same receipt on the state
  before the batch.
-/
import GoatModel.Bitcoin
import GoatProofs.C03
import GoatProofs.C05H
import GoatProofs.C06H
import GoatProofs.Lemmas.BitcoinOps
import GoatProofs.Lemmas.RelayerGroup
namespace Goat.C03H
open Goat.Bitcoin Goat.C03
open Goat.C05H (Env G Op apply run withRes)

/-- the key under which a receipt is credited -/
def key (r : DepositReceipt) : Bytes × Nat := (r.txid, r.txout)

/-- the entry `NewDeposits` writes into the credited table for a receipt -/
def entry (r : DepositReceipt) : (Bytes × Nat) × Nat := ((r.txid, r.txout), (r.amount + r.tax) % two64)

/-- the state after crediting `rs` (only the credited table grows) -/
def credit (s : State) (rs : List DepositReceipt) : State := { s with deposited := s.deposited ++ rs.map entry }

theorem credit_nil (s : State) : credit s [] = s := by
  cases s; simp [credit]

theorem credit_cons (s : State) (r : DepositReceipt) (rs : List DepositReceipt) :
    credit { s with deposited := s.deposited ++ [((r.txid, r.txout), (r.amount + r.tax) % two64)] } rs = credit s (r :: rs) := by
  simp [credit, entry]

theorem depositedKeys_credit (s : State) (rs : List DepositReceipt) :
    depositedKeys (credit s rs) = depositedKeys s ++ rs.map key := by
  simp [depositedKeys, credit, List.map_append, List.map_map]
  intro a _; rfl

/-! ## `verifyDeposit` reads little of the state -/

theorem verifyDeposit_congr (c : Crypto) (rel rel' : Relayer.State) (s s' : State) (headers : List (Nat × Bytes)) (d : Deposit)
    (hr : rel'.pubkeys = rel.pubkeys) (h1 : s'.hashes = s.hashes) (h2 : s'.tip = s.tip) (h3 : s'.params = s.params)
    (h4 : hasDeposited s' (c.dsha256 d.noWitnessTx) d.outputIndex = hasDeposited s (c.dsha256 d.noWitnessTx) d.outputIndex) :
    verifyDeposit c rel' s' headers d = verifyDeposit c rel s headers d := by
  unfold verifyDeposit
  simp only [hr, h1, h2, h3, h4]

theorem verifyDeposit_credited_err (c : Crypto) (rel : Relayer.State) (s : State) (headers : List (Nat × Bytes)) (d : Deposit)
    (h : hasDeposited s (c.dsha256 d.noWitnessTx) d.outputIndex = true) :
    ∃ msg, verifyDeposit c rel s headers d = .err msg := by
  -- every check before the one for a credited key fails with an error too
  unfold verifyDeposit
  refine Outcome.err_under_guard ?_
  split
  · exact ⟨_, rfl⟩
  refine Outcome.err_under_guard ?_
  refine Outcome.err_under_guard ?_
  refine Outcome.err_under_guard ?_
  split
  · exact ⟨_, rfl⟩
  refine Outcome.err_under_guard ?_
  exact ⟨_, if_pos h⟩

/-- a deposit accepted on a state with *more* credited keys is accepted, with the same receipt, on
    the state with fewer: acceptance only reads `hashes`, `tip`, `params` and the absence of the
    key from the credited table -/
theorem verifyDeposit_uncredit (c : Crypto) (rel : Relayer.State) (s : State) (pre : List DepositReceipt)
    (headers : List (Nat × Bytes)) (d : Deposit) (r : DepositReceipt)
    (h : verifyDeposit c rel (credit s pre) headers d = .ok r) : verifyDeposit c rel s headers d = .ok r := by
  obtain ⟨_, _, _, _, _, _, _, _, _, _, _, hnd, _⟩ := C03_accept_implies c rel _ headers d r h
  rw [← h]
  refine (verifyDeposit_congr c rel rel (credit s pre) s headers d rfl rfl rfl rfl ?_)
  -- the key is absent from the larger table, hence from the smaller
  rw [hnd, Bool.eq_false_iff, Ne, hasDeposited_iff]
  rw [Bool.eq_false_iff, Ne, hasDeposited_iff, depositedKeys_credit] at hnd
  exact fun h1 => hnd (List.mem_append_left _ h1)

/-! ## the trace of a successful batch -/

/-- **the batch loop, item by item**: on success it returns one receipt per item; item `k` is
    well-formed and `verifyDeposit` accepted it, with exactly receipt `k`, on the state in which the
    first `k` receipts of this very batch are already credited; the final state is the initial one
    with all receipts credited (nothing else changes) -/
theorem go_trace (c : Crypto) (rel : Relayer.State) (headers : List (Nat × Bytes)) :
    ∀ (ds : List Deposit) (s : State) (acc : List DepositReceipt) (s' : State) (rs : List DepositReceipt),
      newDeposits.go c headers rel ds s acc = .ok (s', rs) →
      ∃ new : List DepositReceipt, rs = acc.reverse ++ new ∧ new.length = ds.length ∧ s' = credit s new ∧
        ∀ k, (h1 : k < ds.length) → (h2 : k < new.length) →
          ds[k].validate = true ∧ verifyDeposit c rel (credit s (new.take k)) headers ds[k] = .ok new[k] := by
  intro ds
  induction ds with
  | nil =>
    intro s acc s' rs h
    simp only [newDeposits.go, Outcome.ok.injEq, Prod.mk.injEq] at h
    obtain ⟨rfl, rfl⟩ := h
    exact ⟨[], by simp, rfl, (credit_nil _).symm, fun k h1 => absurd h1 (by simp)⟩
  | cons d ds ih =>
    intro s acc s' rs h
    obtain ⟨hval, r, hr, h⟩ := newDeposits_go_cons h
    obtain ⟨new, e1, e2, e3, e4⟩ := ih _ (r :: acc) s' rs h
    refine ⟨r :: new, by simp [e1], by simp [e2], by rw [e3, credit_cons], ?_⟩
    intro k h1 h2
    cases k with
    | zero =>
      simp only [List.getElem_cons_zero, List.take_zero, credit_nil]
      exact ⟨hval, hr⟩
    | succ k' =>
      have := e4 k' (by simp at h1; omega) (by simp at h2; omega)
      rw [credit_cons] at this
      simpa using this

/-- **the trace of a successful `NewDeposits`**: the header map was well-formed, the sender is the
    current proposer (`verifyNonProposal`; the relayer keys are untouched), one receipt per item, each
    accepted by `verifyDeposit` under the relayer state of the call on the intermediate state of the
    loop; the new state is the old one with the receipts credited and appended to the deposit queue,
    and nothing else changed -/
theorem newDeposits_trace (c : Crypto) (rel rel' : Relayer.State) (s s' : State) (m : NewDepositsMsg)
    (h : newDeposits c rel s m = .ok (rel', s')) :
    ∃ (headers : List (Nat × Bytes)) (new : List DepositReceipt),
      blockHeadersMap m.headers = some headers ∧ Relayer.verifyNonProposal rel m.proposer = .ok rel' ∧
      new.length = m.deposits.length ∧
      s' = { s with deposited := s.deposited ++ new.map entry, queue := { s.queue with deposits := s.queue.deposits ++ new } } ∧
      ∀ k, (h1 : k < m.deposits.length) → (h2 : k < new.length) →
        (m.deposits[k]).validate = true ∧
        verifyDeposit c rel (credit s (new.take k)) headers m.deposits[k] = .ok new[k] := by
  obtain ⟨_, _, _, _, headers, hh, rel1, hrel, s1, rs, hgo, hr⟩ := newDeposits_ok h
  cases hr
  obtain ⟨new, e1, e2, e3, e4⟩ := go_trace c rel' headers m.deposits s [] s1 rs hgo
  cases e1
  refine ⟨headers, new, hh, hrel, e2, by rw [e3]; rfl, fun k h1 h2 => ?_⟩
  obtain ⟨v1, v2⟩ := e4 k h1 h2
  refine ⟨v1, ?_⟩
  rw [← v2]
  -- `verifyNonProposal` leaves the relayer keys alone
  exact verifyDeposit_congr c rel' rel _ _ headers _ (by rw [(Relayer.verifyNonProposal_ok hrel).2]) rfl rfl rfl rfl

/-! ## what one operation hands over and what it queues -/

/-- the batch of system transactions a (successful) dequeue operation hands to the execution layer -/
def stepBatch (g : G) : Op → List (List SysTx)
  | .dequeue =>
    match dequeue g.st with
    | .ok (_, txs) => [txs]
    | _ => []
  | _ => []

/-- the deposit receipts a (successful) `NewDeposits` operation appends to the deposit queue
    (read off the queue: what stands behind the old queue; see `stepNew_ok` / `newDeposits_trace`) -/
def stepNew (e : Env) (g : G) : Op → List DepositReceipt
  | .deposits m =>
    match newDeposits e.c g.rel g.st m with
    | .ok r => r.2.queue.deposits.drop g.st.queue.deposits.length
    | _ => []
  | _ => []

/-- all batches handed over along a run, in order -/
def batches (e : Env) : G → List Op → List (List SysTx)
  | _, [] => []
  | g, op :: ops => stepBatch g op ++ batches e (apply e g op) ops

/-- all deposit receipts queued by the `NewDeposits` operations of a run, in order -/
def queuedBy (e : Env) : G → List Op → List DepositReceipt
  | _, [] => []
  | g, op :: ops => stepNew e g op ++ queuedBy e (apply e g op) ops

/-- deposit receipts handed to the execution layer (there credited as native coins) along a run -/
def handedDeposits (e : Env) (g : G) (ops : List Op) : List DepositReceipt :=
  C06H.depositsOf (C06H.handed (batches e g ops))

/-- **every deposit receipt ever queued** along a run, seen from its end: those already handed over
    by the run's dequeues followed by those still waiting in the queue -/
def everQueued (e : Env) (g : G) (ops : List Op) : List DepositReceipt :=
  handedDeposits e g ops ++ (run e g ops).st.queue.deposits

/-- link to `C03_deposit_once` / `C06H.newDeposits_appends`: the list they speak of is `stepNew` -/
theorem stepNew_unique (e : Env) (g : G) (m : NewDepositsMsg) (rel' : Relayer.State) (s' : State)
    (h : newDeposits e.c g.rel g.st m = .ok (rel', s')) (new : List DepositReceipt)
    (hq : s'.queue.deposits = g.st.queue.deposits ++ new) : new = stepNew e g (.deposits m) := by
  simp only [stepNew, h, hq, List.drop_left]

theorem stepNew_ok (e : Env) (g : G) (m : NewDepositsMsg) (rel' : Relayer.State) (s' : State)
    (h : newDeposits e.c g.rel g.st m = .ok (rel', s')) :
    ∃ (headers : List (Nat × Bytes)),
      blockHeadersMap m.headers = some headers ∧ Relayer.verifyNonProposal g.rel m.proposer = .ok rel' ∧
      (stepNew e g (.deposits m)).length = m.deposits.length ∧
      s' = { g.st with deposited := g.st.deposited ++ (stepNew e g (.deposits m)).map entry,
                       queue := { g.st.queue with deposits := g.st.queue.deposits ++ stepNew e g (.deposits m) } } ∧
      ∀ k, (h1 : k < m.deposits.length) → (h2 : k < (stepNew e g (.deposits m)).length) →
        (m.deposits[k]).validate = true ∧
        verifyDeposit e.c g.rel (credit g.st ((stepNew e g (.deposits m)).take k)) headers m.deposits[k]
          = .ok (stepNew e g (.deposits m))[k] := by
  obtain ⟨headers, new, t1, t2, t3, t4, t5⟩ := newDeposits_trace e.c g.rel rel' g.st s' m h
  cases stepNew_unique e g m rel' s' h new (by rw [t4])
  exact ⟨headers, t1, t2, t3, t4, t5⟩

theorem stepNew_fail (e : Env) (g : G) (m : NewDepositsMsg) (h : ∀ r, newDeposits e.c g.rel g.st m ≠ .ok r) :
    stepNew e g (.deposits m) = [] := by
  cases hnd : newDeposits e.c g.rel g.st m with
  | ok r => exact absurd hnd (h r)
  | err x => simp only [stepNew, hnd]
  | panic x => simp only [stepNew, hnd]

/-- a failed `NewDeposits` leaves the whole state untouched -/
theorem apply_deposits_failed (e : Env) (g : G) (m : NewDepositsMsg) (h : ∀ r, newDeposits e.c g.rel g.st m ≠ .ok r) :
    apply e g (.deposits m) = g := by
  show withRes g (newDeposits e.c g.rel g.st m) = g
  cases hnd : newDeposits e.c g.rel g.st m with
  | ok r => exact absurd hnd (h r)
  | err x => rfl
  | panic x => rfl

/-- a state left as it is: the empty history, nothing credited -/
theorem step_none (s : State) :
    (∃ p r, C06H.Hist s s [] [] p r) ∧ s.deposited = s.deposited ++ ([] : List DepositReceipt).map entry :=
  ⟨⟨[], [], C06H.Hist.nil⟩, (List.append_nil _).symm⟩

/-- a handler that appends no deposit and leaves the credited table alone, wrapped by `withRes` -/
theorem withRes_step (g : G) (o : Outcome (Relayer.State × State))
    (h : ∀ r, o = .ok r → (∃ p r', C06H.Appends g.st r.2 [] p r') ∧ r.2.deposited = g.st.deposited) :
    (∃ p r, C06H.Hist g.st (withRes g o).st [] [] p r) ∧
    (withRes g o).st.deposited = g.st.deposited ++ ([] : List DepositReceipt).map entry := by
  cases o with
  | ok r =>
    obtain ⟨⟨p, r', ha⟩, hd⟩ := h r rfl
    exact ⟨⟨p, r', C06H.Hist.single_app ha⟩, hd.trans (List.append_nil _).symm⟩
  | err x | panic x => exact step_none g.st

/-- **one operation**: it is a one-step C06H history whose batches are `stepBatch` and whose
    appended deposits are `stepNew`; and the credited table grows by exactly the entries of
    `stepNew` — so only a successful `NewDeposits` writes it, every other operation (and every
    failed one) leaves it as it is -/
theorem apply_step (e : Env) (g : G) (op : Op) :
    (∃ p r, C06H.Hist g.st (apply e g op).st (stepBatch g op) (stepNew e g op) p r) ∧
    (apply e g op).st.deposited = g.st.deposited ++ (stepNew e g op).map entry := by
  cases op with
  | process v hv ids tx fee =>
    exact withRes_step g _ fun r h =>
      ⟨⟨[], [], (C06H.processWithdrawal_unchanged _ _ _ _ _ _ _ _ _ _ r h).appends⟩, by rw [processWithdrawal_frame h]⟩
  | replace v hv pid tx fee =>
    exact withRes_step g _ fun r h =>
      ⟨⟨[], [], (C06H.replaceWithdrawal_unchanged _ _ _ _ _ _ _ _ _ _ r h).appends⟩, by rw [replaceWithdrawal_frame h]⟩
  | finalize m =>
    refine withRes_step g _ fun r h => ⟨?_, by rw [finalizeWithdrawal_frame h]⟩
    obtain ⟨_, extra, _, _, ha⟩ := C06H.finalizeWithdrawal_appends _ _ _ _ r h
    exact ⟨extra, [], ha⟩
  | approve pr ids =>
    exact withRes_step g _ fun r h =>
      ⟨⟨[], ids, C06H.approveCancellation_appends _ _ _ _ r h⟩, by rw [approveCancellation_frame h]⟩
  | bridge rq =>
    simp only [apply, stepBatch, stepNew]
    cases hb : processBridgeRequest e.c g.st rq with
    | ok s' =>
      exact ⟨⟨[], _, C06H.Hist.single_app (C06H.processBridgeRequest_appends _ _ _ _ hb)⟩,
        (congrArg State.deposited (processBridgeRequest_frame hb)).trans (List.append_nil _).symm⟩
    | err x | panic x => exact step_none g.st
  | deposits m =>
    by_cases hnd : ∃ r, newDeposits e.c g.rel g.st m = .ok r
    · obtain ⟨⟨rel', s'⟩, hnd⟩ := hnd
      have ha : (apply e g (.deposits m)).st = s' := by
        show (withRes g (newDeposits e.c g.rel g.st m)).st = s'
        rw [hnd]
        rfl
      obtain ⟨_, _, _, _, hs, _⟩ := stepNew_ok e g m rel' s' hnd
      rw [ha, hs]
      exact ⟨⟨[], [], C06H.Hist.single_app (C06H.Appends.of_deposits rfl rfl)⟩, rfl⟩
    · have hf : ∀ r, newDeposits e.c g.rel g.st m ≠ .ok r := fun r h => hnd ⟨r, h⟩
      rw [apply_deposits_failed e g m hf, stepNew_fail e g m hf]
      exact step_none g.st
  | blockHashes v hv start hashes =>
    exact withRes_step g _ fun r h =>
      ⟨⟨[], [], (C06H.newBlockHashes_unchanged _ _ _ _ _ _ _ _ r h).appends⟩, by rw [newBlockHashes_frame h]⟩
  | pubkey v hv pk =>
    exact withRes_step g _ fun r h =>
      ⟨⟨[], [], (C06H.newPubkey_unchanged _ _ _ _ _ _ _ r h).appends⟩, by rw [newPubkey_frame h]⟩
  | consolidation v hv tx =>
    exact withRes_step g _ fun r h =>
      ⟨⟨[], [], (C06H.newConsolidation_unchanged _ _ _ _ _ _ _ _ r h).appends⟩, by rw [newConsolidation_frame h]⟩
  | dequeue =>
    simp only [apply, stepBatch, stepNew]
    cases hd : dequeue g.st with
    | ok r =>
      exact ⟨⟨[], [], C06H.Hist.single_deq hd⟩, (congrArg State.deposited (dequeue_frame hd)).trans (List.append_nil _).symm⟩
    | err x | panic x => exact step_none g.st
  | relayer rel' => exact step_none g.st

/-- every operation but `NewDeposits` leaves the credited table untouched -/
theorem apply_frame (e : Env) (g : G) (op : Op) (hop : ∀ m, op ≠ .deposits m) :
    (apply e g op).st.deposited = g.st.deposited := by
  have h := (apply_step e g op).2
  have hs : stepNew e g op = [] := by
    cases op with
    | deposits m => exact absurd rfl (hop m)
    | _ => rfl
  rw [h, hs, List.map_nil, List.append_nil]

/-! ## runs -/

/-- **every run is a C06H history** whose batches are `batches` and whose appended deposits are
    `queuedBy` (so all FIFO / nonce / cap theorems of C06H apply to these very lists) -/
theorem run_hist (e : Env) : ∀ (ops : List Op) (g : G),
    ∃ p r, C06H.Hist g.st (run e g ops).st (batches e g ops) (queuedBy e g ops) p r := by
  intro ops
  induction ops with
  | nil => intro g; exact ⟨[], [], C06H.Hist.nil⟩
  | cons op ops ih =>
    intro g
    obtain ⟨⟨p1, r1, h1⟩, _⟩ := apply_step e g op
    obtain ⟨p2, r2, h2⟩ := ih (apply e g op)
    exact ⟨p1 ++ p2, r1 ++ r2, h1.trans h2⟩

/-- **decomposition (C06H)**: handed over ++ still queued = initially queued ++ queued by the run -/
theorem everQueued_eq (e : Env) (ops : List Op) (g : G) :
    everQueued e g ops = g.st.queue.deposits ++ queuedBy e g ops := by
  obtain ⟨p, r, h⟩ := run_hist e ops g
  exact C06H.fifo_deposits h

/-- the credited table after a run is the initial table followed by the entries of the receipts the
    run queued, in order -/
theorem run_deposited (e : Env) : ∀ (ops : List Op) (g : G),
    (run e g ops).st.deposited = g.st.deposited ++ (queuedBy e g ops).map entry := by
  intro ops
  induction ops with
  | nil => intro g; simp [run, queuedBy]
  | cons op ops ih =>
    intro g
    show (run e (apply e g op) ops).st.deposited = _
    rw [ih, (apply_step e g op).2]
    simp [queuedBy]

theorem run_keys (e : Env) (ops : List Op) (g : G) :
    depositedKeys (run e g ops).st = depositedKeys g.st ++ (queuedBy e g ops).map key := by
  unfold depositedKeys
  rw [run_deposited, List.map_append, List.map_map]
  rfl

/-! ## the invariant -/

/-- one operation preserves `Nodup` of the credited keys -/
theorem deposited_nodup_step (e : Env) (g : G) (op : Op) (h : (depositedKeys g.st).Nodup) :
    (depositedKeys (apply e g op).st).Nodup := by
  by_cases hop : ∃ m, op = .deposits m
  · obtain ⟨m, rfl⟩ := hop
    show (depositedKeys (withRes g (newDeposits e.c g.rel g.st m)).st).Nodup
    cases hnd : newDeposits e.c g.rel g.st m with
    | ok r =>
      obtain ⟨rel', s'⟩ := r
      obtain ⟨_, _, _, h3⟩ := C03_deposit_once e.c g.rel rel' g.st s' m hnd h
      exact h3
    | err x => exact h
    | panic x => exact h
  · have hf := apply_frame e g op (fun m hm => hop ⟨m, hm⟩)
    unfold depositedKeys at h ⊢
    rw [hf]; exact h

/-- **the credited keys stay pairwise distinct along every run** -/
theorem deposited_nodup_invariant (e : Env) : ∀ (ops : List Op) (g : G),
    (depositedKeys g.st).Nodup → (depositedKeys (run e g ops).st).Nodup := by
  intro ops
  induction ops with
  | nil => intro g h; exact h
  | cons op ops ih => intro g h; exact ih _ (deposited_nodup_step e g op h)

/-! ## monotone, rejected forever -/

/-- **nothing is ever un-credited** -/
theorem deposited_monotone (e : Env) (g : G) (ops : List Op) (k : Bytes × Nat)
    (h : k ∈ depositedKeys g.st) : k ∈ depositedKeys (run e g ops).st := by
  rw [run_keys]; exact List.mem_append_left _ h

/-- the old credited table is a prefix of the new one (entries, hence also amounts,
    are never rewritten or reordered) -/
theorem deposited_prefix (e : Env) (g : G) (ops : List Op) :
    g.st.deposited <+: (run e g ops).st.deposited := ⟨_, (run_deposited e ops g).symm⟩

theorem deposited_monotone_between (e : Env) (g : G) (ops1 ops2 : List Op) (k : Bytes × Nat)
    (h : k ∈ depositedKeys (run e g ops1).st) : k ∈ depositedKeys (run e g (ops1 ++ ops2)).st := by
  rw [C05H.run_append]; exact deposited_monotone e _ ops2 k h

/-- **once credited, rejected forever**: if the key (txid, output) is in the credited set at
    some point of a run, then in every later state of the run `verifyDeposit` answers with an error
    for every deposit with that transaction id and that output — whatever the rest of the deposit,
    the headers, the relayer state, even the crypto parameters -/
theorem credited_rejected_forever (e : Env) (g : G) (ops1 ops2 : List Op) (t : Bytes) (v : Nat)
    (hk : (t, v) ∈ depositedKeys (run e g ops1).st)
    (c : Crypto) (rel : Relayer.State) (headers : List (Nat × Bytes)) (d : Deposit)
    (ht : c.dsha256 d.noWitnessTx = t) (hv : d.outputIndex = v) :
    (∃ msg, verifyDeposit c rel (run e g (ops1 ++ ops2)).st headers d = .err msg) ∧
    ∀ r, verifyDeposit c rel (run e g (ops1 ++ ops2)).st headers d ≠ .ok r := by
  have hm := deposited_monotone_between e g ops1 ops2 (t, v) hk
  have hd : hasDeposited (run e g (ops1 ++ ops2)).st (c.dsha256 d.noWitnessTx) d.outputIndex = true := by
    rw [ht, hv]; exact (hasDeposited_iff _ _ _).mpr hm
  obtain ⟨msg, hmsg⟩ := verifyDeposit_credited_err c rel _ headers d hd
  exact ⟨⟨msg, hmsg⟩, fun r hr => by rw [hmsg] at hr; cases hr⟩

/-- a whole `NewDeposits` batch that contains an already credited deposit fails and changes nothing -/
theorem credited_batch_rejected (e : Env) (g : G) (m : NewDepositsMsg) (d : Deposit) (hd : d ∈ m.deposits)
    (hk : (e.c.dsha256 d.noWitnessTx, d.outputIndex) ∈ depositedKeys g.st) :
    apply e g (.deposits m) = g := by
  apply apply_deposits_failed
  intro out hout
  obtain ⟨rel', s'⟩ := out
  obtain ⟨headers, _, _, hlen, _, hv⟩ := stepNew_ok e g m rel' s' hout
  obtain ⟨k, hk1, rfl⟩ := List.getElem_of_mem hd
  obtain ⟨_, v2⟩ := hv k hk1 (by rw [hlen]; exact hk1)
  have v3 := verifyDeposit_uncredit _ _ _ _ _ _ _ v2
  have hh : hasDeposited g.st (e.c.dsha256 (m.deposits[k]).noWitnessTx) (m.deposits[k]).outputIndex = true :=
    (hasDeposited_iff _ _ _).mpr hk
  obtain ⟨msg, hmsg⟩ := verifyDeposit_credited_err e.c g.rel g.st headers _ hh
  rw [hmsg] at v3; cases v3

/-! ## credited at most once -/

/-- general form (the initial queue may hold receipts, provided they are themselves credited and
    pairwise distinct): the keys of all receipts ever queued are pairwise distinct, each of them is
    in the final credited set, and the final credited set is the initial one plus the keys of the
    receipts queued by the run -/
theorem credited_at_most_once_general (e : Env) (g : G) (ops : List Op)
    (hn : (depositedKeys g.st).Nodup)
    (hq : (g.st.queue.deposits.map key).Nodup) (hqc : ∀ r ∈ g.st.queue.deposits, key r ∈ depositedKeys g.st) :
    ((everQueued e g ops).map key).Nodup ∧
    (∀ r ∈ everQueued e g ops, key r ∈ depositedKeys (run e g ops).st) ∧
    depositedKeys (run e g ops).st = depositedKeys g.st ++ (queuedBy e g ops).map key := by
  have hfin := deposited_nodup_invariant e ops g hn
  have hk := run_keys e ops g
  rw [hk, List.nodup_append] at hfin
  obtain ⟨_, hnew, hdis⟩ := hfin
  rw [everQueued_eq, List.map_append]
  refine ⟨?_, ?_, hk⟩
  · rw [List.nodup_append]
    refine ⟨hq, hnew, ?_⟩
    intro a ha b hb
    obtain ⟨r, hr, rfl⟩ := List.mem_map.mp ha
    exact hdis _ (hqc r hr) b hb
  · intro r hr
    rw [hk]
    rcases List.mem_append.mp hr with h | h
    · exact List.mem_append_left _ (hqc r h)
    · exact List.mem_append_right _ (List.mem_map_of_mem h)

/-- **each (txid, output) is credited at most once in the lifetime of the chain**: from a state
    with an empty deposit queue and pairwise distinct credited keys, along every run, the receipts
    ever queued (handed over ++ still queued) have pairwise distinct (txid, output) -/
theorem credited_at_most_once (e : Env) (g : G) (ops : List Op)
    (hn : (depositedKeys g.st).Nodup) (hq : g.st.queue.deposits = []) :
    ((everQueued e g ops).map (fun r => (r.txid, r.txout))).Nodup :=
  (credited_at_most_once_general e g ops hn (by rw [hq]; exact List.nodup_nil) (by rw [hq]; intro r hr; cases hr)).1

theorem credited_at_most_once_pairwise (e : Env) (g : G) (ops : List Op)
    (hn : (depositedKeys g.st).Nodup) (hq : g.st.queue.deposits = []) :
    (everQueued e g ops).Pairwise (fun a b => (a.txid, a.txout) ≠ (b.txid, b.txout)) := by
  have h := credited_at_most_once e g ops hn hq
  unfold List.Nodup at h
  rw [List.pairwise_map] at h
  exact h

theorem credited_count_le_one (e : Env) (g : G) (ops : List Op)
    (hn : (depositedKeys g.st).Nodup) (hq : g.st.queue.deposits = []) (k : Bytes × Nat) :
    ((everQueued e g ops).map (fun r => (r.txid, r.txout))).count k ≤ 1 :=
  List.nodup_iff_count.mp (credited_at_most_once e g ops hn hq) k

/-- every receipt ever queued has its key in the final credited set -/
theorem credited_recorded (e : Env) (g : G) (ops : List Op)
    (hn : (depositedKeys g.st).Nodup) (hq : g.st.queue.deposits = []) (r : DepositReceipt)
    (hr : r ∈ everQueued e g ops) : (r.txid, r.txout) ∈ depositedKeys (run e g ops).st :=
  (credited_at_most_once_general e g ops hn (by rw [hq]; exact List.nodup_nil) (by rw [hq]; intro r hr; cases hr)).2.1 r hr

/-- the final credited set is the initial one followed by the keys of the receipts
    ever queued, in queueing order (no `Nodup` hypothesis needed) -/
theorem credited_exactly (e : Env) (g : G) (ops : List Op) (hq : g.st.queue.deposits = []) :
    depositedKeys (run e g ops).st = depositedKeys g.st ++ (everQueued e g ops).map (fun r => (r.txid, r.txout)) := by
  rw [everQueued_eq, hq, List.nil_append]
  exact run_keys e ops g

/-- the credited table records for each receipt ever queued amount + tax (mod 2^64) -/
theorem credited_exactly_entries (e : Env) (g : G) (ops : List Op) (hq : g.st.queue.deposits = []) :
    (run e g ops).st.deposited = g.st.deposited ++ (everQueued e g ops).map entry := by
  rw [everQueued_eq, hq, List.nil_append]
  exact run_deposited e ops g

/-! ## credited only if verified -/

/-- `r` is the receipt of item `k` of the batch `m`, which succeeded on `g`: the item was well-formed
    and `verifyDeposit` returned exactly `r` for it — on the intermediate state of the batch loop
    (`g.st` with the first `k` receipts of the batch already credited; this is the call the handler
    makes) and therefore also on `g.st` itself -/
def VerifiedBy (e : Env) (g : G) (m : NewDepositsMsg) (r : DepositReceipt) : Prop :=
  ∃ (out : Relayer.State × State) (headers : List (Nat × Bytes)) (k : Nat)
    (h1 : k < m.deposits.length) (h2 : k < (stepNew e g (.deposits m)).length),
    newDeposits e.c g.rel g.st m = .ok out ∧ blockHeadersMap m.headers = some headers ∧
    (stepNew e g (.deposits m))[k] = r ∧ (m.deposits[k]).validate = true ∧
    verifyDeposit e.c g.rel (credit g.st ((stepNew e g (.deposits m)).take k)) headers m.deposits[k] = .ok r ∧
    verifyDeposit e.c g.rel g.st headers m.deposits[k] = .ok r

theorem stepNew_verified (e : Env) (g : G) (op : Op) (r : DepositReceipt) (h : r ∈ stepNew e g op) :
    ∃ m, op = .deposits m ∧ VerifiedBy e g m r := by
  cases op with
  | deposits m =>
    refine ⟨m, rfl, ?_⟩
    by_cases hnd : ∃ out, newDeposits e.c g.rel g.st m = .ok out
    · obtain ⟨⟨rel', s'⟩, hnd⟩ := hnd
      obtain ⟨headers, hh, _, hlen, _, hv⟩ := stepNew_ok e g m rel' s' hnd
      obtain ⟨k, hk, rfl⟩ := List.getElem_of_mem h
      have hk1 : k < m.deposits.length := by rw [← hlen]; exact hk
      obtain ⟨v1, v2⟩ := hv k hk1 hk
      exact ⟨(rel', s'), headers, k, hk1, hk, hnd, hh, rfl, v1, v2, verifyDeposit_uncredit _ _ _ _ _ _ _ v2⟩
    · rw [stepNew_fail e g m fun r hr => hnd ⟨r, hr⟩] at h
      cases h
  | _ => cases h

theorem queuedBy_verified (e : Env) : ∀ (ops : List Op) (g : G) (r : DepositReceipt), r ∈ queuedBy e g ops →
    ∃ ops1 m ops2, ops = ops1 ++ .deposits m :: ops2 ∧ VerifiedBy e (run e g ops1) m r := by
  intro ops
  induction ops with
  | nil => intro g r h; cases h
  | cons op ops ih =>
    intro g r h
    rcases List.mem_append.mp h with h | h
    · obtain ⟨m, rfl, hv⟩ := stepNew_verified e g op r h
      exact ⟨[], m, ops, rfl, hv⟩
    · obtain ⟨ops1, m, ops2, rfl, hv⟩ := ih (apply e g op) r h
      exact ⟨op :: ops1, m, ops2, rfl, hv⟩

/-- general form: a receipt ever queued was either in the initial queue or was produced by a
    successful `verifyDeposit` at the point of the run where it was queued -/
theorem credited_only_if_verified_general (e : Env) (g : G) (ops : List Op) (r : DepositReceipt)
    (hr : r ∈ everQueued e g ops) :
    r ∈ g.st.queue.deposits ∨
    ∃ ops1 m ops2, ops = ops1 ++ .deposits m :: ops2 ∧ VerifiedBy e (run e g ops1) m r := by
  rw [everQueued_eq] at hr
  rcases List.mem_append.mp hr with h | h
  · exact Or.inl h
  · exact Or.inr (queuedBy_verified e ops g r h)

/-- **credited only if verified**: from an empty deposit queue, every receipt ever queued by a
    run was queued by one of its `NewDeposits` operations `m`, run on the state reached by the
    prefix `ops1`, as the receipt `verifyDeposit` returned for one of the items of `m` on that
    state (`VerifiedBy`) -/
theorem credited_only_if_verified (e : Env) (g : G) (ops : List Op) (hq : g.st.queue.deposits = [])
    (r : DepositReceipt) (hr : r ∈ everQueued e g ops) :
    ∃ ops1 m ops2, ops = ops1 ++ .deposits m :: ops2 ∧ VerifiedBy e (run e g ops1) m r := by
  rcases credited_only_if_verified_general e g ops r hr with h | h
  · rw [hq] at h; cases h
  · exact h

/-- what `VerifiedBy` means clause by clause (the conclusion of `C03_accept_implies` on the state
    `s` reached by the prefix, under the relayer keys `rel` of that moment) -/
def Accepted (c : Crypto) (rel : Relayer.State) (s : State) (headers : List (Nat × Bytes)) (d : Deposit) (r : DepositReceipt) : Prop :=
  rel.pubkeys.contains d.pubkey.encode = true ∧
  ∃ blockHash header outs,
    nlookup s.hashes d.blockNumber = some blockHash ∧
    (d.txIndex = 0 → d.blockNumber + 100 ≤ s.tip) ∧
    nlookup headers d.blockNumber = some header ∧ header.length = 80 ∧ blockHash = c.dsha256 header ∧
    BtcTx.parseNoWitness d.noWitnessTx = some outs ∧ d.outputIndex < outs.length ∧
    hasDeposited s (c.dsha256 d.noWitnessTx) d.outputIndex = false ∧
    s.params.minDeposit ≤ (outs[d.outputIndex]!).value ∧
    ScriptOk c s.params.magic d outs ∧
    Merkle.verify c.dsha256 (c.dsha256 d.noWitnessTx) ((header.drop 36).take 32) d.proof d.txIndex = true ∧
    r = { address := d.evm, txid := c.dsha256 d.noWitnessTx, txout := d.outputIndex,
          amount := (taxOf s.params (outs[d.outputIndex]!).value).1, tax := (taxOf s.params (outs[d.outputIndex]!).value).2 }

/-- **credited only if accepted**: every receipt ever queued comes from a deposit `d` of a `NewDeposits`
    message of the run such that, on the state `s` and relayer keys of that moment: the key of `d` is
    a registered relayer key; the block hash of the claimed height is voted and is the double hash of
    the submitted 80-byte header; a claimed position 0 has 100 voted blocks above; the transaction
    parses, the output exists, was not yet credited, pays at least the minimum to the script bound to
    that key and EVM address; the transaction id is SPV-proven under the header's Merkle root at the
    claimed position; and the receipt is (address, txid, output, value − tax, tax). -/
theorem credited_only_if_accepted (e : Env) (g : G) (ops : List Op) (hq : g.st.queue.deposits = [])
    (r : DepositReceipt) (hr : r ∈ everQueued e g ops) :
    ∃ ops1 m ops2 headers d, ops = ops1 ++ .deposits m :: ops2 ∧ d ∈ m.deposits ∧ d.validate = true ∧
      blockHeadersMap m.headers = some headers ∧
      Accepted e.c (run e g ops1).rel (run e g ops1).st headers d r := by
  obtain ⟨ops1, m, ops2, ho, _, headers, k, h1, _, _, hh, _, hval, _, hv⟩ := credited_only_if_verified e g ops hq r hr
  exact ⟨ops1, m, ops2, headers, m.deposits[k], ho, List.getElem_mem h1, hval, hh,
    C03_accept_implies _ _ _ _ _ _ hv⟩

/-! ## non-vacuity -/

namespace Example

/-- the toy crypto of C05H (double hash = 32 copies of the length) with a 32-byte `sha256` -/
def c1 : Crypto := { C05H.c0 with sha256 := fun _ => List.replicate 32 0 }
def pk1 : PubKey := { kind := 0, key := 2 :: List.replicate 32 0 }
/-- the relayer group of C05H with one registered Bitcoin key -/
def rel1 : Relayer.State := { C05H.rel0 with pubkeys := [pk1.encode] }
def evm1 : Bytes := List.replicate 20 0xaa
/-- a 94-byte transaction: one input, one output of 50000 to the P2WSH script of (evm1, pk1) -/
def dtx1 : Bytes :=
  [0,0,0,0] ++ [1] ++ List.replicate 36 0 ++ [0] ++ [0,0,0,0] ++ [1] ++ le64 50000 ++ [34] ++
    ([0x00, 0x20] ++ List.replicate 32 0) ++ [0,0,0,0]
/-- a 95-byte transaction (one byte of input script), output of 70000 to the same script -/
def dtx2 : Bytes :=
  [0,0,0,0] ++ [1] ++ List.replicate 36 0 ++ [1, 0] ++ [0,0,0,0] ++ [1] ++ le64 70000 ++ [34] ++
    ([0x00, 0x20] ++ List.replicate 32 0) ++ [0,0,0,0]
/-- an 80-byte header whose Merkle root field is the toy hash of a 64-byte node -/
def hdr : Bytes := List.replicate 36 0 ++ List.replicate 32 64 ++ List.replicate 12 0
def dep1 : Deposit :=
  { version := 0, blockNumber := 3, txIndex := 1, noWitnessTx := dtx1, outputIndex := 0, proof := List.replicate 32 1,
    evm := evm1, pubkey := pk1 }
def dep2 : Deposit := { dep1 with noWitnessTx := dtx2 }
def msg1 : NewDepositsMsg := { proposer := "p", headers := [(3, hdr)], deposits := [dep1] }
def msg12 : NewDepositsMsg := { msg1 with deposits := [dep1, dep2] }
def msg11 : NewDepositsMsg := { msg1 with deposits := [dep1, dep1] }
def msg2 : NewDepositsMsg := { msg1 with deposits := [dep2] }
/-- the empty bridge of C05H with the hash of height 3 voted (and announced), minimum deposit 1000, tax 1 % capped at 300 -/
def s1 : State :=
  { C05H.s0 with params := { minDeposit := 1000, confirmations := 1, taxRate := 100, maxTax := 300, magic := [] },
                 hashes := [(3, List.replicate 32 80)], tip := 3, queue := { C05H.q0 with blockNumber := 3 } }
def e1 : Env := { c := c1, rc := C05H.rc0, chainId := "x" }
def g1 : G := { rel := rel1, st := s1, dPaid := [], dRefund := [] }
def rcp1 : DepositReceipt := { address := evm1, txid := List.replicate 32 94, txout := 0, amount := 49700, tax := 300 }
def rcp2 : DepositReceipt := { address := evm1, txid := List.replicate 32 95, txout := 0, amount := 69700, tax := 300 }

/-- `verifyDeposit` accepts: the hypotheses of `C03_accept_implies` / `VerifiedBy` are satisfiable -/
example : verifyDeposit c1 rel1 s1 [(3, hdr)] dep1 = .ok rcp1 := by decide +kernel

/-- a batch of two distinct deposits succeeds, queues both receipts and credits both keys -/
example : ∃ r, newDeposits c1 rel1 s1 msg12 = .ok r ∧ r.2.queue.deposits = [rcp1, rcp2] ∧
    depositedKeys r.2 = [(List.replicate 32 94, 0), (List.replicate 32 95, 0)] :=
  ⟨_, rfl, by decide, by decide⟩

/-- a batch that repeats a deposit is rejected as a whole (the loop credits item by item) -/
example : newDeposits c1 rel1 s1 msg11 = .err "duplicated" := rfl

/-- a run: credit 1; replay of 1 (rejected); hand-over; batch {1, 2} (rejected: 1 is credited);
    credit 2; replay of 2 (rejected) -/
def ops : List Op := [.deposits msg1, .deposits msg1, .dequeue, .deposits msg12, .deposits msg2, .deposits msg2]

example : (depositedKeys g1.st).Nodup ∧ g1.st.queue.deposits = [] := ⟨List.nodup_nil, rfl⟩

example : handedDeposits e1 g1 ops = [rcp1] ∧ (run e1 g1 ops).st.queue.deposits = [rcp2] ∧
    everQueued e1 g1 ops = [rcp1, rcp2] ∧ queuedBy e1 g1 ops = [rcp1, rcp2] ∧
    (run e1 g1 ops).st.deposited = [((List.replicate 32 94, 0), 50000), ((List.replicate 32 95, 0), 70000)] := by
  decide +kernel

/-- the theorems instantiated on this run -/
example : ((everQueued e1 g1 ops).map (fun r => (r.txid, r.txout))).Nodup :=
  credited_at_most_once e1 g1 ops List.nodup_nil rfl
example : ∃ ops1 m ops2, ops = ops1 ++ .deposits m :: ops2 ∧ VerifiedBy e1 (run e1 g1 ops1) m rcp2 :=
  credited_only_if_verified e1 g1 ops rfl rcp2 (by decide +kernel)
set_option maxRecDepth 8192 in
/-- `dep1` is credited by the first operation and stays credited, so a later batch containing it changes nothing -/
example : apply e1 (run e1 g1 ops) (.deposits msg12) = run e1 g1 ops :=
  credited_batch_rejected e1 _ msg12 dep1 (List.mem_cons_self ..)
    (deposited_monotone_between e1 g1 [.deposits msg1] ops.tail _ (by decide +kernel))

end Example

end Goat.C03H
