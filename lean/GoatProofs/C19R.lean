/-
  C19R — the decoder of execution-layer request lists (`goattypes.DecodeRequests` of goat-geth v0.1.0), the gate
  every request passes before any module of /repo sees it (C19 "any decodable request list"; C12/C13/C16/C20 start
  from its output): which inputs it rejects, that it undoes the encoders on well-formed records (and the two record
  types on which it does not), what it makes of a final record that is cut short, and the ranges of what it returns.

  Model: GoatModel/Requests.lean, validated against the real decoder on the `reqdecode` stream and on a
  supplementary Go program exercising every type byte, every body length of every fixed-size type, every withdrawal
  length prefix with short / exact / long bodies, and lists of 254..300 items; no mismatch.

  Modelled: `DecodeRequests` and every `DecodeReader`/`Decode`/`Encode` it uses, `bytes.Reader.Read` semantics
  (short read without error, `io.EOF` on an exhausted reader even for an empty buffer), `big.Int.SetBytes`,
  `binary.LittleEndian`, `common.BytesToAddress/BytesToHash` on exact-size input, `CompressP256k1Pubkey`, the harness's
  trace rendering.  Left out: the error TEXTS (only error / no error), the partial results returned next to an
  error (callers drop them), `FillBytes` panicking on amounts ≥ 2^256 (the encoders are only used below the bound),
  the `Unpack…` event decoders and the 90-byte / dust checks they apply on the execution-layer side (not part of
  the consensus-side decoder), and the semantic checks the modules apply afterwards.
-/
import GoatModel.Requests
import GoatProofs.Lemmas.Bytes

namespace Goat.C19R
open Goat Goat.Requests

theorem beBytes_length (k n : Nat) : (beBytes k n).length = k := by
  simp [beBytes, leBytes_length]

theorem beToNat_beBytes (k n : Nat) : beToNat (beBytes k n) = n % 256 ^ k := beToNat_reverse_leBytes k n

/-- the most significant byte comes first -/
theorem beBytes_succ (k n : Nat) : beBytes (k + 1) n = UInt8.ofNat (n / 256 ^ k % 256) :: beBytes k n := by
  rw [beBytes, leBytes_succ_last, List.reverse_append]; rfl

theorem p248 : (256 : Nat) ^ 31 = 2 ^ 248 := by decide

theorem be32_length (n : Nat) : (be32 n).length = 32 := beBytes_length 32 n

theorem leToNat_le64 {n : Nat} (h : n < 2 ^ 64) : leToNat (le64 n) = n := by
  rw [le64, leToNat_leBytes, p64]; exact Nat.mod_eq_of_lt h

theorem beToNat_be32 {n : Nat} (h : n < 2 ^ 256) : beToNat (be32 n) = n := by
  rw [be32, beToNat_beBytes, p256]; exact Nat.mod_eq_of_lt h

theorem le64_leToNat {l : Bytes} (h : l.length = 8) : le64 (leToNat l) = l := by
  have := leBytes_leToNat l; rw [h] at this; exact this

theorem drop_add_left {α} {a b : List α} {n : Nat} (h : a.length = n) (i : Nat) : (a ++ b).drop (n + i) = b.drop i := by
  rw [← List.drop_drop, List.drop_left' h]

theorem forall_mem_nil_iff {α : Type} (P : α → Prop) : (∀ r ∈ ([] : List α), P r) ↔ True :=
  ⟨fun _ => trivial, fun _ => nofun⟩

theorem forall_append {α : Type} {P : α → Prop} {a b : List α} (ha : ∀ r ∈ a, P r) (hb : ∀ r ∈ b, P r) :
    ∀ r ∈ a ++ b, P r :=
  fun r hr => (List.mem_append.mp hr).elim (ha r) (hb r)

/-! ### the read loop of the fixed-size records -/

theorem zeros_length (n : Nat) : (zeros n).length = n := by simp [zeros]

theorem readPad_of_le {n : Nat} {bs : Bytes} (h : n ≤ bs.length) : readPad n bs = bs.take n := by
  simp [readPad, zeros, Nat.sub_eq_zero_of_le h]

theorem readPad_of_lt {n : Nat} {bs : Bytes} (h : bs.length ≤ n) : readPad n bs = bs ++ zeros (n - bs.length) := by
  simp [readPad, List.take_of_length_le h]

theorem readPad_length (n : Nat) (bs : Bytes) : (readPad n bs).length = n := by
  by_cases h : n ≤ bs.length
  · rw [readPad_of_le h, List.length_take_of_le h]
  · have h := Nat.le_of_not_le h
    rw [readPad_of_lt h, List.length_append, zeros_length, Nat.add_sub_cancel' h]

theorem chunks_nil (n fuel : Nat) : chunks n fuel [] = [] := by
  cases fuel <;> simp [chunks]

theorem chunks_length_of_mem (n : Nat) : ∀ (fuel : Nat) (bs : Bytes), ∀ c ∈ chunks n fuel bs, c.length = n := by
  intro fuel
  induction fuel with
  | zero => intro bs c hc; simp [chunks] at hc
  | succ f ih =>
    intro bs c hc
    cases bs with
    | nil => simp [chunks] at hc
    | cons b t =>
      simp only [chunks, List.mem_cons] at hc
      rcases hc with rfl | hc
      · exact readPad_length _ _
      · exact ih _ _ hc

theorem records_length_of_mem (n : Nat) (body : Bytes) : ∀ c ∈ records n body, c.length = n :=
  chunks_length_of_mem n _ _

theorem length_le_flatten {α} : ∀ {L : List (List α)}, (∀ l ∈ L, l ≠ []) → L.length ≤ L.flatten.length
  | [], _ => Nat.le_refl 0
  | l :: L, h => by
    rw [List.flatten_cons, List.length_append, List.length_cons, Nat.add_comm]
    exact Nat.add_le_add (List.length_pos_iff.mpr (h l List.mem_cons_self))
      (length_le_flatten fun x hx => h x (List.mem_cons_of_mem _ hx))

/-- a round of the loop on a body that starts with a complete record -/
theorem chunks_append {n : Nat} (hn : 0 < n) {c : Bytes} (hc : c.length = n) (rest : Bytes) (fuel : Nat) :
    chunks n (fuel + 1) (c ++ rest) = c :: chunks n fuel rest := by
  cases c with
  | nil => exact absurd hc (Nat.ne_of_lt hn)
  | cons b t =>
    show readPad n (b :: t ++ rest) :: chunks n fuel ((b :: t ++ rest).drop n) = _
    rw [readPad_of_le (by rw [List.length_append, hc]; exact Nat.le_add_right n _), List.take_left' hc, List.drop_left' hc]

/-- the last round, on a short rest -/
theorem chunks_short {n : Nat} {tail : Bytes} (h0 : tail ≠ []) (ht : tail.length ≤ n) (fuel : Nat) :
    chunks n (fuel + 1) tail = [tail ++ zeros (n - tail.length)] := by
  cases tail with
  | nil => exact absurd rfl h0
  | cons b t =>
    show readPad n (b :: t) :: chunks n fuel ((b :: t).drop n) = _
    rw [readPad_of_lt ht, List.drop_of_length_le ht, chunks_nil]

theorem chunks_flatten {n : Nat} (hn : 0 < n) (tail : Bytes) :
    ∀ (cs : List Bytes), (∀ c ∈ cs, c.length = n) → ∀ fuel, (cs.flatten ++ tail).length ≤ fuel →
      chunks n fuel (cs.flatten ++ tail) = cs ++ chunks n (fuel - cs.length) tail := by
  intro cs
  induction cs with
  | nil => intro _ fuel _; rfl
  | cons c cs ih =>
    intro hcs fuel hf
    have hc : c.length = n := hcs c List.mem_cons_self
    rw [List.flatten_cons, List.append_assoc, List.length_append, hc] at hf
    obtain ⟨f, rfl⟩ := Nat.exists_eq_add_one_of_ne_zero (Nat.ne_of_gt (Nat.lt_of_lt_of_le hn (Nat.le_of_add_right_le hf)))
    rw [List.flatten_cons, List.append_assoc, chunks_append hn hc,
      ih (fun x hx => hcs x (List.mem_cons_of_mem _ hx)) f (by omega), List.length_cons, Nat.add_sub_add_right]
    rfl

theorem records_flatten {n : Nat} (hn : 0 < n) (cs : List Bytes) (hcs : ∀ c ∈ cs, c.length = n) :
    records n cs.flatten = cs := by
  have := chunks_flatten hn [] cs hcs _ (Nat.le_refl _)
  rwa [List.append_nil, chunks_nil, List.append_nil] at this

theorem records_flatten_tail {n : Nat} (hn : 0 < n) (cs : List Bytes) (hcs : ∀ c ∈ cs, c.length = n)
    (tail : Bytes) (h0 : tail ≠ []) (ht : tail.length < n) :
    records n (cs.flatten ++ tail) = cs ++ [tail ++ zeros (n - tail.length)] := by
  have hlt : cs.length < (cs.flatten ++ tail).length := by
    rw [List.length_append]
    exact Nat.lt_of_le_of_lt (length_le_flatten fun c hc e => Nat.ne_of_gt hn (e ▸ hcs c hc).symm)
      (Nat.lt_add_of_pos_right (List.length_pos_iff.mpr h0))
  obtain ⟨k, hk⟩ := Nat.exists_eq_add_one_of_ne_zero (Nat.sub_ne_zero_of_lt hlt)
  rw [records, chunks_flatten hn tail cs hcs _ (Nat.le_refl _), hk, chunks_short h0 (Nat.le_of_lt ht)]

/-- decoding the concatenation of the encodings of `rs`, for a decoder that turns the encoding of `r` into `f r` -/
theorem records_map_enc {α β : Type} {n : Nat} (hn : 0 < n) (enc : α → Bytes) (dec : Bytes → β) (f : α → β)
    (P : α → Prop) (hlen : ∀ r, P r → (enc r).length = n) (hdec : ∀ r, P r → dec (enc r) = f r)
    (rs : List α) (h : ∀ r ∈ rs, P r) :
    (records n (rs.map enc).flatten).map dec = rs.map f := by
  rw [records_flatten hn _ (List.forall_mem_map.mpr fun r hr => hlen r (h r hr)), List.map_map]
  exact List.map_congr_left fun r hr => hdec r (h r hr)

end Goat.C19R

/-! ### well-formed records (= the ranges of the Go field types) -/
namespace Goat.Requests

def GasRequest.WF (r : GasRequest) : Prop := r.height < 2 ^ 64 ∧ r.amount < 2 ^ 256
def CreateRequest.WF (r : CreateRequest) : Prop := r.validator.length = 20 ∧ r.pubkey.length = 64
def LockRequest.WF (r : LockRequest) : Prop := r.validator.length = 20 ∧ r.token.length = 20 ∧ r.amount < 2 ^ 256
def UnlockRequest.WF (r : UnlockRequest) : Prop :=
  r.id < 2 ^ 64 ∧ r.validator.length = 20 ∧ r.recipient.length = 20 ∧ r.token.length = 20 ∧ r.amount < 2 ^ 256
def ClaimRequest.WF (r : ClaimRequest) : Prop := r.id < 2 ^ 64 ∧ r.validator.length = 20 ∧ r.recipient.length = 20
/-- NOTE 2^248, not 2^256: `GrantRequest.Decode` drops the most significant byte. -/
def GrantRequest.WF (r : GrantRequest) : Prop := r.amount < 2 ^ 248
def UpdateTokenWeightRequest.WF (r : UpdateTokenWeightRequest) : Prop := r.token.length = 20 ∧ r.weight < 2 ^ 64
def UpdateTokenThresholdRequest.WF (r : UpdateTokenThresholdRequest) : Prop :=
  r.token.length = 20 ∧ r.threshold < 2 ^ 256
/-- the address is bounded by its one-byte length prefix (255), not by the 90 of the event unpacker -/
def WithdrawalRequest.WF (r : WithdrawalRequest) : Prop :=
  r.id < 2 ^ 64 ∧ r.amount < 2 ^ 64 ∧ r.txPrice < 2 ^ 64 ∧ r.address.length ≤ 255
def ReplaceByFeeRequest.WF (r : ReplaceByFeeRequest) : Prop := r.id < 2 ^ 64 ∧ r.txPrice < 2 ^ 64
def Cancel1Request.WF (r : Cancel1Request) : Prop := r.id < 2 ^ 64
def DepositTaxRequest.WF (r : DepositTaxRequest) : Prop := r.rate < 2 ^ 64 ∧ r.max < 2 ^ 64
def ConfirmationNumberRequest.WF (r : ConfirmationNumberRequest) : Prop := r.number < 2 ^ 64
def MinDepositRequest.WF (r : MinDepositRequest) : Prop := r.satoshi < 2 ^ 64
def AddVoterRequest.WF (r : AddVoterRequest) : Prop := r.voter.length = 20 ∧ r.pubkey.length = 32
def RemoveVoterRequest.WF (r : RemoveVoterRequest) : Prop := r.voter.length = 20

end Goat.Requests

namespace Goat.C19R
open Goat Goat.Requests

theorem encodeGas_length (r : GasRequest) : (encodeGas r).length = 40 := by
  simp [encodeGas, le64_length, be32_length]
theorem encodeCreate_length {r : CreateRequest} (h : r.WF) : (encodeCreate r).length = 84 := by
  simp [encodeCreate, h.1, h.2]
theorem encodeLock_length {r : LockRequest} (h : r.WF) : (encodeLock r).length = 72 := by
  simp [encodeLock, h.1, h.2.1, be32_length]
theorem encodeUnlock_length {r : UnlockRequest} (h : r.WF) : (encodeUnlock r).length = 100 := by
  simp [encodeUnlock, h.2.1, h.2.2.1, h.2.2.2.1, be32_length, le64_length]
theorem encodeClaim_length {r : ClaimRequest} (h : r.WF) : (encodeClaim r).length = 48 := by
  simp [encodeClaim, h.2.1, h.2.2, le64_length]
theorem encodeGrant_length (r : GrantRequest) : (encodeGrant r).length = 32 := by
  simp [encodeGrant, be32_length]
theorem encodeWeight_length {r : UpdateTokenWeightRequest} (h : r.WF) : (encodeWeight r).length = 28 := by
  simp [encodeWeight, h.1, le64_length]
theorem encodeThreshold_length {r : UpdateTokenThresholdRequest} (h : r.WF) : (encodeThreshold r).length = 52 := by
  simp [encodeThreshold, h.1, be32_length]
theorem encodeRbf_length (r : ReplaceByFeeRequest) : (encodeRbf r).length = 16 := by
  simp [encodeRbf, le64_length]
theorem encodeCancel1_length (r : Cancel1Request) : (encodeCancel1 r).length = 8 := by
  simp [encodeCancel1, le64_length]
theorem encodeTax_length (r : DepositTaxRequest) : (encodeTax r).length = 16 := by
  simp [encodeTax, le64_length]
theorem encodeConf_length (r : ConfirmationNumberRequest) : (encodeConf r).length = 8 := by
  simp [encodeConf, le64_length]
theorem encodeMin_length (r : MinDepositRequest) : (encodeMin r).length = 8 := by
  simp [encodeMin, le64_length]
theorem encodeAddVoter_length {r : AddVoterRequest} (h : r.WF) : (encodeAddVoter r).length = 52 := by
  simp [encodeAddVoter, h.1, h.2]
theorem encodeRemoveVoter_length {r : RemoveVoterRequest} (h : r.WF) : (encodeRemoveVoter r).length = 20 := by
  simp [encodeRemoveVoter]; exact h
theorem encodeWithdrawal_length (r : WithdrawalRequest) : (encodeWithdrawal r).length = 25 + r.address.length := by
  simp [encodeWithdrawal, le64_length]; omega

theorem decGas_encodeGas {r : GasRequest} (h : r.WF) : decGas (encodeGas r) = r := by
  obtain ⟨h1, h2⟩ := h
  simp only [decGas, encodeGas, List.take_left' (le64_length _), List.drop_left' (le64_length _), leToNat_le64 h1, beToNat_be32 h2]

theorem decCreate_encodeCreate {r : CreateRequest} (h : r.WF) : decCreate (encodeCreate r) = r := by
  obtain ⟨h1, h2⟩ := h
  simp only [decCreate, encodeCreate, List.take_left' h1, List.drop_left' h1]

theorem decLock_encodeLock {r : LockRequest} (h : r.WF) : decLock (encodeLock r) = r := by
  obtain ⟨h1, h2, h3⟩ := h
  simp only [decLock, encodeLock, List.append_assoc]
  rw [List.take_left' h1, List.drop_left' h1, List.take_left' h2, drop_add_left h1 20, List.drop_left' h2, beToNat_be32 h3]

theorem decUnlock_encodeUnlock {r : UnlockRequest} (h : r.WF) : decUnlock (encodeUnlock r) = r := by
  obtain ⟨h0, h1, h2, h3, h4⟩ := h
  have l := le64_length r.id
  simp only [decUnlock, encodeUnlock, List.append_assoc]
  rw [List.take_left' l, List.drop_left' l, List.take_left' h1, drop_add_left l 20, List.drop_left' h1, List.take_left' h2, drop_add_left l 40,
    drop_add_left h1 20, List.drop_left' h2, List.take_left' h3, drop_add_left l 60, drop_add_left h1 40, drop_add_left h2 20,
    List.drop_left' h3, leToNat_le64 h0, beToNat_be32 h4]

theorem decClaim_encodeClaim {r : ClaimRequest} (h : r.WF) : decClaim (encodeClaim r) = r := by
  obtain ⟨h0, h1, h2⟩ := h
  have l := le64_length r.id
  simp only [decClaim, encodeClaim, List.append_assoc]
  rw [List.take_left' l, List.drop_left' l, List.take_left' h1, drop_add_left l 20, List.drop_left' h1, leToNat_le64 h0]

/-- what the grant decoder really computes: the amount modulo 2^248 -/
theorem decGrant_encodeGrant_mod (r : GrantRequest) : decGrant (encodeGrant r) = { amount := r.amount % 2 ^ 248 } := by
  rw [decGrant, encodeGrant, be32, beBytes_succ, List.drop_one, List.tail_cons, beToNat_beBytes, p248]

theorem decGrant_encodeGrant {r : GrantRequest} (h : r.WF) : decGrant (encodeGrant r) = r := by
  rw [decGrant_encodeGrant_mod, Nat.mod_eq_of_lt h]

theorem decWeight_encodeWeight {r : UpdateTokenWeightRequest} (h : r.WF) : decWeight (encodeWeight r) = r := by
  obtain ⟨h1, h2⟩ := h
  simp only [decWeight, encodeWeight, List.take_left' h1, List.drop_left' h1, leToNat_le64 h2]

theorem decThreshold_encodeThreshold {r : UpdateTokenThresholdRequest} (h : r.WF) :
    decThreshold (encodeThreshold r) = r := by
  obtain ⟨h1, h2⟩ := h
  simp only [decThreshold, encodeThreshold, List.take_left' h1, List.drop_left' h1, beToNat_be32 h2]

theorem decRbf_encodeRbf {r : ReplaceByFeeRequest} (h : r.WF) : decRbf (encodeRbf r) = r := by
  obtain ⟨h1, h2⟩ := h
  simp only [decRbf, encodeRbf, List.take_left' (le64_length _), List.drop_left' (le64_length _), leToNat_le64 h1, leToNat_le64 h2]

theorem decCancel1_encodeCancel1 {r : Cancel1Request} (h : r.WF) : decCancel1 (encodeCancel1 r) = r := by
  simp only [decCancel1, encodeCancel1, leToNat_le64 h]

theorem decTax_encodeTax {r : DepositTaxRequest} (h : r.WF) : decTax (encodeTax r) = r := by
  obtain ⟨h1, h2⟩ := h
  simp only [decTax, encodeTax, List.take_left' (le64_length _), List.drop_left' (le64_length _), leToNat_le64 h1, leToNat_le64 h2]

theorem decConf_encodeConf {r : ConfirmationNumberRequest} (h : r.WF) : decConf (encodeConf r) = r := by
  simp only [decConf, encodeConf, leToNat_le64 h]

theorem decMin_encodeMin {r : MinDepositRequest} (h : r.WF) : decMin (encodeMin r) = r := by
  simp only [decMin, encodeMin, leToNat_le64 h]

theorem decAddVoter_encodeAddVoter {r : AddVoterRequest} (h : r.WF) : decAddVoter (encodeAddVoter r) = r := by
  simp only [decAddVoter, encodeAddVoter, List.take_left' h.1, List.drop_left' h.1]

theorem decRemoveVoter_encodeRemoveVoter (r : RemoveVoterRequest) : decRemoveVoter (encodeRemoveVoter r) = r := rfl

/-! ### every record decoded from a full-size buffer is within the range of its Go type -/

theorem leToNat_lt64 {l : Bytes} (h : l.length ≤ 8) : leToNat l < 2 ^ 64 := p64 ▸ leToNat_lt_pow h
theorem beToNat_lt256 {l : Bytes} (h : l.length ≤ 32) : beToNat l < 2 ^ 256 := p256 ▸ beToNat_lt_pow h
theorem beToNat_lt248 {l : Bytes} (h : l.length ≤ 31) : beToNat l < 2 ^ 248 := p248 ▸ beToNat_lt_pow h

/-- the field of `n` bytes at offset `i` of a buffer of `m` bytes -/
theorem field_length {c : Bytes} {m : Nat} (h : c.length = m) (i n : Nat) (hin : i + n ≤ m) :
    ((c.drop i).take n).length = n := by
  rw [List.length_take, List.length_drop, h]; omega

/-- the last field, from offset `i` on -/
theorem tail_length {c : Bytes} {m : Nat} (h : c.length = m) (i : Nat) : (c.drop i).length = m - i := by
  rw [List.length_drop, h]

theorem decGas_wf {c : Bytes} (h : c.length = 40) : (decGas c).WF :=
  ⟨leToNat_lt64 (List.length_take_le _ _), beToNat_lt256 (Nat.le_of_eq (tail_length h 8))⟩
theorem decCreate_wf {c : Bytes} (h : c.length = 84) : (decCreate c).WF :=
  ⟨field_length h 0 20 (by decide), tail_length h 20⟩
theorem decLock_wf {c : Bytes} (h : c.length = 72) : (decLock c).WF :=
  ⟨field_length h 0 20 (by decide), field_length h 20 20 (by decide), beToNat_lt256 (Nat.le_of_eq (tail_length h 40))⟩
theorem decUnlock_wf {c : Bytes} (h : c.length = 100) : (decUnlock c).WF :=
  ⟨leToNat_lt64 (List.length_take_le _ _), field_length h 8 20 (by decide), field_length h 28 20 (by decide),
   field_length h 48 20 (by decide), beToNat_lt256 (Nat.le_of_eq (tail_length h 68))⟩
theorem decClaim_wf {c : Bytes} (h : c.length = 48) : (decClaim c).WF :=
  ⟨leToNat_lt64 (List.length_take_le _ _), field_length h 8 20 (by decide), tail_length h 28⟩
theorem decGrant_wf {c : Bytes} (h : c.length = 32) : (decGrant c).WF :=
  beToNat_lt248 (Nat.le_of_eq (tail_length h 1))
theorem decWeight_wf {c : Bytes} (h : c.length = 28) : (decWeight c).WF :=
  ⟨field_length h 0 20 (by decide), leToNat_lt64 (Nat.le_of_eq (tail_length h 20))⟩
theorem decThreshold_wf {c : Bytes} (h : c.length = 52) : (decThreshold c).WF :=
  ⟨field_length h 0 20 (by decide), beToNat_lt256 (Nat.le_of_eq (tail_length h 20))⟩
theorem decRbf_wf {c : Bytes} (h : c.length = 16) : (decRbf c).WF :=
  ⟨leToNat_lt64 (List.length_take_le _ _), leToNat_lt64 (Nat.le_of_eq (tail_length h 8))⟩
theorem decCancel1_wf {c : Bytes} (h : c.length = 8) : (decCancel1 c).WF := leToNat_lt64 (Nat.le_of_eq h)
theorem decTax_wf {c : Bytes} (h : c.length = 16) : (decTax c).WF :=
  ⟨leToNat_lt64 (List.length_take_le _ _), leToNat_lt64 (Nat.le_of_eq (tail_length h 8))⟩
theorem decConf_wf {c : Bytes} (h : c.length = 8) : (decConf c).WF := leToNat_lt64 (Nat.le_of_eq h)
theorem decMin_wf {c : Bytes} (h : c.length = 8) : (decMin c).WF := leToNat_lt64 (Nat.le_of_eq h)
theorem decAddVoter_wf {c : Bytes} (h : c.length = 52) : (decAddVoter c).WF :=
  ⟨field_length h 0 20 (by decide), tail_length h 20⟩
theorem decRemoveVoter_wf {c : Bytes} (h : c.length = 20) : (decRemoveVoter c).WF := h

/-! ### the withdrawal loop -/

theorem withdrawalsAux_nil (fuel : Nat) : withdrawalsAux fuel [] = some [] := by
  cases fuel <;> rfl

/-- the record a 25-byte header `h` followed by `rest` decodes to -/
def wdRecord (h rest : Bytes) : WithdrawalRequest :=
  { id := leToNat (h.take 8), amount := leToNat ((h.drop 8).take 8), txPrice := leToNat ((h.drop 16).take 8),
    address := readPad ((h.drop 24).headD 0).toNat rest }

theorem wdRecord_wf (h rest : Bytes) : (wdRecord h rest).WF :=
  ⟨leToNat_lt64 (List.length_take_le _ _), leToNat_lt64 (List.length_take_le _ _),
    leToNat_lt64 (List.length_take_le _ _),
    Nat.le_trans (Nat.le_of_eq (readPad_length _ rest)) (Nat.le_of_lt_succ ((h.drop 24).headD 0).toNat_lt)⟩

/-- one round of the loop on at most 25 bytes: `io.EOF` from the second read -/
theorem withdrawalsAux_short (fuel : Nat) (bs : Bytes) (h0 : bs ≠ []) (h : bs.length ≤ 25) :
    withdrawalsAux (fuel + 1) bs = none := by
  cases bs with
  | nil => exact absurd rfl h0
  | cons b t => simp only [withdrawalsAux, h, if_true]

/-- one round of the loop on more than 25 bytes -/
theorem withdrawalsAux_long (fuel : Nat) {bs : Bytes} (h : 25 < bs.length) :
    withdrawalsAux (fuel + 1) bs =
      (withdrawalsAux fuel ((bs.drop 25).drop (((bs.take 25).drop 24).headD 0).toNat)).map
        (wdRecord (bs.take 25) (bs.drop 25) :: ·) := by
  cases bs with
  | nil => exact absurd h (by decide)
  | cons b t =>
    simp only [withdrawalsAux, if_neg (Nat.not_le.mpr h)]
    cases withdrawalsAux fuel _ <;> rfl

theorem withdrawalsAux_step (fuel : Nat) (h rest : Bytes) (hh : h.length = 25) (hr : rest ≠ []) :
    withdrawalsAux (fuel + 1) (h ++ rest) =
      (withdrawalsAux fuel (rest.drop ((h.drop 24).headD 0).toNat)).map (wdRecord h rest :: ·) := by
  have hlen : 25 < (h ++ rest).length := by
    rw [List.length_append, hh]; exact Nat.lt_add_of_pos_right (List.length_pos_iff.mpr hr)
  rw [withdrawalsAux_long fuel hlen, List.take_left' hh, List.drop_left' hh]

theorem withdrawalsAux_wf : ∀ (fuel : Nat) (bs : Bytes) (rs : List WithdrawalRequest),
    withdrawalsAux fuel bs = some rs → ∀ r ∈ rs, r.WF := by
  intro fuel
  induction fuel with
  | zero => intro bs rs h; cases Option.some.inj h; exact nofun
  | succ f ih =>
    intro bs rs h
    by_cases hl : 25 < bs.length
    · rw [withdrawalsAux_long f hl] at h
      obtain ⟨rs', hrec, rfl⟩ := Option.map_eq_some_iff.mp h
      exact List.forall_mem_cons.mpr ⟨wdRecord_wf _ _, ih _ _ hrec⟩
    · cases bs with
      | nil => cases Option.some.inj h; exact nofun
      | cons b t => rw [withdrawalsAux_short f _ (List.cons_ne_nil b t) (Nat.le_of_not_lt hl)] at h; exact nomatch h

theorem decWithdrawals_wf {body : Bytes} {rs : List WithdrawalRequest} (h : decWithdrawals body = some rs) :
    ∀ r ∈ rs, r.WF := withdrawalsAux_wf _ _ _ h

/-- the header of an encoded withdrawal -/
def wdHeader (r : WithdrawalRequest) : Bytes :=
  le64 r.id ++ le64 r.amount ++ le64 r.txPrice ++ [UInt8.ofNat r.address.length]

theorem wdHeader_eq (r : WithdrawalRequest) :
    wdHeader r = le64 r.id ++ (le64 r.amount ++ (le64 r.txPrice ++ [UInt8.ofNat r.address.length])) := by
  simp only [wdHeader, List.append_assoc]

theorem wdHeader_length (r : WithdrawalRequest) : (wdHeader r).length = 25 := by
  simp only [wdHeader_eq, List.length_append, le64_length, List.length_singleton]

theorem encodeWithdrawal_eq (r : WithdrawalRequest) : encodeWithdrawal r = wdHeader r ++ r.address := rfl

theorem wdHeader_len_byte {r : WithdrawalRequest} (h : r.WF) :
    (((wdHeader r).drop 24).headD 0).toNat = r.address.length := by
  rw [wdHeader_eq, drop_add_left (le64_length _) 16, drop_add_left (le64_length _) 8, List.drop_left' (le64_length _)]
  exact UInt8.toNat_ofNat'.trans (Nat.mod_eq_of_lt (Nat.lt_succ_of_le h.2.2.2))

theorem wdRecord_header {r : WithdrawalRequest} (h : r.WF) (tail : Bytes) :
    wdRecord (wdHeader r) (r.address ++ tail) = r := by
  have l := le64_length
  rw [wdRecord, wdHeader_len_byte h, wdHeader_eq, List.take_left' (l _), List.drop_left' (l _), List.take_left' (l _),
    drop_add_left (l _) 8, List.drop_left' (l _), List.take_left' (l _), readPad_of_le (by rw [List.length_append]; exact Nat.le_add_right _ _),
    List.take_left' rfl, leToNat_le64 h.1, leToNat_le64 h.2.1, leToNat_le64 h.2.2.1]

/-- The round trip of withdrawals, with a tail: complete well-formed records followed by `tail`. -/
theorem withdrawalsAux_flatten (tail : Bytes) :
    ∀ (rs : List WithdrawalRequest), (∀ r ∈ rs, r.WF) →
      (tail = [] → ∀ r, rs.getLast? = some r → r.address ≠ []) →
      ∀ fuel, ((rs.map encodeWithdrawal).flatten ++ tail).length ≤ fuel →
      withdrawalsAux fuel ((rs.map encodeWithdrawal).flatten ++ tail) =
        (withdrawalsAux (fuel - rs.length) tail).map (rs ++ ·) := by
  intro rs
  induction rs with
  | nil => intro _ _ fuel _; exact (Option.map_id' ..).symm
  | cons r rs ih =>
    intro hwf hlast fuel hf
    have hr : r.WF := hwf r List.mem_cons_self
    have e : ((r :: rs).map encodeWithdrawal).flatten ++ tail
        = wdHeader r ++ (r.address ++ ((rs.map encodeWithdrawal).flatten ++ tail)) := by
      rw [List.map_cons, List.flatten_cons, encodeWithdrawal_eq, List.append_assoc, List.append_assoc]
    rw [e] at hf ⊢
    cases fuel with
    | zero => rw [List.length_append, wdHeader_length] at hf; exact absurd hf (by omega)
    | succ f =>
      -- the rest is not empty: otherwise `r` is the last record, and its address is not empty
      have hne : r.address ++ ((rs.map encodeWithdrawal).flatten ++ tail) ≠ [] := by
        intro h0
        obtain ⟨ha, hb, hc⟩ := List.append_eq_nil_iff.mp h0 |>.imp id List.append_eq_nil_iff.mp
        cases rs with
        | nil => exact hlast hc r rfl ha
        | cons x xs =>
          have := congrArg List.length hb
          rw [List.map_cons, List.flatten_cons, List.length_append, encodeWithdrawal_length, List.length_nil] at this
          omega
      have hlast' : tail = [] → ∀ x, rs.getLast? = some x → x.address ≠ [] := by
        intro ht x hx
        cases rs with
        | nil => exact nomatch hx
        | cons y ys => exact hlast ht x (List.getLast?_cons_cons.trans hx)
      rw [withdrawalsAux_step f _ _ (wdHeader_length r) hne, wdHeader_len_byte hr, List.drop_left' rfl, wdRecord_header hr,
        ih (fun x hx => hwf x (List.mem_cons_of_mem _ hx)) hlast' f (by
          rw [List.length_append, wdHeader_length, List.length_append] at hf; omega),
        Option.map_map, List.length_cons, Nat.add_sub_add_right]
      rfl

/-- the sixteen type bytes the decoder knows; 8–10, 17–19 and 22–255 are missing -/
def knownTypes : List UInt8 := [0, 1, 2, 3, 4, 5, 6, 7, 11, 12, 13, 14, 15, 16, 20, 21]

theorem kindOf_typeByte (k : Kind) : kindOf k.typeByte = some k := by
  cases k <;> decide +kernel

theorem kindOf_eq_some {t : UInt8} {k : Kind} (h : kindOf t = some k) : t = k.typeByte := by
  have := List.find?_some h
  exact (by simpa using this : k.typeByte = t).symm

theorem kindOf_eq_some_iff (t : UInt8) (k : Kind) : kindOf t = some k ↔ t = k.typeByte :=
  ⟨kindOf_eq_some, fun h => h ▸ kindOf_typeByte k⟩

theorem knownTypes_eq : knownTypes = Kind.all.map Kind.typeByte := rfl

theorem kindOf_eq_none_iff (t : UInt8) : kindOf t = none ↔ t ∉ knownTypes := by
  rw [kindOf, List.find?_eq_none, knownTypes_eq, List.mem_map]
  simp only [beq_iff_eq, not_exists, not_and]

theorem mem_knownTypes_of_kindOf {t : UInt8} {k : Kind} (h : kindOf t = some k) : t ∈ knownTypes :=
  Decidable.byContradiction fun hn => by
    rw [(kindOf_eq_none_iff t).mpr hn] at h
    exact nomatch h

theorem typeByte_injective {k k' : Kind} (h : k.typeByte = k'.typeByte) : k = k' :=
  Option.some.inj ((kindOf_typeByte k).symm.trans (h ▸ kindOf_typeByte k'))

/-- one typed item's worth of records -/
inductive Group where
  | gas (rs : List GasRequest)
  | create (rs : List CreateRequest)
  | lock (rs : List LockRequest)
  | unlock (rs : List UnlockRequest)
  | claim (rs : List ClaimRequest)
  | grant (rs : List GrantRequest)
  | weight (rs : List UpdateTokenWeightRequest)
  | threshold (rs : List UpdateTokenThresholdRequest)
  | withdrawal (rs : List WithdrawalRequest)
  | replaceByFee (rs : List ReplaceByFeeRequest)
  | cancel1 (rs : List Cancel1Request)
  | depositTax (rs : List DepositTaxRequest)
  | confirmation (rs : List ConfirmationNumberRequest)
  | minDeposit (rs : List MinDepositRequest)
  | addVoter (rs : List AddVoterRequest)
  | removeVoter (rs : List RemoveVoterRequest)

/-- the typed item of a group (what `LockingRequests.Encode` etc. produce for one non-empty field) -/
def Group.encode : Group → Bytes
  | .gas rs => encodeTyped 0 (rs.map encodeGas)
  | .create rs => encodeTyped 1 (rs.map encodeCreate)
  | .lock rs => encodeTyped 2 (rs.map encodeLock)
  | .unlock rs => encodeTyped 3 (rs.map encodeUnlock)
  | .claim rs => encodeTyped 4 (rs.map encodeClaim)
  | .grant rs => encodeTyped 5 (rs.map encodeGrant)
  | .weight rs => encodeTyped 6 (rs.map encodeWeight)
  | .threshold rs => encodeTyped 7 (rs.map encodeThreshold)
  | .withdrawal rs => encodeTyped 11 (rs.map encodeWithdrawal)
  | .replaceByFee rs => encodeTyped 12 (rs.map encodeRbf)
  | .cancel1 rs => encodeTyped 13 (rs.map encodeCancel1)
  | .depositTax rs => encodeTyped 14 (rs.map encodeTax)
  | .confirmation rs => encodeTyped 15 (rs.map encodeConf)
  | .minDeposit rs => encodeTyped 16 (rs.map encodeMin)
  | .addVoter rs => encodeTyped 20 (rs.map encodeAddVoter)
  | .removeVoter rs => encodeTyped 21 (rs.map encodeRemoveVoter)

/-- every record within the range of its Go type; for withdrawals additionally: the LAST record of the item has a
    non-empty address (an item that ends with a withdrawal to the empty address is rejected by the real decoder). -/
def Group.WF : Group → Prop
  | .gas rs => ∀ r ∈ rs, r.WF
  | .create rs => ∀ r ∈ rs, r.WF
  | .lock rs => ∀ r ∈ rs, r.WF
  | .unlock rs => ∀ r ∈ rs, r.WF
  | .claim rs => ∀ r ∈ rs, r.WF
  | .grant rs => ∀ r ∈ rs, r.WF
  | .weight rs => ∀ r ∈ rs, r.WF
  | .threshold rs => ∀ r ∈ rs, r.WF
  | .withdrawal rs => (∀ r ∈ rs, r.WF) ∧ ∀ r, rs.getLast? = some r → r.address ≠ []
  | .replaceByFee rs => ∀ r ∈ rs, r.WF
  | .cancel1 rs => ∀ r ∈ rs, r.WF
  | .depositTax rs => ∀ r ∈ rs, r.WF
  | .confirmation rs => ∀ r ∈ rs, r.WF
  | .minDeposit rs => ∀ r ∈ rs, r.WF
  | .addVoter rs => ∀ r ∈ rs, r.WF
  | .removeVoter rs => ∀ r ∈ rs, r.WF

def Group.gasOf : Group → List GasRequest | .gas rs => rs | _ => []
def Group.createsOf : Group → List CreateRequest | .create rs => rs | _ => []
def Group.locksOf : Group → List LockRequest | .lock rs => rs | _ => []
def Group.unlocksOf : Group → List UnlockRequest | .unlock rs => rs | _ => []
def Group.claimsOf : Group → List ClaimRequest | .claim rs => rs | _ => []
def Group.grantsOf : Group → List GrantRequest | .grant rs => rs | _ => []
def Group.weightsOf : Group → List UpdateTokenWeightRequest | .weight rs => rs | _ => []
def Group.thresholdsOf : Group → List UpdateTokenThresholdRequest | .threshold rs => rs | _ => []
def Group.withdrawalsOf : Group → List WithdrawalRequest | .withdrawal rs => rs | _ => []
def Group.rbfOf : Group → List ReplaceByFeeRequest | .replaceByFee rs => rs | _ => []
def Group.cancel1Of : Group → List Cancel1Request | .cancel1 rs => rs | _ => []
def Group.taxOf : Group → List DepositTaxRequest | .depositTax rs => rs | _ => []
def Group.confOf : Group → List ConfirmationNumberRequest | .confirmation rs => rs | _ => []
def Group.minOf : Group → List MinDepositRequest | .minDeposit rs => rs | _ => []
def Group.addsOf : Group → List AddVoterRequest | .addVoter rs => rs | _ => []
def Group.removesOf : Group → List RemoveVoterRequest | .removeVoter rs => rs | _ => []

/-- the expected result of decoding a list of groups: every field is the concatenation, in the order of the
    items, of the records of the groups of its type -/
def collect (gs : List Group) : Decoded :=
  { bridge :=
      { withdraws := gs.flatMap Group.withdrawalsOf, replaceByFees := gs.flatMap Group.rbfOf,
        cancel1s := gs.flatMap Group.cancel1Of, depositTax := gs.flatMap Group.taxOf,
        confirmation := gs.flatMap Group.confOf, minDeposit := gs.flatMap Group.minOf },
    relayer := { adds := gs.flatMap Group.addsOf, removes := gs.flatMap Group.removesOf },
    locking :=
      { gas := gs.flatMap Group.gasOf, creates := gs.flatMap Group.createsOf, locks := gs.flatMap Group.locksOf,
        unlocks := gs.flatMap Group.unlocksOf, claims := gs.flatMap Group.claimsOf,
        grants := gs.flatMap Group.grantsOf, updateWeights := gs.flatMap Group.weightsOf,
        updateThresholds := gs.flatMap Group.thresholdsOf } }

/-- field-wise concatenation -/
def dappend (a b : Decoded) : Decoded :=
  { bridge :=
      { withdraws := a.bridge.withdraws ++ b.bridge.withdraws,
        replaceByFees := a.bridge.replaceByFees ++ b.bridge.replaceByFees,
        cancel1s := a.bridge.cancel1s ++ b.bridge.cancel1s, depositTax := a.bridge.depositTax ++ b.bridge.depositTax,
        confirmation := a.bridge.confirmation ++ b.bridge.confirmation,
        minDeposit := a.bridge.minDeposit ++ b.bridge.minDeposit },
    relayer := { adds := a.relayer.adds ++ b.relayer.adds, removes := a.relayer.removes ++ b.relayer.removes },
    locking :=
      { gas := a.locking.gas ++ b.locking.gas, creates := a.locking.creates ++ b.locking.creates,
        locks := a.locking.locks ++ b.locking.locks, unlocks := a.locking.unlocks ++ b.locking.unlocks,
        claims := a.locking.claims ++ b.locking.claims, grants := a.locking.grants ++ b.locking.grants,
        updateWeights := a.locking.updateWeights ++ b.locking.updateWeights,
        updateThresholds := a.locking.updateThresholds ++ b.locking.updateThresholds } }

theorem dappend_empty_left (a : Decoded) : dappend Decoded.empty a = a := rfl

theorem dappend_empty_right (a : Decoded) : dappend a Decoded.empty = a := by
  simp only [dappend, Decoded.empty, List.append_nil]

theorem dappend_assoc (a b c : Decoded) : dappend (dappend a b) c = dappend a (dappend b c) := by
  simp only [dappend, List.append_assoc]

/-- the records of one group as a `Decoded`: one field is the group, the others are empty -/
def Group.single : Group → Decoded
  | .gas rs => { locking := { gas := rs } }
  | .create rs => { locking := { creates := rs } }
  | .lock rs => { locking := { locks := rs } }
  | .unlock rs => { locking := { unlocks := rs } }
  | .claim rs => { locking := { claims := rs } }
  | .grant rs => { locking := { grants := rs } }
  | .weight rs => { locking := { updateWeights := rs } }
  | .threshold rs => { locking := { updateThresholds := rs } }
  | .withdrawal rs => { bridge := { withdraws := rs } }
  | .replaceByFee rs => { bridge := { replaceByFees := rs } }
  | .cancel1 rs => { bridge := { cancel1s := rs } }
  | .depositTax rs => { bridge := { depositTax := rs } }
  | .confirmation rs => { bridge := { confirmation := rs } }
  | .minDeposit rs => { bridge := { minDeposit := rs } }
  | .addVoter rs => { relayer := { adds := rs } }
  | .removeVoter rs => { relayer := { removes := rs } }

theorem collect_nil : collect [] = Decoded.empty := rfl

theorem collect_cons (g : Group) (gs : List Group) : collect (g :: gs) = dappend g.single (collect gs) := by
  cases g <;> rfl

theorem collect_singleton (g : Group) : collect [g] = g.single := by
  rw [collect_cons, collect_nil, dappend_empty_right]

/-- the group the read buffers `cs` of an item of a fixed-size type decode to (the withdrawal type, whose records are
    not read into buffers of one size, gets the empty group) -/
def groupOf : Kind → List Bytes → Group
  | .gas, cs => .gas (cs.map decGas)
  | .create, cs => .create (cs.map decCreate)
  | .lock, cs => .lock (cs.map decLock)
  | .unlock, cs => .unlock (cs.map decUnlock)
  | .claim, cs => .claim (cs.map decClaim)
  | .grant, cs => .grant (cs.map decGrant)
  | .weight, cs => .weight (cs.map decWeight)
  | .threshold, cs => .threshold (cs.map decThreshold)
  | .withdrawal, _ => .withdrawal []
  | .replaceByFee, cs => .replaceByFee (cs.map decRbf)
  | .cancel1, cs => .cancel1 (cs.map decCancel1)
  | .depositTax, cs => .depositTax (cs.map decTax)
  | .confirmation, cs => .confirmation (cs.map decConf)
  | .minDeposit, cs => .minDeposit (cs.map decMin)
  | .addVoter, cs => .addVoter (cs.map decAddVoter)
  | .removeVoter, cs => .removeVoter (cs.map decRemoveVoter)

/-! `decodeItem` on its three kinds of input: an unknown type byte, a fixed-size type, the withdrawal type -/

theorem decodeItem_unknown {t : UInt8} (h : kindOf t = none) (d : Decoded) (body : Bytes) :
    decodeItem d (t :: body) = none := by
  simp only [decodeItem, h]

theorem decodeItem_fixed {k : Kind} (hk : k ≠ .withdrawal) (d : Decoded) (body : Bytes) :
    decodeItem d (k.typeByte :: body) = some (dappend d (groupOf k (records k.size body)).single) := by
  rw [decodeItem, kindOf_typeByte]
  cases k with
  | withdrawal => exact absurd rfl hk
  | _ => simp only [Kind.size, groupOf, Group.single, dappend, List.append_nil]

theorem decodeItem_withdrawal (d : Decoded) (body : Bytes) :
    decodeItem d (Kind.withdrawal.typeByte :: body)
      = (decWithdrawals body).map fun ws => dappend d (Group.withdrawal ws).single := by
  simp only [decodeItem, kindOf_typeByte]
  cases decWithdrawals body with
  | none => rfl
  | some ws => simp only [Option.map_some, Group.single, dappend, List.append_nil]

/-- the withdrawal item: complete records and nothing else -/
theorem decWithdrawals_encode (rs : List WithdrawalRequest) (h : ∀ r ∈ rs, r.WF)
    (hl : ∀ r, rs.getLast? = some r → r.address ≠ []) :
    decWithdrawals (rs.map encodeWithdrawal).flatten = some rs := by
  have := withdrawalsAux_flatten [] rs h (fun _ => hl) ((rs.map encodeWithdrawal).flatten ++ []).length (Nat.le_refl _)
  rw [withdrawalsAux_nil] at this
  simpa [decWithdrawals] using this

theorem decodeItem_group (d : Decoded) (g : Group) (h : g.WF) :
    decodeItem d g.encode = some (dappend d g.single) := by
  -- a fixed-size type: `mk` is the group's constructor, `enc` / `dec` the record's encoder and decoder
  have fixed {α : Type} (k : Kind) (hk : k ≠ .withdrawal) (mk : List α → Group) (enc : α → Bytes) (dec : Bytes → α)
      {P : α → Prop} (hmk : ∀ cs, groupOf k cs = mk (cs.map dec)) (hlen : ∀ r, P r → (enc r).length = k.size)
      (hdec : ∀ r, P r → dec (enc r) = r) (rs : List α) (hrs : ∀ r ∈ rs, P r) :
      decodeItem d (k.typeByte :: (rs.map enc).flatten) = some (dappend d (mk rs).single) := by
    have hn : 0 < k.size := by cases k <;> decide
    rw [decodeItem_fixed hk, hmk, records_map_enc hn enc dec id P hlen hdec rs hrs, List.map_id]
  cases g with
  | withdrawal rs =>
    exact (decodeItem_withdrawal d _).trans (congrArg (Option.map _) (decWithdrawals_encode rs h.1 h.2))
  | gas rs => exact fixed .gas nofun .gas _ _ (fun _ => rfl) (fun r _ => encodeGas_length r) (fun _ => decGas_encodeGas) rs h
  | create rs =>
    exact fixed .create nofun .create _ _ (fun _ => rfl) (fun _ => encodeCreate_length) (fun _ => decCreate_encodeCreate) rs h
  | lock rs => exact fixed .lock nofun .lock _ _ (fun _ => rfl) (fun _ => encodeLock_length) (fun _ => decLock_encodeLock) rs h
  | unlock rs =>
    exact fixed .unlock nofun .unlock _ _ (fun _ => rfl) (fun _ => encodeUnlock_length) (fun _ => decUnlock_encodeUnlock) rs h
  | claim rs =>
    exact fixed .claim nofun .claim _ _ (fun _ => rfl) (fun _ => encodeClaim_length) (fun _ => decClaim_encodeClaim) rs h
  | grant rs =>
    exact fixed .grant nofun .grant _ _ (fun _ => rfl) (fun r _ => encodeGrant_length r) (fun _ => decGrant_encodeGrant) rs h
  | weight rs =>
    exact fixed .weight nofun .weight _ _ (fun _ => rfl) (fun _ => encodeWeight_length) (fun _ => decWeight_encodeWeight) rs h
  | threshold rs =>
    exact fixed .threshold nofun .threshold _ _ (fun _ => rfl) (fun _ => encodeThreshold_length)
      (fun _ => decThreshold_encodeThreshold) rs h
  | replaceByFee rs =>
    exact fixed .replaceByFee nofun .replaceByFee _ _ (fun _ => rfl) (fun r _ => encodeRbf_length r)
      (fun _ => decRbf_encodeRbf) rs h
  | cancel1 rs =>
    exact fixed .cancel1 nofun .cancel1 _ _ (fun _ => rfl) (fun r _ => encodeCancel1_length r)
      (fun _ => decCancel1_encodeCancel1) rs h
  | depositTax rs =>
    exact fixed .depositTax nofun .depositTax _ _ (fun _ => rfl) (fun r _ => encodeTax_length r) (fun _ => decTax_encodeTax) rs h
  | confirmation rs =>
    exact fixed .confirmation nofun .confirmation _ _ (fun _ => rfl) (fun r _ => encodeConf_length r)
      (fun _ => decConf_encodeConf) rs h
  | minDeposit rs =>
    exact fixed .minDeposit nofun .minDeposit _ _ (fun _ => rfl) (fun r _ => encodeMin_length r) (fun _ => decMin_encodeMin) rs h
  | addVoter rs =>
    exact fixed .addVoter nofun .addVoter _ _ (fun _ => rfl) (fun _ => encodeAddVoter_length)
      (fun _ => decAddVoter_encodeAddVoter) rs h
  | removeVoter rs =>
    exact fixed .removeVoter nofun .removeVoter _ _ (fun _ => rfl) (fun _ => encodeRemoveVoter_length)
      (fun r _ => decRemoveVoter_encodeRemoveVoter r) rs h

theorem decodeItems_groups : ∀ (gs : List Group) (d : Decoded), (∀ g ∈ gs, g.WF) →
    decodeItems d (gs.map Group.encode) = some (dappend d (collect gs)) := by
  intro gs
  induction gs with
  | nil => intro d _; exact congrArg some (dappend_empty_right d).symm
  | cons g gs ih =>
    intro d h
    simp only [List.map_cons, decodeItems, decodeItem_group d g (h g List.mem_cons_self)]
    rw [ih _ (fun x hx => h x (List.mem_cons_of_mem _ hx)), dappend_assoc, ← collect_cons]

/-- **decode_encode** (the whole list).  For every list of at most 255 well-formed groups (items of several
    types, several items of one type, in any order) the decoder accepts the list of their typed items and returns
    exactly the records, each field being the concatenation — in the order of the items — of the groups of its
    type. -/
theorem decode_encode (gs : List Group) (hn : gs.length ≤ 255) (h : ∀ g ∈ gs, g.WF) :
    decodeRequests (gs.map Group.encode) = some (collect gs) := by
  have : ¬ 255 < (gs.map Group.encode).length := by simp; omega
  rw [decodeRequests, if_neg this, decodeItems_groups gs _ h, dappend_empty_left]

theorem decode_encode_single (g : Group) (h : g.WF) : decodeRequests [g.encode] = some g.single :=
  (decode_encode [g] (by simp) (by simpa using h)).trans (congrArg some (collect_singleton g))

/-! one theorem per record type (instances of `decode_encode_single`) -/

theorem decode_encode_gas (rs : List GasRequest) (h : ∀ r ∈ rs, r.WF) :
    decodeRequests [encodeTyped 0 (rs.map encodeGas)] = some { locking := { gas := rs } } :=
  decode_encode_single (.gas rs) h
theorem decode_encode_create (rs : List CreateRequest) (h : ∀ r ∈ rs, r.WF) :
    decodeRequests [encodeTyped 1 (rs.map encodeCreate)] = some { locking := { creates := rs } } :=
  decode_encode_single (.create rs) h
theorem decode_encode_lock (rs : List LockRequest) (h : ∀ r ∈ rs, r.WF) :
    decodeRequests [encodeTyped 2 (rs.map encodeLock)] = some { locking := { locks := rs } } :=
  decode_encode_single (.lock rs) h
theorem decode_encode_unlock (rs : List UnlockRequest) (h : ∀ r ∈ rs, r.WF) :
    decodeRequests [encodeTyped 3 (rs.map encodeUnlock)] = some { locking := { unlocks := rs } } :=
  decode_encode_single (.unlock rs) h
theorem decode_encode_claim (rs : List ClaimRequest) (h : ∀ r ∈ rs, r.WF) :
    decodeRequests [encodeTyped 4 (rs.map encodeClaim)] = some { locking := { claims := rs } } :=
  decode_encode_single (.claim rs) h
/-- partial: only below 2^248 (see `decode_encode_grant_false`, `decode_encode_grant_mod`) -/
theorem decode_encode_grant_partial (rs : List GrantRequest) (h : ∀ r ∈ rs, r.amount < 2 ^ 248) :
    decodeRequests [encodeTyped 5 (rs.map encodeGrant)] = some { locking := { grants := rs } } :=
  decode_encode_single (.grant rs) h
theorem decode_encode_weight (rs : List UpdateTokenWeightRequest) (h : ∀ r ∈ rs, r.WF) :
    decodeRequests [encodeTyped 6 (rs.map encodeWeight)] = some { locking := { updateWeights := rs } } :=
  decode_encode_single (.weight rs) h
theorem decode_encode_threshold (rs : List UpdateTokenThresholdRequest) (h : ∀ r ∈ rs, r.WF) :
    decodeRequests [encodeTyped 7 (rs.map encodeThreshold)] = some { locking := { updateThresholds := rs } } :=
  decode_encode_single (.threshold rs) h
/-- partial: the last record of the item must have a non-empty address (see `decode_encode_withdrawal_false`) -/
theorem decode_encode_withdrawal_partial (rs : List WithdrawalRequest) (h : ∀ r ∈ rs, r.WF)
    (hl : ∀ r, rs.getLast? = some r → r.address ≠ []) :
    decodeRequests [encodeTyped 11 (rs.map encodeWithdrawal)] = some { bridge := { withdraws := rs } } :=
  decode_encode_single (.withdrawal rs) ⟨h, hl⟩
theorem decode_encode_rbf (rs : List ReplaceByFeeRequest) (h : ∀ r ∈ rs, r.WF) :
    decodeRequests [encodeTyped 12 (rs.map encodeRbf)] = some { bridge := { replaceByFees := rs } } :=
  decode_encode_single (.replaceByFee rs) h
theorem decode_encode_cancel1 (rs : List Cancel1Request) (h : ∀ r ∈ rs, r.WF) :
    decodeRequests [encodeTyped 13 (rs.map encodeCancel1)] = some { bridge := { cancel1s := rs } } :=
  decode_encode_single (.cancel1 rs) h
theorem decode_encode_tax (rs : List DepositTaxRequest) (h : ∀ r ∈ rs, r.WF) :
    decodeRequests [encodeTyped 14 (rs.map encodeTax)] = some { bridge := { depositTax := rs } } :=
  decode_encode_single (.depositTax rs) h
theorem decode_encode_conf (rs : List ConfirmationNumberRequest) (h : ∀ r ∈ rs, r.WF) :
    decodeRequests [encodeTyped 15 (rs.map encodeConf)] = some { bridge := { confirmation := rs } } :=
  decode_encode_single (.confirmation rs) h
theorem decode_encode_min (rs : List MinDepositRequest) (h : ∀ r ∈ rs, r.WF) :
    decodeRequests [encodeTyped 16 (rs.map encodeMin)] = some { bridge := { minDeposit := rs } } :=
  decode_encode_single (.minDeposit rs) h
theorem decode_encode_addVoter (rs : List AddVoterRequest) (h : ∀ r ∈ rs, r.WF) :
    decodeRequests [encodeTyped 20 (rs.map encodeAddVoter)] = some { relayer := { adds := rs } } :=
  decode_encode_single (.addVoter rs) h
theorem decode_encode_removeVoter (rs : List RemoveVoterRequest) (h : ∀ r ∈ rs, r.WF) :
    decodeRequests [encodeTyped 21 (rs.map encodeRemoveVoter)] = some { relayer := { removes := rs } } :=
  decode_encode_single (.removeVoter rs) h

/-! ### the two record types for which the full-strength round trip is FALSE -/

/-- Grants: `GrantRequest.Decode` reads `input[1:]`.  What is decoded from the encoding of ANY list of grants
    (amounts below 2^256, as `FillBytes` demands) is the amounts modulo 2^248. -/
theorem decode_encode_grant_mod (rs : List GrantRequest) :
    decodeRequests [encodeTyped 5 (rs.map encodeGrant)]
      = some { locking := { grants := rs.map fun r => { amount := r.amount % 2 ^ 248 } } } := by
  have hrec := records_map_enc (n := 32) (by decide) encodeGrant decGrant _ (fun _ => True)
    (fun r _ => encodeGrant_length r) (fun r _ => decGrant_encodeGrant_mod r) rs (fun _ _ => trivial)
  -- `decodeRequests` on a single item of type 5, by definition
  show some { Decoded.empty with locking.grants :=
      Decoded.empty.locking.grants ++ (records 32 (rs.map encodeGrant).flatten).map decGrant } = _
  rw [hrec]; rfl

/-- the negation of the full-strength statement for grants: 2^255 < 2^256 comes back as 0 -/
theorem decode_encode_grant_false :
    ¬ ∀ rs : List GrantRequest, (∀ r ∈ rs, r.amount < 2 ^ 256) →
      decodeRequests [encodeTyped 5 (rs.map encodeGrant)] = some { locking := { grants := rs } } := by
  intro h
  have := h [{ amount := 2 ^ 255 }] (by simp)
  rw [decode_encode_grant_mod] at this
  revert this; decide +kernel

/-- the negation of the full-strength statement for withdrawals: the library's own encoding of ONE withdrawal to
    the empty address is rejected (`bytes.Reader.Read` answers `io.EOF` for the zero-length address buffer). -/
theorem decode_encode_withdrawal_false :
    ¬ ∀ rs : List WithdrawalRequest, (∀ r ∈ rs, r.WF) →
      decodeRequests [encodeTyped 11 (rs.map encodeWithdrawal)] = some { bridge := { withdraws := rs } } := by
  intro h
  have := h [{ id := 1, amount := 2, txPrice := 3, address := [] }] (by
    intro r hr; simp at hr; subst hr; exact ⟨by decide, by decide, by decide, by decide⟩)
  revert this; decide +kernel

/-- a withdrawal body the loop rejects: complete records followed by 1..25 left-over bytes -/
def WithdrawalBodyBad (body : Bytes) : Prop :=
  ∃ (rs : List WithdrawalRequest) (tail : Bytes),
    (∀ r ∈ rs, r.WF) ∧ body = (rs.map encodeWithdrawal).flatten ++ tail ∧ tail ≠ [] ∧ tail.length ≤ 25

theorem headD_singleton {α} {l : List α} (h : l.length = 1) (d : α) : [l.headD d] = l :=
  match l, h with
  | [_], _ => rfl

theorem field_append_drop {α} (l : List α) (i n : Nat) : (l.drop i).take n ++ l.drop (i + n) = l.drop i := by
  rw [← List.drop_drop, List.take_append_drop]

theorem split25 (h : Bytes) (hh : h.length = 25) :
    h = h.take 8 ++ (h.drop 8).take 8 ++ (h.drop 16).take 8 ++ [(h.drop 24).headD 0] := by
  rw [List.append_assoc, List.append_assoc, headD_singleton (tail_length hh 24), field_append_drop h 16 8,
    field_append_drop h 8 8, List.take_append_drop]

/-- a decoded record whose address was completely there encodes back to the bytes it was read from -/
theorem encode_wdRecord (h rest : Bytes) (hh : h.length = 25) (hL : ((h.drop 24).headD 0).toNat ≤ rest.length) :
    encodeWithdrawal (wdRecord h rest) = h ++ rest.take ((h.drop 24).headD 0).toNat := by
  have l8 (i : Nat) (hi : i + 8 ≤ 25) : le64 (leToNat ((h.drop i).take 8)) = (h.drop i).take 8 :=
    le64_leToNat (field_length hh i 8 hi)
  rw [encodeWithdrawal, wdRecord, show le64 (leToNat (h.take 8)) = h.take 8 from l8 0 (by decide), l8 8 (by decide),
    l8 16 (by decide), readPad_of_le hL, List.length_take_of_le hL, UInt8.ofNat_toNat, ← split25 h hh]

theorem withdrawalsAux_none : ∀ (fuel : Nat) (bs : Bytes), withdrawalsAux fuel bs = none → WithdrawalBodyBad bs := by
  intro fuel
  induction fuel with
  | zero => intro bs h; exact nomatch h
  | succ f ih =>
    intro bs h
    by_cases hl : 25 < bs.length
    · rw [withdrawalsAux_long f hl, Option.map_eq_none_iff] at h
      obtain ⟨rs, tail, hwf, hbody, ht0, ht⟩ := ih _ h
      -- the address of the first record was completely there: something is left after it
      have hL : (((bs.take 25).drop 24).headD 0).toNat ≤ (bs.drop 25).length :=
        Nat.le_of_lt (Nat.lt_of_not_le fun hle =>
          ht0 (List.append_eq_nil_iff.mp (hbody.symm.trans (List.drop_of_length_le hle))).2)
      refine ⟨wdRecord (bs.take 25) (bs.drop 25) :: rs, tail, List.forall_mem_cons.mpr ⟨wdRecord_wf _ _, hwf⟩, ?_, ht0, ht⟩
      rw [List.map_cons, List.flatten_cons, encode_wdRecord _ _ (List.length_take_of_le (Nat.le_of_lt hl)) hL,
        List.append_assoc, List.append_assoc, ← hbody, List.take_append_drop, List.take_append_drop]
    · cases bs with
      | nil => rw [withdrawalsAux_nil] at h; exact nomatch h
      | cons b t => exact ⟨[], b :: t, nofun, rfl, List.cons_ne_nil b t, Nat.le_of_not_lt hl⟩

/-- complete records take fewer rounds than the bytes they and a non-empty tail occupy -/
theorem length_lt_flatten (rs : List WithdrawalRequest) {tail : Bytes} (h0 : tail ≠ []) :
    rs.length < ((rs.map encodeWithdrawal).flatten ++ tail).length := by
  have hne : ∀ l ∈ rs.map encodeWithdrawal, l ≠ [] := fun l hl e => by
    obtain ⟨r, _, rfl⟩ := List.mem_map.mp hl
    exact absurd (congrArg List.length e) (by rw [encodeWithdrawal_length, Nat.add_comm]; exact Nat.succ_ne_zero _)
  rw [List.length_append, ← List.length_map (f := encodeWithdrawal)]
  exact Nat.lt_of_le_of_lt (length_le_flatten hne) (Nat.lt_add_of_pos_right (List.length_pos_iff.mpr h0))

theorem decWithdrawals_none_iff (body : Bytes) : decWithdrawals body = none ↔ WithdrawalBodyBad body := by
  constructor
  · exact withdrawalsAux_none _ _
  · rintro ⟨rs, tail, hwf, rfl, ht0, ht⟩
    obtain ⟨k, hk⟩ := Nat.exists_eq_add_one_of_ne_zero (Nat.sub_ne_zero_of_lt (length_lt_flatten rs ht0))
    rw [decWithdrawals, withdrawalsAux_flatten tail rs hwf (fun e => absurd e ht0) _ (Nat.le_refl _), hk,
      withdrawalsAux_short _ tail ht0 ht]
    rfl

/-- an item the decoder rejects: empty; or an unknown type byte (whatever follows); or a withdrawal item whose
    body leaves 1 to 25 bytes after some complete records.  There is NO other error condition: the items of the
    fifteen fixed-size types are accepted whatever their body is. -/
def ItemRejected (item : Bytes) : Prop :=
  item = [] ∨ (∃ t body, item = t :: body ∧ t ∉ knownTypes) ∨ (∃ body, item = 11 :: body ∧ WithdrawalBodyBad body)

theorem itemRejected_cons (t : UInt8) (body : Bytes) :
    ItemRejected (t :: body) ↔ t ∉ knownTypes ∨ (t = 11 ∧ WithdrawalBodyBad body) := by
  simp only [ItemRejected, reduceCtorEq, false_or, List.cons.injEq]
  constructor
  · rintro (⟨_, _, ⟨rfl, rfl⟩, h⟩ | ⟨_, ⟨rfl, rfl⟩, h⟩)
    · exact Or.inl h
    · exact Or.inr ⟨rfl, h⟩
  · rintro (h | ⟨rfl, h⟩)
    · exact Or.inl ⟨_, _, ⟨rfl, rfl⟩, h⟩
    · exact Or.inr ⟨_, ⟨rfl, rfl⟩, h⟩

theorem decodeItem_none_iff (d : Decoded) (item : Bytes) : decodeItem d item = none ↔ ItemRejected item := by
  cases item with
  | nil => exact ⟨fun _ => Or.inl rfl, fun _ => rfl⟩
  | cons t body =>
    rw [itemRejected_cons]
    cases hk : kindOf t with
    | none => exact ⟨fun _ => Or.inl ((kindOf_eq_none_iff t).mp hk), fun _ => decodeItem_unknown hk d body⟩
    | some k =>
      have hmem := mem_knownTypes_of_kindOf hk
      obtain rfl := kindOf_eq_some hk
      by_cases hw : k = .withdrawal
      · subst hw
        rw [decodeItem_withdrawal, Option.map_eq_none_iff, decWithdrawals_none_iff]
        exact ⟨fun h => Or.inr ⟨rfl, h⟩, fun h => h.elim (absurd hmem) And.right⟩
      · rw [decodeItem_fixed hw]
        exact ⟨nofun, fun h => h.elim (absurd hmem) fun h => absurd (typeByte_injective (k' := .withdrawal) h.1) hw⟩

theorem decodeItems_none_iff : ∀ (reqs : List Bytes) (d : Decoded),
    decodeItems d reqs = none ↔ ∃ item ∈ reqs, ItemRejected item := by
  intro reqs
  induction reqs with
  | nil => intro d; simp [decodeItems]
  | cons it rest ih =>
    intro d
    cases h : decodeItem d it with
    | none =>
      simp only [decodeItems, h, true_iff]
      exact ⟨it, by simp, (decodeItem_none_iff d it).mp h⟩
    | some d' =>
      have hn : ¬ ItemRejected it := fun hr => by
        rw [(decodeItem_none_iff d it).mpr hr] at h; simp at h
      simp only [decodeItems, h, ih d', List.mem_cons, exists_eq_or_imp, hn, false_or]

/-- **decode_none_iff** — the complete characterisation of the rejected inputs: more than 255 items, or some item
    that is empty / of an unknown type / a withdrawal item with 1 to 25 left-over bytes. -/
theorem decode_none_iff (reqs : List Bytes) :
    decodeRequests reqs = none ↔ 255 < reqs.length ∨ ∃ item ∈ reqs, ItemRejected item := by
  by_cases h : 255 < reqs.length
  · simp [decodeRequests, h]
  · simp [decodeRequests, h, decodeItems_none_iff]

/-- **decode_total**: on every input the decoder either rejects or returns a value; it is rejected exactly in the
    cases of `decode_none_iff`, accepted in all others. -/
theorem decode_total (reqs : List Bytes) :
    (decodeRequests reqs = none ∧ (255 < reqs.length ∨ ∃ item ∈ reqs, ItemRejected item)) ∨
    (∃ d, decodeRequests reqs = some d ∧ reqs.length ≤ 255 ∧ ∀ item ∈ reqs, ¬ ItemRejected item) := by
  cases h : decodeRequests reqs with
  | none => exact Or.inl ⟨rfl, (decode_none_iff reqs).mp h⟩
  | some d =>
    refine Or.inr ⟨d, rfl, ?_⟩
    have : ¬ (255 < reqs.length ∨ ∃ item ∈ reqs, ItemRejected item) := fun hh => by
      rw [(decode_none_iff reqs).mpr hh] at h; simp at h
    simp only [not_or, not_exists, not_and] at this
    exact ⟨by omega, this.2⟩

theorem unknown_type_rejected (reqs : List Bytes) (t : UInt8) (body : Bytes) (ht : t ∉ knownTypes)
    (hmem : (t :: body) ∈ reqs) : decodeRequests reqs = none :=
  (decode_none_iff reqs).mpr (Or.inr ⟨_, hmem, Or.inr (Or.inl ⟨t, body, rfl, ht⟩)⟩)

theorem mem_knownTypes (t : UInt8) : t ∈ knownTypes ↔ t.toNat ∈ knownTypes.map UInt8.toNat :=
  ⟨List.mem_map_of_mem, fun h => by obtain ⟨u, hu, e⟩ := List.mem_map.mp h; exact UInt8.toNat_inj.mp e ▸ hu⟩

/-- the gaps of the numbering and everything from 22 on -/
theorem unknown_types (t : UInt8) : t ∉ knownTypes ↔ (8 ≤ t ∧ t ≤ 10) ∨ (17 ≤ t ∧ t ≤ 19) ∨ 22 ≤ t := by
  rw [mem_knownTypes]
  simp only [UInt8.le_iff_toNat_le]
  generalize t.toNat = n
  -- below 22 the table is compared entry by entry; from 22 on no entry is left
  by_cases h : n < 22
  · revert n; decide
  · have hL : ∀ x ∈ knownTypes.map UInt8.toNat, x < 22 := by decide
    exact ⟨fun _ => Or.inr (Or.inr (Nat.le_of_not_lt h)), fun _ hm => h (hL n hm)⟩

theorem empty_item_rejected (reqs : List Bytes) (hmem : [] ∈ reqs) : decodeRequests reqs = none :=
  (decode_none_iff reqs).mpr (Or.inr ⟨_, hmem, Or.inl rfl⟩)

theorem too_many_items_rejected (reqs : List Bytes) (h : 255 < reqs.length) : decodeRequests reqs = none :=
  (decode_none_iff reqs).mpr (Or.inl h)

/-- an item that is only a type byte (of a known type) is accepted and contributes nothing -/
theorem type_byte_only_accepted (d : Decoded) (k : Kind) : decodeItem d [k.typeByte] = some d := by
  have e : (groupOf k []).single = Decoded.empty := by cases k <;> rfl
  by_cases hw : k = .withdrawal
  · subst hw; exact (decodeItem_withdrawal d []).trans (congrArg some (dappend_empty_right d))
  · rw [decodeItem_fixed hw]
    exact congrArg some ((congrArg (dappend d) e).trans (dappend_empty_right d))

/-- the limit is sharp: 255 items are accepted -/
theorem max_items_accepted : decodeRequests (List.replicate 255 [13]) = some Decoded.empty := by
  have h13 : ∀ d, decodeItem d [13] = some d := fun d => type_byte_only_accepted d .cancel1
  have : ∀ n d, decodeItems d (List.replicate n [13]) = some d := by
    intro n
    induction n with
    | zero => intro d; rfl
    | succ n ih => intro d; simp only [List.replicate_succ, decodeItems, h13]; exact ih d
  rw [decodeRequests, if_neg (by rw [List.length_replicate]; omega), this]

end Goat.C19R

namespace Goat.Requests

/-- every decoded record is within the range of its Go type -/
def Decoded.WF (d : Decoded) : Prop :=
  (∀ r ∈ d.bridge.withdraws, r.WF) ∧ (∀ r ∈ d.bridge.replaceByFees, r.WF) ∧ (∀ r ∈ d.bridge.cancel1s, r.WF) ∧
  (∀ r ∈ d.bridge.depositTax, r.WF) ∧ (∀ r ∈ d.bridge.confirmation, r.WF) ∧ (∀ r ∈ d.bridge.minDeposit, r.WF) ∧
  (∀ r ∈ d.relayer.adds, r.WF) ∧ (∀ r ∈ d.relayer.removes, r.WF) ∧
  (∀ r ∈ d.locking.gas, r.WF) ∧ (∀ r ∈ d.locking.creates, r.WF) ∧ (∀ r ∈ d.locking.locks, r.WF) ∧
  (∀ r ∈ d.locking.unlocks, r.WF) ∧ (∀ r ∈ d.locking.claims, r.WF) ∧ (∀ r ∈ d.locking.grants, r.WF) ∧
  (∀ r ∈ d.locking.updateWeights, r.WF) ∧ (∀ r ∈ d.locking.updateThresholds, r.WF)

end Goat.Requests

namespace Goat.C19R
open Goat Goat.Requests

/-! ### a final record that is cut short -/

/-- the read loop on a body whose last record is cut short produces exactly the buffers of the body padded with
    zeros at the end up to the next record boundary -/
theorem records_truncated_eq {n : Nat} (hn : 0 < n) (cs : List Bytes) (hcs : ∀ c ∈ cs, c.length = n)
    (tail : Bytes) (h0 : tail ≠ []) (ht : tail.length < n) :
    records n (cs.flatten ++ tail) = records n (cs.flatten ++ (tail ++ zeros (n - tail.length))) := by
  have e : cs.flatten ++ (tail ++ zeros (n - tail.length)) = (cs ++ [tail ++ zeros (n - tail.length)]).flatten := by
    rw [List.flatten_append, List.flatten_singleton]
  rw [records_flatten_tail hn cs hcs tail h0 ht, e, records_flatten hn]
  refine forall_append hcs (List.forall_mem_singleton.mpr ?_)
  rw [List.length_append, zeros_length, Nat.add_sub_cancel' (Nat.le_of_lt ht)]

/-- **truncated_final_record** (the fifteen fixed-size record types).  An item whose body is complete records
    followed by a final record cut short to `tail` (1 ≤ |tail| < size) is ACCEPTED, and decodes exactly as the item
    whose final record is `tail` followed by zeros: the real library zero-pads (at the END of the record — the low
    end of a big-endian amount, the high end of a little-endian uint64) and reports no error. -/
theorem truncated_final_record (k : Kind) (hk : k ≠ .withdrawal) (d : Decoded) (cs : List Bytes)
    (hcs : ∀ c ∈ cs, c.length = k.size) (tail : Bytes) (h0 : tail ≠ []) (ht : tail.length < k.size) :
    decodeItem d (k.typeByte :: (cs.flatten ++ tail))
        = decodeItem d (k.typeByte :: (cs.flatten ++ (tail ++ zeros (k.size - tail.length))))
      ∧ (decodeItem d (k.typeByte :: (cs.flatten ++ tail))).isSome = true := by
  rw [decodeItem_fixed hk, decodeItem_fixed hk, records_truncated_eq (Nat.zero_lt_of_lt ht) cs hcs tail h0 ht]
  exact ⟨rfl, rfl⟩

/-- concrete: a cancel1 item with THREE bytes instead of eight is accepted; the id is the little-endian value of
    the three bytes (1 + 2·256 + 3·65536) -/
theorem truncated_final_record_example :
    decodeRequests [[13, 1, 2, 3]] = some { bridge := { cancel1s := [{ id := 197121 }] } } := by decide +kernel

/-- concrete: a gas item cut after the first byte of the amount: the amount byte 01 becomes the MOST significant
    byte, the amount is 2^248 -/
theorem truncated_final_record_example_gas :
    decodeRequests [[0, 5, 0, 0, 0, 0, 0, 0, 0, 1]] = some { locking := { gas := [{ height := 5, amount := 2 ^ 248 }] } } := by
  decide +kernel

/-- concrete: one complete confirmation-number record and a second one of a single byte -/
theorem truncated_final_record_example_two :
    decodeRequests [[15, 6, 0, 0, 0, 0, 0, 0, 0, 9]]
      = some { bridge := { confirmation := [{ number := 6 }, { number := 9 }] } } := by decide +kernel

/-- the withdrawal record, cut anywhere up to and including the end of its 25-byte header: REJECTED -/
theorem truncated_withdrawal_header_rejected (rs : List WithdrawalRequest) (hwf : ∀ r ∈ rs, r.WF)
    (tail : Bytes) (h0 : tail ≠ []) (ht : tail.length ≤ 25) :
    decWithdrawals ((rs.map encodeWithdrawal).flatten ++ tail) = none :=
  (decWithdrawals_none_iff _).mpr ⟨rs, tail, hwf, rfl, h0, ht⟩

/-- the withdrawal record, cut inside its address (at least one address byte left): ACCEPTED, the address is
    zero-padded at the end to the announced length -/
theorem truncated_withdrawal_address_padded (rs : List WithdrawalRequest) (hwf : ∀ r ∈ rs, r.WF)
    (h rest : Bytes) (hh : h.length = 25) (h0 : rest ≠ []) (hl : rest.length ≤ ((h.drop 24).headD 0).toNat) :
    decWithdrawals ((rs.map encodeWithdrawal).flatten ++ (h ++ rest)) = some (rs ++ [wdRecord h rest])
      ∧ (wdRecord h rest).address = rest ++ zeros (((h.drop 24).headD 0).toNat - rest.length) := by
  have hne : h ++ rest ≠ [] := fun e => h0 (List.append_eq_nil_iff.mp e).2
  obtain ⟨k, hk⟩ := Nat.exists_eq_add_one_of_ne_zero (Nat.sub_ne_zero_of_lt (length_lt_flatten rs hne))
  constructor
  · rw [decWithdrawals, withdrawalsAux_flatten (h ++ rest) rs hwf (fun e => absurd e hne) _ (Nat.le_refl _), hk,
      withdrawalsAux_step _ h rest hh h0, List.drop_of_length_le hl, withdrawalsAux_nil]
    rfl
  · exact readPad_of_lt hl

/-- the library's own encoding of a list of withdrawals that ENDS with a withdrawal to the empty address: REJECTED -/
theorem withdrawal_empty_address_last_rejected (rs : List WithdrawalRequest) (hwf : ∀ r ∈ rs, r.WF)
    (r : WithdrawalRequest) (ha : r.address = []) :
    decodeRequests [encodeTyped 11 ((rs ++ [r]).map encodeWithdrawal)] = none := by
  apply (decode_none_iff _).mpr
  refine Or.inr ⟨_, List.mem_singleton.mpr rfl,
    Or.inr (Or.inr ⟨((rs ++ [r]).map encodeWithdrawal).flatten, rfl, rs, wdHeader r, hwf, ?_, ?_, ?_⟩)⟩
  · simp [encodeWithdrawal_eq, ha]
  · intro e; have := congrArg List.length e; simp [wdHeader_length] at this
  · simp [wdHeader_length]

/-- …but in the MIDDLE of an item the empty address is fine -/
theorem withdrawal_empty_address_inside_accepted :
    decodeRequests [encodeTyped 11 ([{ id := 1, amount := 2, txPrice := 3, address := [] },
        { id := 4, amount := 5, txPrice := 6, address := [120] }].map encodeWithdrawal)]
      = some { bridge := { withdraws := [{ id := 1, amount := 2, txPrice := 3, address := [] },
        { id := 4, amount := 5, txPrice := 6, address := [120] }] } } := by decide +kernel

/-! ### the ranges of the decoded fields -/

theorem wf_dappend {a b : Decoded} (ha : a.WF) (hb : b.WF) : (dappend a b).WF := by
  obtain ⟨a1, a2, a3, a4, a5, a6, a7, a8, a9, a10, a11, a12, a13, a14, a15, a16⟩ := ha
  obtain ⟨b1, b2, b3, b4, b5, b6, b7, b8, b9, b10, b11, b12, b13, b14, b15, b16⟩ := hb
  exact ⟨forall_append a1 b1, forall_append a2 b2, forall_append a3 b3, forall_append a4 b4, forall_append a5 b5,
    forall_append a6 b6, forall_append a7 b7, forall_append a8 b8, forall_append a9 b9, forall_append a10 b10,
    forall_append a11 b11, forall_append a12 b12, forall_append a13 b13, forall_append a14 b14, forall_append a15 b15,
    forall_append a16 b16⟩

theorem withdrawal_single_wf {ws : List WithdrawalRequest} (h : ∀ r ∈ ws, r.WF) : (Group.withdrawal ws).single.WF := by
  simpa only [Decoded.WF, Group.single, forall_mem_nil_iff, and_true] using h

/-- full-size buffers decode to records within the ranges of their Go types -/
theorem groupOf_wf {k : Kind} {cs : List Bytes} (hcs : ∀ c ∈ cs, c.length = k.size) :
    (groupOf k cs).single.WF := by
  cases k <;> simp only [Decoded.WF, groupOf, Group.single, List.forall_mem_map, forall_mem_nil_iff, and_true, true_and]
  case gas => exact fun c hc => decGas_wf (hcs c hc)
  case create => exact fun c hc => decCreate_wf (hcs c hc)
  case lock => exact fun c hc => decLock_wf (hcs c hc)
  case unlock => exact fun c hc => decUnlock_wf (hcs c hc)
  case claim => exact fun c hc => decClaim_wf (hcs c hc)
  case grant => exact fun c hc => decGrant_wf (hcs c hc)
  case weight => exact fun c hc => decWeight_wf (hcs c hc)
  case threshold => exact fun c hc => decThreshold_wf (hcs c hc)
  case replaceByFee => exact fun c hc => decRbf_wf (hcs c hc)
  case cancel1 => exact fun c hc => decCancel1_wf (hcs c hc)
  case depositTax => exact fun c hc => decTax_wf (hcs c hc)
  case confirmation => exact fun c hc => decConf_wf (hcs c hc)
  case minDeposit => exact fun c hc => decMin_wf (hcs c hc)
  case addVoter => exact fun c hc => decAddVoter_wf (hcs c hc)
  case removeVoter => exact fun c hc => decRemoveVoter_wf (hcs c hc)

theorem decodeItem_wf (d d' : Decoded) (item : Bytes) (h : decodeItem d item = some d') (hd : d.WF) : d'.WF := by
  cases item with
  | nil => exact nomatch h
  | cons t body =>
    cases hk : kindOf t with
    | none => rw [decodeItem_unknown hk] at h; exact nomatch h
    | some k =>
      obtain rfl := kindOf_eq_some hk
      by_cases hw : k = .withdrawal
      · subst hw
        rw [decodeItem_withdrawal] at h
        obtain ⟨ws, hws, rfl⟩ := Option.map_eq_some_iff.mp h
        exact wf_dappend hd (withdrawal_single_wf (decWithdrawals_wf hws))
      · rw [decodeItem_fixed hw] at h
        exact Option.some.inj h ▸ wf_dappend hd (groupOf_wf (records_length_of_mem _ _))

theorem decodeItems_wf : ∀ (reqs : List Bytes) (d d' : Decoded), decodeItems d reqs = some d' → d.WF → d'.WF := by
  intro reqs
  induction reqs with
  | nil => intro d d' h hd; exact Option.some.inj h ▸ hd
  | cons it rest ih =>
    intro d d' h hd
    cases hi : decodeItem d it with
    | none => simp [decodeItems, hi] at h
    | some d1 =>
      simp only [decodeItems, hi] at h
      exact ih d1 d' h (decodeItem_wf d d1 it hi hd)

theorem empty_wf : Decoded.empty.WF := by
  simp only [Decoded.WF, Decoded.empty, forall_mem_nil_iff, and_self]

/-- **decode_length_bounds**.  Whatever the input, every field of every decoded record is within the range of its
    Go type: uint64 fields below 2^64; gas / lock / unlock / threshold amounts below 2^256 (grants below 2^248);
    addresses exactly 20 bytes, validator keys exactly 64, voter key hashes exactly 32; the withdrawal address at
    most 255 bytes (NOT 90).  (`Decoded.WF` spelled out by the `WF` of each record type.) -/
theorem decode_length_bounds (reqs : List Bytes) (d : Decoded) (h : decodeRequests reqs = some d) : d.WF := by
  unfold decodeRequests at h
  split at h
  · simp at h
  · exact decodeItems_wf reqs _ d h empty_wf

/-- the same, read off field by field for the amounts the locking module adds up -/
theorem decode_amount_bounds (reqs : List Bytes) (d : Decoded) (h : decodeRequests reqs = some d) :
    (∀ g ∈ d.locking.gas, g.height < 2 ^ 64 ∧ g.amount < 2 ^ 256) ∧
    (∀ l ∈ d.locking.locks, l.amount < 2 ^ 256) ∧
    (∀ u ∈ d.locking.unlocks, u.amount < 2 ^ 256) ∧
    (∀ g ∈ d.locking.grants, g.amount < 2 ^ 248) ∧
    (∀ t ∈ d.locking.updateThresholds, t.threshold < 2 ^ 256) ∧
    (∀ w ∈ d.bridge.withdraws, w.amount < 2 ^ 64 ∧ w.address.length ≤ 255) := by
  obtain ⟨h1, _, _, _, _, _, _, _, h9, _, h11, h12, _, h14, _, h16⟩ := decode_length_bounds reqs d h
  exact ⟨h9, fun l hl => (h11 l hl).2.2, fun u hu => (h12 u hu).2.2.2.2, h14, fun t ht => (h16 t ht).2,
    fun w hw => ⟨(h1 w hw).2.1, (h1 w hw).2.2.2⟩⟩

/-- The bound 2^256 is SHARP and is all there is: every amount below 2^256 — in particular 2^256 − 1 — is the
    decoded amount of a gas request, of a lock and of an unlock of an accepted list.  No smaller bound can be
    assumed downstream; this is where the overflow findings F12/F13 start (sums of such amounts in 256-bit
    `math.Int`s). -/
theorem amounts_reach_every_value (a : Nat) (ha : a < 2 ^ 256) :
    (∃ reqs d, decodeRequests reqs = some d ∧ ∃ g ∈ d.locking.gas, g.amount = a) ∧
    (∃ reqs d, decodeRequests reqs = some d ∧ ∃ l ∈ d.locking.locks, l.amount = a) ∧
    (∃ reqs d, decodeRequests reqs = some d ∧ ∃ u ∈ d.locking.unlocks, u.amount = a) := by
  refine ⟨⟨_, _, decode_encode_gas [{ height := 1, amount := a }] ?_, _, List.mem_singleton.mpr rfl, rfl⟩,
    ⟨_, _, decode_encode_lock [{ validator := zeros 20, token := zeros 20, amount := a }] ?_, _,
      List.mem_singleton.mpr rfl, rfl⟩,
    ⟨_, _, decode_encode_unlock
      [{ id := 1, validator := zeros 20, recipient := zeros 20, token := zeros 20, amount := a }] ?_, _,
      List.mem_singleton.mpr rfl, rfl⟩⟩
  · intro r hr; rw [List.mem_singleton.mp hr]; exact ⟨(by decide : (1 : Nat) < 2 ^ 64), ha⟩
  · intro r hr; rw [List.mem_singleton.mp hr]; exact ⟨rfl, rfl, ha⟩
  · intro r hr; rw [List.mem_singleton.mp hr]; exact ⟨(by decide : (1 : Nat) < 2 ^ 64), rfl, rfl, rfl, ha⟩

theorem amount_max_attained :
    ∃ reqs d, decodeRequests reqs = some d ∧ ∃ g ∈ d.locking.gas, g.amount = 2 ^ 256 - 1 :=
  (amounts_reach_every_value (2 ^ 256 - 1) (by decide)).1

/-- the withdrawal address is NOT limited to 90 bytes by the decoder: 255 are accepted -/
theorem withdrawal_address_255_accepted :
    decodeRequests [encodeTyped 11 [encodeWithdrawal { id := 1, amount := 2, txPrice := 3, address := List.replicate 255 97 }]]
      = some { bridge := { withdraws := [{ id := 1, amount := 2, txPrice := 3, address := List.replicate 255 97 }] } } := by
  have hlen : (List.replicate 255 (97 : UInt8)).length = 255 := List.length_replicate
  apply decode_encode_withdrawal_partial [_]
  · intro r hr; rw [List.mem_singleton.mp hr]
    exact ⟨by decide, by decide, by decide, Nat.le_of_eq hlen⟩
  · intro r hr e
    cases Option.some.inj hr
    exact absurd (hlen.symm.trans (congrArg List.length e)) (by decide)

/-! ### concrete examples -/

/-- a gas request: height 7, amount 1000 (= 0x03e8), byte by byte -/
theorem example_gas :
    decodeRequests [[0, 7, 0, 0, 0, 0, 0, 0, 0,
        0, 0, 0, 0, 0, 0, 0, 0, 0, 0, 0, 0, 0, 0, 0, 0, 0, 0, 0, 0, 0, 0, 0, 0, 0, 0, 0, 0, 0, 0, 3, 232]]
      = some { locking := { gas := [{ height := 7, amount := 1000 }] } } := by decide +kernel

theorem example_gas_encoding :
    encodeTyped 0 [encodeGas { height := 7, amount := 1000 }]
      = [0, 7, 0, 0, 0, 0, 0, 0, 0,
        0, 0, 0, 0, 0, 0, 0, 0, 0, 0, 0, 0, 0, 0, 0, 0, 0, 0, 0, 0, 0, 0, 0, 0, 0, 0, 0, 0, 0, 0, 3, 232] := by decide +kernel

/-- a withdrawal (id 1, amount 2, tx price 3) to the address "x" -/
theorem example_withdrawal :
    decodeRequests [[11, 1, 0, 0, 0, 0, 0, 0, 0, 2, 0, 0, 0, 0, 0, 0, 0, 3, 0, 0, 0, 0, 0, 0, 0, 1, 120]]
      = some { bridge := { withdraws := [{ id := 1, amount := 2, txPrice := 3, address := [120] }] } } := by decide +kernel

/-- the same bytes without the address byte: the length prefix announces one byte, none is left: rejected -/
theorem example_withdrawal_address_missing :
    decodeRequests [[11, 1, 0, 0, 0, 0, 0, 0, 0, 2, 0, 0, 0, 0, 0, 0, 0, 3, 0, 0, 0, 0, 0, 0, 0, 1]] = none := by decide +kernel

/-- the length prefix announces three bytes, one is there: accepted, address 78 00 00 -/
theorem example_withdrawal_address_padded :
    decodeRequests [[11, 1, 0, 0, 0, 0, 0, 0, 0, 2, 0, 0, 0, 0, 0, 0, 0, 3, 0, 0, 0, 0, 0, 0, 0, 3, 120]]
      = some { bridge := { withdraws := [{ id := 1, amount := 2, txPrice := 3, address := [120, 0, 0] }] } } := by decide +kernel

/-- two items of the same type with another one in between: the records are appended in the order of the items -/
theorem example_two_items_same_type :
    decodeRequests [[13, 1, 0, 0, 0, 0, 0, 0, 0], [15, 9, 0, 0, 0, 0, 0, 0, 0],
        [13, 2, 0, 0, 0, 0, 0, 0, 0, 3, 0, 0, 0, 0, 0, 0, 0]]
      = some { bridge := { cancel1s := [{ id := 1 }, { id := 2 }, { id := 3 }], confirmation := [{ number := 9 }] } } := by
  decide +kernel

theorem example_damaged_unknown_type : decodeRequests [[13, 1, 0, 0, 0, 0, 0, 0, 0], [9, 1, 2]] = none := by decide +kernel
theorem example_damaged_empty_item : decodeRequests [[13, 1, 0, 0, 0, 0, 0, 0, 0], []] = none := by decide +kernel
theorem example_damaged_type_17 : decodeRequests [[17]] = none := by decide +kernel
theorem example_type_byte_only : decodeRequests [[0], [11], [21]] = some Decoded.empty := by decide +kernel
theorem example_empty_list : decodeRequests [] = some Decoded.empty := by decide +kernel

/-- a grant of 2^256 − 1 (32 bytes ff) is decoded as 2^248 − 1 -/
theorem example_grant_top_byte_dropped :
    decodeRequests [encodeTyped 5 [encodeGrant { amount := 2 ^ 256 - 1 }]]
      = some { locking := { grants := [{ amount := 2 ^ 248 - 1 }] } } := by decide +kernel

/-- a validator key: the compressed form is 02/03 by the parity of the last byte, followed by x -/
theorem example_compress :
    compressPubkey (List.replicate 32 7 ++ List.replicate 31 0 ++ [5]) = 3 :: List.replicate 32 7 ∧
    compressPubkey (List.replicate 32 7 ++ List.replicate 31 0 ++ [4]) = 2 :: List.replicate 32 7 := by decide +kernel

/-! the rendering, on lines of the real decoder's trace (`kdrive -stream reqdecode -seed 7`) -/

#guard execRaw "-" ==
  "ok gasheights=- withdraws=- rbf=- cancel=- tax=- conf=- min=- adds=- removes=- gas=- grants=- weights=- thresholds=- creates=- locks=- unlocks=- claims=-"
#guard execRaw "1020ce0600000000000000000001000000" ==
  "ok gasheights=- withdraws=- rbf=- cancel=- tax=- conf=- min=445984,4294967296 adds=- removes=- gas=- grants=- weights=- thresholds=- creates=- locks=- unlocks=- claims=-"
#guard execRaw "065facb806ae28aa7c73b0a2c9856d6c335a4758d2ff00000000000000" ==
  "ok gasheights=- withdraws=- rbf=- cancel=- tax=- conf=- min=- adds=- removes=- gas=- grants=- weights=5facb806ae28aa7c73b0a2c9856d6c335a4758d2|255 thresholds=- creates=- locks=- unlocks=- claims=-"
#guard execRaw "0d0000000000000080,e" == "err"
#guard execRaw "0b0100000000000000020000000000000003000000000000000178,00070000000000000000000000000000000000000000000000000000000000000000000000000003e8" ==
  "ok gasheights=7 withdraws=1|2|3|78 rbf=- cancel=- tax=- conf=- min=- adds=- removes=- gas=1000 grants=- weights=- thresholds=- creates=- locks=- unlocks=- claims=-"
#guard execRaw "0b01000000000000000200000000000000030000000000000000040000000000000005000000000000000600000000000000017a" ==
  "ok gasheights=- withdraws=1|2|3|-,4|5|6|7a rbf=- cancel=- tax=- conf=- min=- adds=- removes=- gas=- grants=- weights=- thresholds=- creates=- locks=- unlocks=- claims=-"

end Goat.C19R
