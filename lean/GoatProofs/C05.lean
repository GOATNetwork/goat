/-
  C05 — withdrawals reach exactly one terminal outcome, paid within the user's terms.
  One call of the withdrawal handlers of `x/bitcoin/keeper/msg_server.go` (ProcessWithdrawal,
  FinalizeWithdrawal, ApproveCancellation): the status moves along the allowed edges only, and a payout
  is voted, within the user's terms and proven.  C05H follows the statuses over whole histories.
-/
import GoatModel.Bitcoin
import GoatProofs.Lemmas.BitcoinOps
import GoatProofs.C01
namespace Goat.C05
open Goat.Bitcoin

/-- reachability along the allowed status edges
    pending → canceling → processing → paid, pending → processing, canceling → canceled
    (reflexive-transitive closure, listed explicitly) -/
def Edge (a b : WStatus) : Prop :=
  a = b ∨ (a = .pending ∧ (b = .canceling ∨ b = .processing ∨ b = .canceled ∨ b = .paid)) ∨
  (a = .canceling ∧ (b = .processing ∨ b = .canceled ∨ b = .paid)) ∨ (a = .processing ∧ b = .paid)

/-- paid and cancelled are terminal: every edge but the reflexive one starts at `pending`, `canceling` or
    `processing` -/
theorem terminal_absorbing (a b : WStatus) (h : Edge a b) (ht : a = .paid ∨ a = .canceled) : b = a := by
  rcases h with h | ⟨rfl, _⟩ | ⟨rfl, _⟩ | ⟨rfl, _⟩
  · exact h.symm
  · simp at ht
  · simp at ht
  · simp at ht

/-- the listed edges are closed under composition: what `processing` reaches `canceling` reaches, what
    `canceling` reaches `pending` reaches, and nothing leads back -/
theorem Edge.trans {a b c : WStatus} (h1 : Edge a b) (h2 : Edge b c) : Edge a c := by
  rcases h1 with rfl | ⟨rfl, hb⟩ | ⟨rfl, hb⟩ | ⟨rfl, rfl⟩
  · exact h2
  · rcases h2 with rfl | ⟨rfl, _⟩ | ⟨rfl, hc⟩ | ⟨rfl, rfl⟩
    · exact Or.inr (Or.inl ⟨rfl, hb⟩)
    · simp at hb
    · exact Or.inr (Or.inl ⟨rfl, Or.inr hc⟩)
    · exact Or.inr (Or.inl ⟨rfl, Or.inr (Or.inr (Or.inr rfl))⟩)
  · rcases h2 with rfl | ⟨rfl, _⟩ | ⟨rfl, _⟩ | ⟨rfl, rfl⟩
    · exact Or.inr (Or.inr (Or.inl ⟨rfl, hb⟩))
    · simp at hb
    · simp at hb
    · exact Or.inr (Or.inr (Or.inl ⟨rfl, Or.inr (Or.inr rfl)⟩))
  · rw [terminal_absorbing _ _ h2 (Or.inl rfl)]
    exact Or.inr (Or.inr (Or.inr ⟨rfl, rfl⟩))

theorem edge_to_processing {a : WStatus} (h : a = .pending ∨ a = .canceling) : Edge a .processing :=
  h.elim (fun h => Or.inr (Or.inl ⟨h, Or.inr (Or.inl rfl)⟩)) (fun h => Or.inr (Or.inr (Or.inl ⟨h, Or.inl rfl⟩)))

theorem edge_processing_paid : Edge .processing .paid := Or.inr (Or.inr (Or.inr ⟨rfl, rfl⟩))

theorem edge_canceling_canceled : Edge .canceling .canceled := Or.inr (Or.inr (Or.inl ⟨rfl, Or.inr (Or.inl rfl)⟩))

theorem edge_pending_canceling : Edge .pending .canceling := Or.inr (Or.inl ⟨rfl, Or.inl rfl⟩)

/-- status of an id in a bridge state (none = unknown id) -/
def statusOf (s : State) (id : Nat) : Option WStatus := (nlookup s.withdrawals id).map (·.status)

/-- a step respects the edges: every known id keeps a status reachable by an allowed edge, and no
    known id disappears -/
def Respects (s s' : State) : Prop :=
  ∀ id st, statusOf s id = some st → ∃ st', statusOf s' id = some st' ∧ Edge st st'

theorem Respects.refl (s : State) : Respects s s := fun _ st h => ⟨st, h, Or.inl rfl⟩

theorem Respects.trans {a b c : State} (h1 : Respects a b) (h2 : Respects b c) : Respects a c := by
  intro id st h
  obtain ⟨st1, e1, g1⟩ := h1 id st h
  obtain ⟨st2, e2, g2⟩ := h2 id st1 e1
  exact ⟨st2, e2, g1.trans g2⟩

/-- updating one withdrawal along an allowed edge respects the edges -/
theorem respects_insert (s : State) (id : Nat) (w w' : Withdrawal) (hw : nlookup s.withdrawals id = some w)
    (he : Edge w.status w'.status) : Respects s { s with withdrawals := ninsert s.withdrawals id w' } := by
  intro j st h
  unfold statusOf at *
  simp only [nlookup_ninsert]
  by_cases hj : id = j
  · subst hj
    simp only [if_true, Option.map_some]
    rw [hw] at h
    simp only [Option.map_some, Option.some.injEq] at h
    exact ⟨w'.status, rfl, h ▸ he⟩
  · simp only [hj, if_false]
    exact ⟨st, h, Or.inl rfl⟩

/-- the terms a payout output must meet for a withdrawal: fee rate not above the user's maximum,
    the output script is exactly the script of the user's address, the value does not exceed the
    requested amount -/
def Terms (c : Crypto) (w : Withdrawal) (fee txLen : Nat) (out : BtcTx.TxOut) : Prop :=
  fee ≤ w.maxTxPrice * txLen ∧ c.decodeAddr w.address = some out.pkScript ∧ out.value ≤ w.requestAmount

theorem checkOutput_terms (c : Crypto) (w : Withdrawal) (fee txLen : Nat) (out : BtcTx.TxOut) :
    checkOutput c w fee txLen out = .ok () ↔ Terms c w fee txLen out := by
  unfold checkOutput Terms priceTooHigh
  by_cases h1 : fee > w.maxTxPrice * txLen
  · simp [h1] <;> omega
  · simp only [h1, decide_false, Bool.false_eq_true, if_false]
    cases hd : c.decodeAddr w.address with
    | none => simp
    | some sc =>
      simp only
      by_cases h2 : sc ≠ out.pkScript
      · simp [h2]
      · simp only [h2, if_false]
        have h2' : sc = out.pkScript := by simpa using h2
        by_cases h3 : w.requestAmount < out.value
        · simp [h3] <;> omega
        · simp [h3, h2'] <;> omega

/-- the processing loop looks every listed id up in the table it starts from (a repeated id would be met
    again as `processing` and refused): it is pending or cancel-requested there, and output `idx + k`
    meets its terms -/
theorem process_go_at {c : Crypto} {tx : Bytes} {fee : Nat} {outs : List BtcTx.TxOut} {txid : Bytes} :
    ∀ {ids : List Nat} {idx : Nat} {s : State} {vals : List Nat} {s' : State} {vals' : List Nat},
      processWithdrawal.go c tx fee outs txid ids idx s vals = .ok (s', vals') →
      ∀ k, (hk : k < ids.length) → ∃ w, nlookup s.withdrawals ids[k] = some w ∧
        (w.status = .pending ∨ w.status = .canceling) ∧ Terms c w fee tx.length (outs[idx + k]!)
  | [], _, _, _, _, _, _, k, hk => absurd hk (Nat.not_lt_zero k)
  | wid :: rest, idx, _, _, _, _, h, k, hk => by
    obtain ⟨w, hw, hstat, hc, h⟩ := processWithdrawal_go_cons h
    cases k with
    | zero => exact ⟨w, hw, hstat, (checkOutput_terms c w fee tx.length (outs[idx]!)).mp hc⟩
    | succ k =>
      have hk' : k < rest.length := Nat.lt_of_succ_lt_succ hk
      obtain ⟨w2, l2, s2, t2⟩ := process_go_at h k hk'
      rw [Nat.add_right_comm idx 1 k] at t2
      rw [nlookup_ninsert] at l2
      rw [List.getElem_cons_succ]
      by_cases hid : wid = rest[k]
      · rw [if_pos hid] at l2
        cases l2
        rcases s2 with s2 | s2 <;> cases s2
      · rw [if_neg hid] at l2
        exact ⟨w2, l2, s2, t2⟩

/-- what the processing loop writes: along the edges, every listed id ends `processing` with a receipt
    naming this transaction -/
theorem process_go_written {c : Crypto} {tx : Bytes} {fee : Nat} {outs : List BtcTx.TxOut} {txid : Bytes} :
    ∀ {ids : List Nat} {idx : Nat} {s : State} {vals : List Nat} {s' : State} {vals' : List Nat},
      processWithdrawal.go c tx fee outs txid ids idx s vals = .ok (s', vals') →
      Respects s s' ∧
      ∀ id ∈ ids, ∃ w', nlookup s'.withdrawals id = some w' ∧ w'.status = .processing ∧ ∃ r, w'.receipt = some r ∧ r.txid = txid
  | [], _, s, _, _, _, h => by
    simp only [processWithdrawal.go, Outcome.ok.injEq, Prod.mk.injEq] at h
    exact h.1 ▸ ⟨Respects.refl s, fun id hid => nomatch hid⟩
  | wid :: rest, _, s, _, _, _, h => by
    obtain ⟨w, hw, hstat, _, h⟩ := processWithdrawal_go_cons h
    obtain ⟨r1, r2⟩ := process_go_written h
    refine ⟨(respects_insert s wid w _ hw (edge_to_processing hstat)).trans r1, fun id hid => ?_⟩
    by_cases hin : id ∈ rest
    · exact r2 id hin
    · -- the entry written for `wid` is not touched again: a second occurrence would fail on `processing`
      obtain rfl : id = wid := (List.mem_cons.mp hid).resolve_right hin
      exact ⟨_, (processWithdrawal_go_other h hin).trans (nlookup_ninsert_same _ _ _), rfl, _, rfl, rfl⟩

/-- the processing loop: every id is taken from `pending`/`canceling` to `processing`, under the
    terms, with the receipt naming this transaction, the output position and its value -/
theorem process_go_spec (c : Crypto) (tx : Bytes) (fee : Nat) (outs : List BtcTx.TxOut) (txid : Bytes) :
    ∀ (ids : List Nat) (idx : Nat) (s : State) (vals : List Nat) (s' : State) (vals' : List Nat),
      processWithdrawal.go c tx fee outs txid ids idx s vals = .ok (s', vals') →
      Respects s s' ∧
      (∀ k, (hk : k < ids.length) → ∃ w, Terms c w fee tx.length (outs[idx + k]!) ∧
          (w.status = .pending ∨ w.status = .canceling) ∧ w.requestAmount ≥ (outs[idx + k]!).value) ∧
      (∀ id ∈ ids, ∃ w', nlookup s'.withdrawals id = some w' ∧ w'.status = .processing ∧ ∃ r, w'.receipt = some r ∧ r.txid = txid) ∧
      s'.queue = s.queue ∧ s'.processing = s.processing ∧ s'.params = s.params := by
  intro ids idx s vals s' vals' h
  have hf := processWithdrawal_go_frame h
  refine ⟨(process_go_written h).1, fun k hk => ?_, (process_go_written h).2, by rw [hf], by rw [hf], by rw [hf]⟩
  obtain ⟨w, _, st, t⟩ := process_go_at h k hk
  exact ⟨w, t, st, t.2.2⟩

/-- **A withdrawal becomes processing only through a quorum-voted Bitcoin transaction within the
    user's terms**: on success the vote is a genuine quorum over exactly (ids, tx hash, fee); the
    transaction has one output per withdrawal plus at most one extra output, which pays the current
    relayer key; every listed withdrawal was pending or cancel-requested and its output pays exactly
    the user's address script, at most the requested amount, at a fee rate within the user's
    maximum. -/
theorem process_terms (c : Crypto) (rc : Relayer.Crypto) (chainId : String) (rel : Relayer.State) (s : State)
    (vote : Relayer.VoteMsg) (hv : Bool) (ids : List Nat) (tx : Bytes) (fee : Nat) (r : Relayer.State × State)
    (h : processWithdrawal c rc chainId rel s vote hv ids tx fee = .ok r) :
    C01.Quorum rc chainId rel { vote with method := "Bitcoin/ProcessWithdrawal", sigDoc := (ids.map le64).flatten ++ rc.sha256 tx ++ le64 fee } ∧
    ∃ outs, BtcTx.parseNoWitness tx = some outs ∧ (outs.length = ids.length ∨ outs.length = ids.length + 1) ∧
      (∀ k, k < ids.length → ∃ w, Terms c w fee tx.length (outs[k]!) ∧ (w.status = .pending ∨ w.status = .canceling)) ∧
      Respects s r.2 ∧
      (outs.length = ids.length + 1 → verifySystemAddressScript c s.pubkey (outs[ids.length]!).pkScript = true) := by
  obtain ⟨_, _, _, _, _, _, outs, hparse, hlen, _, _, _, s1, vals, hgo, hch, rfl⟩ := processWithdrawal_ok h
  refine ⟨C01.processWithdrawal_needs_quorum c rc chainId rel s vote hv ids tx fee _ h, outs, hparse, hlen, ?_,
    (process_go_written hgo).1, ?_⟩
  · intro k hk
    obtain ⟨w, _, st, t⟩ := process_go_at hgo k hk
    rw [Nat.zero_add] at t
    exact ⟨w, t, st⟩
  · intro hl
    have hpk : s1.pubkey = s.pubkey := by rw [processWithdrawal_go_frame hgo]
    unfold changeOk at hch
    rwa [if_neg (by omega), hpk] at hch

/-- **Paid only on an SPV proof of a voted candidate**: a successful finalisation names a
    transaction id among the voted candidates (original or fee-bumped) of that processing record,
    under a header that double-hashes to the voted block hash of that height, with an accepted Merkle
    proof at a non-zero position. -/
theorem paid_terms (c : Crypto) (rel : Relayer.State) (s : State) (m : FinalizeMsg) (r : Relayer.State × State)
    (h : finalizeWithdrawal c rel s m = .ok r) :
    m.txIndex ≠ 0 ∧ m.header.length = 80 ∧
    ∃ p blockHash, nlookup s.processing m.pid = some p ∧ m.txid ∈ p.txids ∧
      nlookup s.hashes m.blockNumber = some blockHash ∧ blockHash = c.dsha256 m.header ∧
      Merkle.verify c.dsha256 m.txid ((m.header.drop 36).take 32) m.proof m.txIndex = true := by
  obtain ⟨_, h2, _, h3, _, _, p, idx, blockHash, hp, _, hidx, _, hbh, hhash, hspv, _⟩ := finalizeWithdrawal_ok h
  refine ⟨h2, h3, p, blockHash, hp, ?_, hbh, hhash, hspv⟩
  obtain ⟨hlt, hx, _⟩ := List.findIdx?_eq_some_iff_getElem.mp hidx
  rw [← eq_of_beq hx]
  exact List.getElem_mem _

theorem approve_go_respects : ∀ {l : List Nat} {a b : State}, approveCancellation.go l a = .ok b → Respects a b
  | [], a, _, h => by
    simp only [approveCancellation.go, Outcome.ok.injEq] at h
    exact h ▸ Respects.refl a
  | _ :: _, a, _, h => by
    obtain ⟨w, hw, hst, h⟩ := approveCancellation_go_cons h
    exact (respects_insert a _ w _ hw (hst ▸ edge_canceling_canceled)).trans (approve_go_respects h)

/-- **An approved cancellation moves along the edges and queues exactly the listed ids for refund**, in
    order, behind the refunds already queued; the paid queue is untouched.  (That each listed id was
    cancel-requested and becomes cancelled is `C05H.approve_step`.) -/
theorem approve_spec (rel : Relayer.State) (s : State) (proposer : String) (ids : List Nat) (r : Relayer.State × State)
    (h : approveCancellation rel s proposer ids = .ok r) :
    Respects s r.2 ∧ r.2.queue.rejected = s.queue.rejected ++ ids ∧ r.2.queue.paid = s.queue.paid := by
  obtain ⟨_, _, _, _, s1, hgo, rfl⟩ := approveCancellation_ok h
  have hq : s1.queue = s.queue := by rw [approveCancellation_go_frame hgo]
  have hr : Respects s s1 := approve_go_respects hgo
  exact ⟨hr, by simp only [hq], by simp only [hq]⟩

end Goat.C05
