/-
  C04 — why position binding is stated "… or a collision is exhibited".
  The idealisation "outputs are 32 bytes and the hash is injective on 64-byte inputs" is met by NO function
  (256^64 inputs, 256^32 outputs): a theorem assuming it would say nothing.  Proved here by the pigeonhole
  lemma of Lemmas/Bytes, so that the choice of statement in GoatProofs/C04.lean is itself machine-checked.
-/
import GoatProofs.C04
import GoatProofs.Lemmas.Bytes
namespace Goat.C04

/-- **no function meets the idealisation**: every `H` with 32-byte outputs has a collision on 64-byte inputs -/
theorem collision64_exists (H : Bytes → Bytes) (hH : Out32 H) : Collision64 H :=
  exists_collision_of_length_lt (by decide) H fun x _ => hH x

theorem idealHash_unsatisfiable (H : Bytes → Bytes) : ¬ IdealHash H :=
  fun h => h.no_collision (collision64_exists H h.out32)

end Goat.C04
