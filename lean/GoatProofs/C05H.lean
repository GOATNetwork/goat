/-
  C05H — the withdrawal life cycle over whole histories (completes C05).  Every entry point of the
  bitcoin keeper that can write `withdrawals` or queue a notice (the eight message handlers, the
  execution-layer requests, the dequeue) is a `Step`: along the status edges, with exactly the ids that
  become paid or cancelled queued for a 'paid' / 'refund' notice.  Along any list of such operations an
  id is then told 'paid' at most once or 'refund' at most once, never both (`C05_history`).
-/
import GoatModel.Bitcoin
import GoatProofs.Lemmas.BitcoinOps
import GoatProofs.Lemmas.BitcoinH
import GoatProofs.C01
import GoatProofs.C05
namespace Goat.C05H
open Goat.Bitcoin Goat.C05

/-- ids for which a 'paid' notice is queued for the execution layer -/
def paidNotices (s : State) : List Nat := s.queue.paid.map (·.1)
/-- ids for which a 'refund' notice is queued for the execution layer -/
def refundNotices (s : State) : List Nat := s.queue.rejected

/-- a step with its summary: edge-respecting, `P` newly paid, `R` newly cancelled, and exactly these
    notices appended to the queues -/
def Step (s s' : State) (P R : List Nat) : Prop :=
  Trans s s' P R ∧ paidNotices s' = paidNotices s ++ P ∧ refundNotices s' = refundNotices s ++ R

theorem Step.respects {s s' : State} {P R : List Nat} (h : Step s s' P R) : Respects s s' := h.1.1

/-- everything but the withdrawal table is untouched -/
def OnlyWithdrawals (a b : State) : Prop := b = { a with withdrawals := b.withdrawals }

theorem OnlyWithdrawals.queue {a b : State} (h : OnlyWithdrawals a b) : b.queue = a.queue := by
  unfold OnlyWithdrawals at h; rw [h]
theorem OnlyWithdrawals.processing {a b : State} (h : OnlyWithdrawals a b) : b.processing = a.processing := by
  unfold OnlyWithdrawals at h; rw [h]
theorem OnlyWithdrawals.pubkey {a b : State} (h : OnlyWithdrawals a b) : b.pubkey = a.pubkey := by
  unfold OnlyWithdrawals at h; rw [h]

/-- values of the outputs `idx, idx+1, …, idx+n-1` -/
def outVals (outs : List BtcTx.TxOut) : Nat → Nat → List Nat
  | _, 0 => []
  | idx, n + 1 => (outs[idx]!).value :: outVals outs (idx + 1) n

/-- two withdrawals with the same user terms (address, amount, maximal price) -/
def SameTerms (w w' : Withdrawal) : Prop :=
  w'.address = w.address ∧ w'.requestAmount = w.requestAmount ∧ w'.maxTxPrice = w.maxTxPrice

/-! ## ReplaceWithdrawal -/

/-- the fee-bump loop: every listed withdrawal is `processing`, its (current) terms are met by the
    matching output of the new transaction, only receipts are rewritten, and the values collected
    are the output values in order -/
theorem replace_go_spec (c : Crypto) (tx : Bytes) (fee : Nat) (outs : List BtcTx.TxOut) (txid : Bytes) :
    ∀ (l : List Nat) (idx : Nat) (a : State) (vals : List Nat) (b : State) (vals' : List Nat),
      replaceWithdrawal.go c tx fee outs txid l idx a vals = .ok (b, vals') →
      (∀ id, (nlookup a.withdrawals id = none → nlookup b.withdrawals id = none) ∧
        ∀ w, nlookup a.withdrawals id = some w → ∃ w', nlookup b.withdrawals id = some w' ∧ SameTerms w w' ∧ w'.status = w.status) ∧
      (∀ k, (hk : k < l.length) → ∃ w, nlookup a.withdrawals l[k] = some w ∧ w.status = .processing ∧
          Terms c w fee tx.length (outs[idx + k]!)) ∧
      vals' = vals.reverse ++ outVals outs idx l.length := by
  intro l
  induction l with
  | nil =>
    intro idx a vals b vals' h
    simp only [replaceWithdrawal.go, Outcome.ok.injEq, Prod.mk.injEq] at h
    obtain ⟨rfl, rfl⟩ := h
    exact ⟨fun id => ⟨fun h => h, fun w hw => ⟨w, hw, ⟨rfl, rfl, rfl⟩, rfl⟩⟩, fun k hk => absurd hk (Nat.not_lt_zero k),
      (List.append_nil _).symm⟩
  | cons wid rest ih =>
    intro idx a vals b vals' h
    obtain ⟨w, r, hw, hr, hst', hc, h⟩ := replaceWithdrawal_go_cons h
    have hterms := (checkOutput_terms c w fee tx.length (outs[idx]!)).mp hc
    obtain ⟨f2, f3, f4⟩ := ih (idx + 1) _ _ b vals' h
    refine ⟨fun id => ?_, fun k hk => ?_, ?_⟩
    · have g := f2 id
      rw [nlookup_ninsert] at g
      by_cases hid : wid = id
      · rw [if_pos hid] at g
        subst hid
        refine ⟨fun hn => (nomatch hw.symm.trans hn), fun w0 hw0 => ?_⟩
        obtain rfl : w = w0 := Option.some.inj (hw.symm.trans hw0)
        obtain ⟨w', e⟩ := g.2 _ rfl
        exact ⟨w', e⟩
      · rw [if_neg hid] at g
        exact g
    · cases k with
      | zero => exact ⟨w, hw, hst', hterms⟩
      | succ k' =>
        have hk' : k' < rest.length := Nat.lt_of_succ_lt_succ hk
        obtain ⟨w2, l2, s2, t2⟩ := f3 k' hk'
        rw [Nat.add_right_comm idx 1 k'] at t2
        rw [nlookup_ninsert] at l2
        rw [List.getElem_cons_succ]
        by_cases hid : wid = rest[k']
        · rw [if_pos hid] at l2
          cases l2
          exact ⟨w, hid ▸ hw, hst', t2⟩
        · rw [if_neg hid] at l2
          exact ⟨w2, l2, s2, t2⟩
    · rw [f4, List.reverse_cons, List.append_assoc]
      rfl

/-- the fee bump leaves every status as it is -/
theorem replace_go_status (c : Crypto) (tx : Bytes) (fee : Nat) (outs : List BtcTx.TxOut) (txid : Bytes)
    (l : List Nat) (idx : Nat) (a : State) (vals : List Nat) (b : State) (vals' : List Nat)
    (h : replaceWithdrawal.go c tx fee outs txid l idx a vals = .ok (b, vals')) (id : Nat) :
    statusOf b id = statusOf a id := by
  obtain ⟨f2, _, _⟩ := replace_go_spec c tx fee outs txid l idx a vals b vals' h
  unfold statusOf
  cases hl : nlookup a.withdrawals id with
  | none => rw [(f2 id).1 hl]
  | some w =>
    obtain ⟨w', e1, _, e3⟩ := (f2 id).2 w hl
    rw [e1]; simp [e3]

/-- **A fee bump is a quorum-voted, strictly higher-fee, new transaction within every user's current
    terms.**  On success: a genuine quorum over exactly (pid, fee, tx hash); the processing record
    exists, its recorded fee is strictly lower, the transaction id is not yet among its candidates;
    the transaction has one output per withdrawal of the record plus at most one extra output which
    pays the current relayer key; each withdrawal of the record is `processing` and its matching
    output pays exactly its address script, at most its requested amount, at a fee rate within its
    *current* maximum; the record gains exactly this candidate (id and output values); and no
    withdrawal changes status. -/
theorem replace_terms (c : Crypto) (rc : Relayer.Crypto) (chainId : String) (rel : Relayer.State) (s : State)
    (vote : Relayer.VoteMsg) (hv : Bool) (pid : Nat) (tx : Bytes) (fee : Nat) (r : Relayer.State × State)
    (h : replaceWithdrawal c rc chainId rel s vote hv pid tx fee = .ok r) :
    C01.Quorum rc chainId rel { vote with method := "Bitcoin/ReplaceWithdrawal", sigDoc := le64 pid ++ le64 fee ++ rc.sha256 tx } ∧
    ∃ outs p, BtcTx.parseNoWitness tx = some outs ∧ nlookup s.processing pid = some p ∧
      p.fee < fee ∧ c.dsha256 tx ∉ p.txids ∧
      (outs.length = p.withdrawals.length ∨ outs.length = p.withdrawals.length + 1) ∧
      (∀ k, (hk : k < p.withdrawals.length) → ∃ w, nlookup s.withdrawals p.withdrawals[k] = some w ∧
          w.status = .processing ∧ Terms c w fee tx.length (outs[k]!)) ∧
      (outs.length = p.withdrawals.length + 1 → verifySystemAddressScript c s.pubkey (outs[p.withdrawals.length]!).pkScript = true) ∧
      r.2.processing = ninsert s.processing pid
        { p with fee := fee, txids := p.txids ++ [c.dsha256 tx], outputs := p.outputs ++ [outVals outs 0 p.withdrawals.length] } ∧
      (∀ id, statusOf r.2 id = statusOf s id) ∧
      (∀ id w, nlookup s.withdrawals id = some w → ∃ w', nlookup r.2.withdrawals id = some w' ∧ SameTerms w w' ∧ w'.status = w.status) ∧
      r.2.queue = s.queue := by
  refine ⟨C01.replaceWithdrawal_needs_quorum c rc chainId rel s vote hv pid tx fee r h, ?_⟩
  obtain ⟨_, _, _, _, outs, p, hparse, hp, hfee, hnew, hlen, _, _, _, s1, vals, hgo, hch, rfl⟩ := replaceWithdrawal_ok h
  obtain ⟨g2, g3, g4⟩ := replace_go_spec c tx fee outs (c.dsha256 tx) p.withdrawals 0 s [] s1 vals hgo
  have g1 : OnlyWithdrawals s s1 := replaceWithdrawal_go_frame hgo
  refine ⟨outs, p, hparse, hp, hfee, by simpa using hnew, hlen, ?_, ?_, ?_, ?_, ?_, ?_⟩
  · intro k hk
    obtain ⟨w, e1, e2, e3⟩ := g3 k hk
    rw [Nat.zero_add] at e3
    exact ⟨w, e1, e2, e3⟩
  · intro hl
    unfold changeOk at hch
    rwa [if_neg (by omega), g1.pubkey] at hch
  · simp only [g1.processing, g4, List.reverse_nil, List.nil_append]
  · intro id
    have := replace_go_status c tx fee outs (c.dsha256 tx) p.withdrawals 0 s [] s1 vals hgo id
    rw [← this]; rfl
  · intro id w hw
    exact (g2 id).2 w hw
  · exact g1.queue

/-- **ReplaceWithdrawal step**: identity on statuses, no notice appended -/
theorem replace_step (c : Crypto) (rc : Relayer.Crypto) (chainId : String) (rel : Relayer.State) (s : State)
    (vote : Relayer.VoteMsg) (hv : Bool) (pid : Nat) (tx : Bytes) (fee : Nat) (r : Relayer.State × State)
    (h : replaceWithdrawal c rc chainId rel s vote hv pid tx fee = .ok r) : Step s r.2 [] [] := by
  obtain ⟨_, outs, p, _, _, _, _, _, _, _, _, hst, _, hq⟩ := replace_terms c rc chainId rel s vote hv pid tx fee r h
  exact ⟨Trans.of_status_eq hst, by simp [paidNotices, hq], by simp [refundNotices, hq]⟩

theorem replace_respects (c : Crypto) (rc : Relayer.Crypto) (chainId : String) (rel : Relayer.State) (s : State)
    (vote : Relayer.VoteMsg) (hv : Bool) (pid : Nat) (tx : Bytes) (fee : Nat) (r : Relayer.State × State)
    (h : replaceWithdrawal c rc chainId rel s vote hv pid tx fee = .ok r) : Respects s r.2 :=
  (replace_step c rc chainId rel s vote hv pid tx fee r h).respects

/-! ## ProcessWithdrawal -/

/-- the processing loop makes nothing terminal, and the values collected are the output values in order -/
theorem process_go_trans (c : Crypto) (tx : Bytes) (fee : Nat) (outs : List BtcTx.TxOut) (txid : Bytes) :
    ∀ (l : List Nat) (idx : Nat) (a : State) (vals : List Nat) (b : State) (vals' : List Nat),
      processWithdrawal.go c tx fee outs txid l idx a vals = .ok (b, vals') →
      Trans a b [] [] ∧ vals' = vals.reverse ++ outVals outs idx l.length := by
  intro l
  induction l with
  | nil =>
    intro idx a vals b vals' h
    simp only [processWithdrawal.go, Outcome.ok.injEq, Prod.mk.injEq] at h
    obtain ⟨rfl, rfl⟩ := h
    exact ⟨Trans.refl _, (List.append_nil _).symm⟩
  | cons wid rest ih =>
    intro idx a vals b vals' h
    obtain ⟨w, hw, hstat, _, h⟩ := processWithdrawal_go_cons h
    obtain ⟨f2, f4⟩ := ih (idx + 1) _ _ b vals' h
    refine ⟨Trans.comp_nil (trans_update_same hw rfl (edge_to_processing hstat) (Or.inr ⟨by simp, by simp⟩)) f2, ?_⟩
    rw [f4, List.reverse_cons, List.append_assoc]
    rfl

/-- **ProcessWithdrawal step**: respects the edges, no notice is appended, nothing becomes terminal.
    Linked form of `process_terms`: the k-th listed id is a pending or cancel-requested withdrawal of
    the state and output k meets *its* terms; the new processing record holds the transaction id and
    the output values. -/
theorem process_step (c : Crypto) (rc : Relayer.Crypto) (chainId : String) (rel : Relayer.State) (s : State)
    (vote : Relayer.VoteMsg) (hv : Bool) (ids : List Nat) (tx : Bytes) (fee : Nat) (r : Relayer.State × State)
    (h : processWithdrawal c rc chainId rel s vote hv ids tx fee = .ok r) :
    Step s r.2 [] [] ∧ r.2.queue = s.queue ∧
    ∃ outs, BtcTx.parseNoWitness tx = some outs ∧
      (∀ k, (hk : k < ids.length) → ∃ w, nlookup s.withdrawals ids[k] = some w ∧
          (w.status = .pending ∨ w.status = .canceling) ∧ Terms c w fee tx.length (outs[k]!)) ∧
      r.2.processing = ninsert s.processing s.processId
        { txids := [c.dsha256 tx], outputs := [outVals outs 0 ids.length], withdrawals := ids, fee := fee } := by
  obtain ⟨_, _, _, _, _, _, outs, hparse, _, _, _, _, s1, vals, hgo, _, rfl⟩ := processWithdrawal_ok h
  obtain ⟨g2, g4⟩ := process_go_trans c tx fee outs (c.dsha256 tx) ids 0 s [] s1 vals hgo
  have hf := processWithdrawal_go_frame hgo
  have hq : s1.queue = s.queue := by rw [hf]
  refine ⟨⟨g2.congr rfl rfl, ?_, ?_⟩, hq, outs, hparse, ?_, ?_⟩
  · simp [paidNotices, hq]
  · simp [refundNotices, hq]
  · intro k hk
    obtain ⟨w, e1, e2, e3⟩ := process_go_at hgo k hk
    rw [Nat.zero_add] at e3
    exact ⟨w, e1, e2, e3⟩
  · rw [g4, hf]
    rfl

theorem process_respects (c : Crypto) (rc : Relayer.Crypto) (chainId : String) (rel : Relayer.State) (s : State)
    (vote : Relayer.VoteMsg) (hv : Bool) (ids : List Nat) (tx : Bytes) (fee : Nat) (r : Relayer.State × State)
    (h : processWithdrawal c rc chainId rel s vote hv ids tx fee = .ok r) : Respects s r.2 :=
  (process_step c rc chainId rel s vote hv ids tx fee r h).1.respects

/-! ## FinalizeWithdrawal -/

/-- the finalisation loop: every listed withdrawal goes processing → paid and gets, in the same
    iteration, one paid notice carrying the proven transaction id and the recorded output value -/
theorem finalize_go_spec (m : FinalizeMsg) (vals : List Nat) :
    ∀ (l : List Nat) (i : Nat) (a b : State), finalizeWithdrawal.go m vals l i a = .ok b →
      Trans a b l [] ∧
      ∃ extra : List (Nat × Receipt), b.queue.paid = a.queue.paid ++ extra ∧ extra.map (·.1) = l ∧
        ∀ k, (hk : k < extra.length) → (extra[k]).2.txid = m.txid ∧ (extra[k]).2.amount = vals[i + k]! := by
  intro l
  induction l with
  | nil =>
    intro i a b h
    simp only [finalizeWithdrawal.go, Outcome.ok.injEq] at h
    subst h
    exact ⟨Trans.refl _, [], (List.append_nil _).symm, rfl, fun k hk => absurd hk (Nat.not_lt_zero k)⟩
  | cons wid rest ih =>
    intro i a b h
    obtain ⟨w, r, hw, hst', hr, h⟩ := finalizeWithdrawal_go_cons h
    obtain ⟨f2, extra, f3, f4, f5⟩ := ih (i + 1) _ b h
    refine ⟨?_, (wid, { r with txid := m.txid, amount := vals[i]! }) :: extra, ?_, ?_, ?_⟩
    · exact (trans_update_paid hw rfl (hst' ▸ edge_processing_paid) rfl (by rw [hst']; simp)).comp f2
    · rw [f3, List.append_assoc]
      rfl
    · rw [List.map_cons, f4]
    · intro k hk
      cases k with
      | zero => exact ⟨rfl, rfl⟩
      | succ k' =>
        have := f5 k' (Nat.lt_of_succ_lt_succ hk)
        rw [Nat.add_assoc, Nat.add_comm 1 k'] at this
        exact this

/-- **FinalizeWithdrawal step and notices**: the processing record `p` exists; exactly the
    withdrawals of `p` become paid (they were all `processing`), each gets exactly one paid notice
    appended in this step, in order, carrying the proven transaction id and the output value recorded
    for that candidate; no refund notice is appended. -/
theorem finalize_step (c : Crypto) (rel : Relayer.State) (s : State) (m : FinalizeMsg) (r : Relayer.State × State)
    (h : finalizeWithdrawal c rel s m = .ok r) :
    ∃ p idx, nlookup s.processing m.pid = some p ∧ p.txids.findIdx? (· == m.txid) = some idx ∧
      Step s r.2 p.withdrawals [] ∧
      ∃ extra : List (Nat × Receipt), r.2.queue.paid = s.queue.paid ++ extra ∧ extra.map (·.1) = p.withdrawals ∧
        (∀ k, (hk : k < extra.length) → (extra[k]).2.txid = m.txid ∧ (extra[k]).2.amount = (p.outputs[idx]!)[k]!) ∧
        r.2.queue.rejected = s.queue.rejected := by
  obtain ⟨_, _, _, _, _, _, p, idx, _, hp, _, hidx, _, _, _, _, s1, hgo, rfl⟩ := finalizeWithdrawal_ok h
  obtain ⟨g2, extra, g3, g4, g5⟩ := finalize_go_spec m _ _ _ _ _ hgo
  have hrej : s1.queue.rejected = s.queue.rejected := by rw [finalizeWithdrawal_go_frame hgo]
  refine ⟨p, idx, hp, hidx, ⟨g2.congr rfl rfl, ?_, ?_⟩, extra, g3, g4, ?_, hrej⟩
  · show List.map (·.1) s1.queue.paid = List.map (·.1) s.queue.paid ++ p.withdrawals
    rw [g3, List.map_append, g4]
  · simpa [refundNotices] using hrej
  · intro k hk
    have := g5 k hk
    rw [Nat.zero_add] at this
    exact this

theorem finalize_respects (c : Crypto) (rel : Relayer.State) (s : State) (m : FinalizeMsg) (r : Relayer.State × State)
    (h : finalizeWithdrawal c rel s m = .ok r) : Respects s r.2 := by
  obtain ⟨_, _, _, _, hs, _⟩ := finalize_step c rel s m r h
  exact hs.respects

/-! ## ApproveCancellation -/

theorem approve_go_spec : ∀ {l : List Nat} {a b : State}, approveCancellation.go l a = .ok b → Trans a b [] l
  | [], a, _, h => by
    simp only [approveCancellation.go, Outcome.ok.injEq] at h
    exact h ▸ Trans.refl a
  | _ :: _, _, _, h => by
    obtain ⟨w, hw, hst', h⟩ := approveCancellation_go_cons h
    exact (trans_update_canceled hw rfl (hst' ▸ edge_canceling_canceled) rfl (by rw [hst']; simp)).comp (approve_go_spec h)

/-- **ApproveCancellation step and notices**: exactly the listed ids become cancelled (they were all
    cancel-requested, hence pairwise distinct), each gets exactly one refund notice appended in this
    step; no paid notice is appended. -/
theorem approve_step (rel : Relayer.State) (s : State) (proposer : String) (ids : List Nat) (r : Relayer.State × State)
    (h : approveCancellation rel s proposer ids = .ok r) : Step s r.2 [] ids := by
  obtain ⟨_, _, _, _, s1, hgo, rfl⟩ := approveCancellation_ok h
  have hq : s1.queue = s.queue := by rw [approveCancellation_go_frame hgo]
  refine ⟨(approve_go_spec hgo).congr rfl rfl, ?_, ?_⟩
  · simp [paidNotices, hq]
  · simp [refundNotices, hq]

theorem approve_respects (rel : Relayer.State) (s : State) (proposer : String) (ids : List Nat) (r : Relayer.State × State)
    (h : approveCancellation rel s proposer ids = .ok r) : Respects s r.2 :=
  (approve_step rel s proposer ids r h).respects

/-! ## ProcessBridgeRequest (execution-layer requests: creation, fee update, cancel request) -/

/-- the record written for a creation request -/
def createdRecord (c : Crypto) (v : WithdrawReq) : Withdrawal :=
  { address := v.address, requestAmount := v.amount, maxTxPrice := v.txPrice,
    status := if (c.decodeAddr v.address).isSome then .pending else .canceled, receipt := none }

/-- ids of the creation requests whose address does not decode (refunded at creation) -/
def badIds (c : Crypto) (ws : List WithdrawReq) : List Nat :=
  (ws.filter (fun v => !(c.decodeAddr v.address).isSome)).map (·.id)

theorem badIds_cons_valid (c : Crypto) (v : WithdrawReq) (rest : List WithdrawReq)
    (h : (c.decodeAddr v.address).isSome = true) : badIds c (v :: rest) = badIds c rest := by
  unfold badIds; rw [List.filter_cons]; simp only [h, Bool.not_true, Bool.false_eq_true, if_false]

theorem badIds_cons_invalid (c : Crypto) (v : WithdrawReq) (rest : List WithdrawReq)
    (h : (c.decodeAddr v.address).isSome = false) : badIds c (v :: rest) = v.id :: badIds c rest := by
  unfold badIds; rw [List.filter_cons]; simp only [h, Bool.not_false, if_true, List.map_cons]

/-- **environment hypothesis of C05**: the execution layer hands out fresh withdrawal ids — the ids
    of the creation requests are unknown to the bridge and pairwise distinct within one request list -/
def Fresh (s : State) (r : BridgeReqs) : Prop :=
  (∀ v ∈ r.withdraws, nlookup s.withdrawals v.id = none) ∧ (r.withdraws.map (·.id)).Nodup

/-- the refunds queued by the creation fold: the ids whose address does not decode, in request order -/
theorem create_fold_refunds (c : Crypto) : ∀ (ws : List WithdrawReq) (acc : List (Nat × Withdrawal) × List Nat),
    (ws.foldl (createStep c) acc).2 = acc.2 ++ badIds c ws := by
  intro ws
  induction ws with
  | nil => intro acc; exact (List.append_nil _).symm
  | cons v rest ih =>
    intro acc
    rw [List.foldl_cons, ih]
    cases hval : (c.decodeAddr v.address).isSome with
    | true => rw [badIds_cons_valid c v rest hval]; simp [createStep, hval]
    | false => rw [badIds_cons_invalid c v rest hval]; simp [createStep, hval]

/-- the table built by the creation fold under the fresh-id hypothesis -/
theorem create_fold_spec (c : Crypto) (s0 : State) :
    ∀ (ws : List WithdrawReq) (acc : List (Nat × Withdrawal) × List Nat),
      (∀ v ∈ ws, nlookup acc.1 v.id = none) → (ws.map (·.id)).Nodup →
      Trans { s0 with withdrawals := acc.1 } { s0 with withdrawals := (ws.foldl (createStep c) acc).1 } [] (badIds c ws) ∧
      (∀ v ∈ ws, nlookup (ws.foldl (createStep c) acc).1 v.id = some (createdRecord c v)) ∧
      (∀ id, (∀ v ∈ ws, v.id ≠ id) → nlookup (ws.foldl (createStep c) acc).1 id = nlookup acc.1 id) := by
  intro ws
  induction ws with
  | nil =>
    intro acc _ _
    exact ⟨Trans.refl _, fun v hv => (nomatch hv), fun id _ => rfl⟩
  | cons v rest ih =>
    intro acc hfresh hnd
    rw [List.foldl_cons]
    obtain ⟨hv, hnd'⟩ := List.nodup_cons.mp hnd
    have hne : ∀ u ∈ rest, v.id ≠ u.id := fun u hu e => hv (List.mem_map.mpr ⟨u, hu, e.symm⟩)
    have hfresh' : ∀ u ∈ rest, nlookup (createStep c acc v).1 u.id = none := fun u hu =>
      (nlookup_ninsert_other _ _ _ _ (hne u hu)).trans (hfresh u (List.mem_cons_of_mem _ hu))
    obtain ⟨f1, f3, f4⟩ := ih (createStep c acc v) hfresh' hnd'
    have hvfresh : nlookup acc.1 v.id = none := hfresh v (List.mem_cons_self ..)
    refine ⟨?_, ?_, ?_⟩
    · cases hval : (c.decodeAddr v.address).isSome with
      | true =>
        rw [badIds_cons_valid c v rest hval]
        exact Trans.comp_nil (trans_create_pending hvfresh rfl (by simp [hval])) f1
      | false =>
        rw [badIds_cons_invalid c v rest hval]
        exact (trans_create_canceled hvfresh rfl (by simp [hval])).comp f1
    · intro u hu
      rcases List.mem_cons.mp hu with rfl | hu
      · exact (f4 u.id (fun u' hu' e => hne u' hu' e.symm)).trans (nlookup_ninsert_same _ _ _)
      · exact f3 u hu
    · intro id hid
      exact (f4 id (fun u hu => hid u (List.mem_cons_of_mem _ hu))).trans
        (nlookup_ninsert_other _ _ _ _ (hid v (List.mem_cons_self ..)))

/-- the fee-update loop: only `maxTxPrice` changes, and only of withdrawals that are pending **or
    processing** (the Go code deliberately lets a user raise the price of a withdrawal in
    processing so that the relayer can bump the fee) -/
theorem rbf_go_spec : ∀ (l : List (Nat × Nat)) (a b : State), processBridgeRequest.goRbf l a = .ok b →
    ∀ id, (nlookup a.withdrawals id = none → nlookup b.withdrawals id = none) ∧
      ∀ w, nlookup a.withdrawals id = some w → ∃ w', nlookup b.withdrawals id = some w' ∧
        w' = { w with maxTxPrice := w'.maxTxPrice } ∧
        (w'.maxTxPrice ≠ w.maxTxPrice → (w.status = .pending ∨ w.status = .processing) ∧ (id, w'.maxTxPrice) ∈ l) := by
  intro l
  induction l with
  | nil =>
    intro a b h
    simp only [processBridgeRequest.goRbf, Outcome.ok.injEq] at h
    subst h
    exact fun id => ⟨fun h => h, fun w hw => ⟨w, hw, rfl, fun hne => absurd rfl hne⟩⟩
  | cons x rest ih =>
    intro a b h id
    obtain ⟨xid, price⟩ := x
    -- what the rest of the list does to `id`
    have later : ∀ {a' : State}, processBridgeRequest.goRbf rest a' = .ok b → ∀ w, nlookup a'.withdrawals id = some w →
        ∃ w', nlookup b.withdrawals id = some w' ∧ w' = { w with maxTxPrice := w'.maxTxPrice } ∧
          (w'.maxTxPrice ≠ w.maxTxPrice → (w.status = .pending ∨ w.status = .processing) ∧ (id, w'.maxTxPrice) ∈ (xid, price) :: rest) := by
      intro a' h' w hw
      obtain ⟨w', e1, e2, e3⟩ := (ih a' b h' id).2 w hw
      exact ⟨w', e1, e2, fun hne => ⟨(e3 hne).1, List.mem_cons_of_mem _ (e3 hne).2⟩⟩
    obtain ⟨w, hw, ⟨_, h⟩ | ⟨hst', h⟩⟩ := processBridgeRequest_goRbf_cons h
    · exact ⟨(ih a b h id).1, later h⟩
    · by_cases hid : xid = id
      · subst hid
        have g := (ih _ b h xid).2 _ (nlookup_ninsert_same _ _ _)
        refine ⟨fun hn => (nomatch hw.symm.trans hn), fun w0 hw0 => ?_⟩
        obtain rfl : w = w0 := Option.some.inj (hw.symm.trans hw0)
        obtain ⟨w', e1, e2, e3⟩ := g
        refine ⟨w', e1, e2, fun _ => ⟨hst', ?_⟩⟩
        by_cases hpr : w'.maxTxPrice = price
        · exact hpr ▸ List.mem_cons_self ..
        · exact List.mem_cons_of_mem _ (e3 hpr).2
      · have e : nlookup (ninsert a.withdrawals xid { w with maxTxPrice := price }) id = nlookup a.withdrawals id :=
          nlookup_ninsert_other _ _ _ _ hid
        exact ⟨fun hn => (ih _ b h id).1 (e.trans hn), fun w0 hw0 => later h w0 (e.trans hw0)⟩

theorem rbf_go_status (l : List (Nat × Nat)) (a b : State) (h : processBridgeRequest.goRbf l a = .ok b) (id : Nat) :
    statusOf b id = statusOf a id := by
  have f2 := rbf_go_spec l a b h id
  unfold statusOf
  cases hl : nlookup a.withdrawals id with
  | none => rw [f2.1 hl]
  | some w =>
    obtain ⟨w', e1, e2, _⟩ := f2.2 w hl
    rw [e1, e2]
    rfl

/-- the cancel-request loop: pending → canceling for listed ids, nothing else -/
theorem cancel_go_spec : ∀ (l : List Nat) (a b : State), processBridgeRequest.goCancel l a = .ok b →
    Trans a b [] [] ∧
    ∀ id st, statusOf a id = some st → statusOf b id = some st ∨ (st = .pending ∧ id ∈ l ∧ statusOf b id = some .canceling) := by
  intro l
  induction l with
  | nil =>
    intro a b h
    simp only [processBridgeRequest.goCancel, Outcome.ok.injEq] at h
    subst h
    exact ⟨Trans.refl _, fun id st hs => Or.inl hs⟩
  | cons x rest ih =>
    intro a b h
    -- what the rest of the list does
    have later : ∀ {a' : State}, processBridgeRequest.goCancel rest a' = .ok b → ∀ id st, statusOf a' id = some st →
        statusOf b id = some st ∨ (st = .pending ∧ id ∈ x :: rest ∧ statusOf b id = some .canceling) :=
      fun h' id st hs => ((ih _ b h').2 id st hs).imp_right fun ⟨g1, g2, g3⟩ => ⟨g1, List.mem_cons_of_mem _ g2, g3⟩
    obtain ⟨w, hw, ⟨_, h⟩ | ⟨hst', h⟩⟩ := processBridgeRequest_goCancel_cons h
    · exact ⟨(ih _ b h).1, later h⟩
    · refine ⟨Trans.comp_nil (trans_update_same hw rfl (hst' ▸ edge_pending_canceling) (Or.inr ⟨by simp, by simp⟩)) (ih _ b h).1,
        fun id st hs => ?_⟩
      have hmid := statusOf_insert a { a with withdrawals := ninsert a.withdrawals x { w with status := .canceling } } x
        { w with status := .canceling } rfl id
      by_cases hid : x = id
      · subst hid
        rw [if_pos rfl] at hmid
        have hsa : statusOf a x = some w.status := by unfold statusOf; rw [hw]; rfl
        obtain rfl : w.status = st := Option.some.inj (hsa.symm.trans hs)
        rcases (ih _ b h).2 x _ hmid with g | ⟨g1, _, _⟩
        · exact Or.inr ⟨hst', List.mem_cons_self .., g⟩
        · cases g1
      · rw [if_neg hid] at hmid
        exact later h id st (hmid.trans hs)

/-- **ProcessBridgeRequest step and notices** (under the fresh-id hypothesis): respects the edges;
    the only ids that become terminal are the creation requests with an undecodable address, which
    are created cancelled and get exactly one refund notice each in this step; no paid notice. -/
theorem bridge_step (c : Crypto) (s s' : State) (r : BridgeReqs) (hf : Fresh s r)
    (h : processBridgeRequest c s r = .ok s') : Step s s' [] (badIds c r.withdraws) := by
  rcases processBridgeRequest_ok h with ⟨hc, rfl⟩ | ⟨_, s2, s3, hrbf, hcan, rfl⟩
  · rw [withdraws_nil_of_count hc]
    exact ⟨Trans.refl _, by simp, by simp [badIds]⟩
  · obtain ⟨c1, _, _⟩ := create_fold_spec c s r.withdraws (s.withdrawals, []) hf.1 hf.2
    have r2 := rbf_go_status _ _ _ hrbf
    obtain ⟨k2, _⟩ := cancel_go_spec _ _ _ hcan
    have hq : s3.queue = { s.queue with rejected := s.queue.rejected ++ badIds c r.withdraws } := by
      rw [processBridgeRequest_goCancel_frame hcan, processBridgeRequest_goRbf_frame hrbf, ← List.nil_append (badIds c r.withdraws)]
      exact congrArg (fun l => { s.queue with rejected := s.queue.rejected ++ l }) (create_fold_refunds c r.withdraws (s.withdrawals, []))
    refine ⟨?_, ?_, ?_⟩
    · have t := (c1.congr (s := s) (s' := _) rfl rfl).comp ((Trans.of_status_eq r2).comp k2)
      exact (by simpa using t : Trans s s3 [] (badIds c r.withdraws)).congr rfl rfl
    · simp [paidNotices, hq]
    · simp [refundNotices, hq]

theorem bridge_respects (c : Crypto) (s s' : State) (r : BridgeReqs) (hf : Fresh s r)
    (h : processBridgeRequest c s r = .ok s') : Respects s s' := (bridge_step c s s' r hf h).respects

/-- what the three kinds of request do, id by id (fresh-id hypothesis): a creation request yields
    exactly its record, `pending` if the address decodes and `canceled` otherwise; an id that is not
    created keeps its status or goes pending → canceling through a listed cancel request; a fee
    update touches `maxTxPrice` only. -/
theorem bridge_effects (c : Crypto) (s s' : State) (r : BridgeReqs) (hf : Fresh s r)
    (h : processBridgeRequest c s r = .ok s') :
    (∀ v ∈ r.withdraws, statusOf s v.id = none ∧
       (statusOf s' v.id = some (createdRecord c v).status ∨
        ((createdRecord c v).status = .pending ∧ v.id ∈ r.cancel1 ∧ statusOf s' v.id = some .canceling))) ∧
    (∀ id st, statusOf s id = some st →
       statusOf s' id = some st ∨ (st = .pending ∧ id ∈ r.cancel1 ∧ statusOf s' id = some .canceling)) := by
  rcases processBridgeRequest_ok h with ⟨hc, rfl⟩ | ⟨_, s2, s3, hrbf, hcan, rfl⟩
  · rw [withdraws_nil_of_count hc]
    exact ⟨fun v hv => (by cases hv), fun id st hs => Or.inl hs⟩
  · obtain ⟨_, c3, c4⟩ := create_fold_spec c s r.withdraws (s.withdrawals, []) hf.1 hf.2
    have r2 := rbf_go_status _ _ _ hrbf
    obtain ⟨_, k3⟩ := cancel_go_spec _ _ _ hcan
    constructor
    · intro v hv
      have h0 : statusOf s v.id = none := by unfold statusOf; rw [hf.1 v hv]; rfl
      have h2 : statusOf s2 v.id = some (createdRecord c v).status := by
        rw [r2 v.id]; unfold statusOf; simp only; rw [c3 v hv]; rfl
      refine ⟨h0, ?_⟩
      exact k3 v.id _ h2
    · intro id st hs
      have hnot : ∀ v ∈ r.withdraws, v.id ≠ id := by
        intro v hv e
        have : statusOf s id = none := by rw [← e]; unfold statusOf; rw [hf.1 v hv]; rfl
        rw [this] at hs; cases hs
      have h2 : statusOf s2 id = some st := by
        rw [r2 id]; unfold statusOf; simp only; rw [c4 id hnot]; exact hs
      exact k3 id st h2

/-! ## handlers that never write `withdrawals`, `queue.paid`, `queue.rejected` -/

/-- a step that leaves the table and both notice queues alone -/
theorem Step.of_frame {s s' : State} (hw : s'.withdrawals = s.withdrawals) (hp : s'.queue.paid = s.queue.paid)
    (hr : s'.queue.rejected = s.queue.rejected) : Step s s' [] [] :=
  ⟨Trans.of_eq hw, by simp [paidNotices, hp], by simp [refundNotices, hr]⟩

theorem newDeposits_step (c : Crypto) (rel : Relayer.State) (s : State) (m : NewDepositsMsg) (r : Relayer.State × State)
    (h : newDeposits c rel s m = .ok r) : Step s r.2 [] [] := by
  have hf := newDeposits_frame h
  exact Step.of_frame (by rw [hf]) (by rw [hf]) (by rw [hf])

theorem newBlockHashes_step (rc : Relayer.Crypto) (chainId : String) (rel : Relayer.State) (s : State)
    (vote : Relayer.VoteMsg) (hv : Bool) (start : Nat) (hashes : List Bytes) (r : Relayer.State × State)
    (h : newBlockHashes rc chainId rel s vote hv start hashes = .ok r) : Step s r.2 [] [] := by
  have hf := newBlockHashes_frame h
  exact Step.of_frame (by rw [hf]) (by rw [hf]) (by rw [hf])

theorem newPubkey_step (rc : Relayer.Crypto) (chainId : String) (rel : Relayer.State) (s : State)
    (vote : Relayer.VoteMsg) (hv : Bool) (pk : PubKey) (r : Relayer.State × State)
    (h : newPubkey rc chainId rel s vote hv pk = .ok r) : Step s r.2 [] [] := by
  have hf := newPubkey_frame h
  exact Step.of_frame (by rw [hf]) (by rw [hf]) (by rw [hf])

theorem newConsolidation_step (c : Crypto) (rc : Relayer.Crypto) (chainId : String) (rel : Relayer.State) (s : State)
    (vote : Relayer.VoteMsg) (hv : Bool) (tx : Bytes) (r : Relayer.State × State)
    (h : newConsolidation c rc chainId rel s vote hv tx = .ok r) : Step s r.2 [] [] := by
  have hf := newConsolidation_frame h
  exact Step.of_frame (by rw [hf]) (by rw [hf]) (by rw [hf])

/-! ## DequeueBitcoinModuleTx: delivery of notices to the execution layer -/

/-- ids of the 'paid' system transactions in a delivered batch, in order -/
def paidIds (txs : List SysTx) : List Nat :=
  txs.filterMap (fun t => match t with | .paid _ id _ => some id | _ => none)
/-- ids of the 'refund' (cancel2) system transactions in a delivered batch, in order -/
def refundIds (txs : List SysTx) : List Nat :=
  txs.filterMap (fun t => match t with | .cancel2 _ id => some id | _ => none)

/-- **Dequeue only delivers from the front**: the withdrawal table is untouched; the delivered paid
    ids are a prefix of the queued paid notices and exactly that prefix leaves the queue; likewise
    for refunds; at most 8 notices are delivered together. -/
theorem dequeue_spec (s s' : State) (txs : List SysTx) (h : dequeue s = .ok (s', txs)) :
    s'.withdrawals = s.withdrawals ∧
    ∃ n k, n + k ≤ 8 ∧
      paidIds txs = (paidNotices s).take n ∧ paidNotices s' = (paidNotices s).drop n ∧
      refundIds txs = (refundNotices s).take k ∧ refundNotices s' = (refundNotices s).drop k := by
  obtain ⟨hb, _, _, rfl, hq, _⟩ := dequeue_ok h
  refine ⟨by rw [dequeue_frame h], (s.queue.paid.take 8).length,
    (s.queue.rejected.take (8 - (s.queue.paid.take 8).length)).length, ?_, ?_, ?_, ?_, ?_⟩
  · simp only [List.length_take]
    omega
  · unfold paidIds paidNotices
    rw [filterMap_number_items _ (fun _ => none) (fun _ => none) (fun p => some p.1) (fun _ => none)
        (fun _ _ => rfl) (fun _ _ => rfl) (fun _ _ => rfl) (fun _ _ => rfl),
      filterMap_none, filterMap_none, filterMap_none, List.nil_append, List.nil_append, List.append_nil, List.filterMap_eq_map',
      ← List.map_take, take_take_length]
  · unfold paidNotices
    rw [hq, ← List.map_drop, drop_take_length]
  · unfold refundIds refundNotices
    rw [filterMap_number_items _ (fun _ => none) (fun _ => none) (fun _ => none) (fun id => some id)
        (fun _ _ => rfl) (fun _ _ => rfl) (fun _ _ => rfl) (fun _ _ => rfl),
      filterMap_none, filterMap_none, filterMap_none, List.nil_append, List.nil_append, List.nil_append,
      List.filterMap_eq_map', List.map_id', take_take_length]
  · unfold refundNotices
    rw [hq, drop_take_length]

theorem dequeue_respects (s s' : State) (txs : List SysTx) (h : dequeue s = .ok (s', txs)) : Respects s s' :=
  (Trans.of_eq (dequeue_spec s s' txs h).1).respects

/-- delivered ++ still queued = previously queued, for both kinds of notice -/
theorem dequeue_conserves (s s' : State) (txs : List SysTx) (h : dequeue s = .ok (s', txs)) :
    paidIds txs ++ paidNotices s' = paidNotices s ∧ refundIds txs ++ refundNotices s' = refundNotices s := by
  obtain ⟨_, n, k, _, e1, e2, e3, e4⟩ := dequeue_spec s s' txs h
  rw [e1, e2, e3, e4]
  exact ⟨List.take_append_drop .., List.take_append_drop ..⟩

/-! ## histories -/

/-- fixed parameters of a run -/
structure Env where
  c : Crypto
  rc : Relayer.Crypto
  chainId : String

/-- global state with the ghost log of notices already delivered to the execution layer -/
structure G where
  rel : Relayer.State
  st : State
  dPaid : List Nat
  dRefund : List Nat

/-- every entry point that can touch the bridge state (plus arbitrary changes of the relayer
    group by other modules) -/
inductive Op where
  | process (vote : Relayer.VoteMsg) (hasVote : Bool) (ids : List Nat) (tx : Bytes) (fee : Nat)
  | replace (vote : Relayer.VoteMsg) (hasVote : Bool) (pid : Nat) (tx : Bytes) (fee : Nat)
  | finalize (m : FinalizeMsg)
  | approve (proposer : String) (ids : List Nat)
  | bridge (r : BridgeReqs)
  | deposits (m : NewDepositsMsg)
  | blockHashes (vote : Relayer.VoteMsg) (hasVote : Bool) (start : Nat) (hashes : List Bytes)
  | pubkey (vote : Relayer.VoteMsg) (hasVote : Bool) (pk : PubKey)
  | consolidation (vote : Relayer.VoteMsg) (hasVote : Bool) (tx : Bytes)
  | dequeue
  | relayer (rel' : Relayer.State)

/-- commit the result of a message handler; a failed handler leaves everything unchanged -/
def withRes (g : G) (o : Outcome (Relayer.State × State)) : G :=
  match o with
  | .ok r => { g with rel := r.1, st := r.2 }
  | _ => g

def apply (e : Env) (g : G) : Op → G
  | .process v hv ids tx fee => withRes g (processWithdrawal e.c e.rc e.chainId g.rel g.st v hv ids tx fee)
  | .replace v hv pid tx fee => withRes g (replaceWithdrawal e.c e.rc e.chainId g.rel g.st v hv pid tx fee)
  | .finalize m => withRes g (finalizeWithdrawal e.c g.rel g.st m)
  | .approve p ids => withRes g (approveCancellation g.rel g.st p ids)
  | .bridge r =>
    match processBridgeRequest e.c g.st r with
    | .ok s' => { g with st := s' }
    | _ => g
  | .deposits m => withRes g (newDeposits e.c g.rel g.st m)
  | .blockHashes v hv start hashes => withRes g (newBlockHashes e.rc e.chainId g.rel g.st v hv start hashes)
  | .pubkey v hv pk => withRes g (newPubkey e.rc e.chainId g.rel g.st v hv pk)
  | .consolidation v hv tx => withRes g (newConsolidation e.c e.rc e.chainId g.rel g.st v hv tx)
  | .dequeue =>
    match dequeue g.st with
    | .ok (s', txs) => { g with st := s', dPaid := g.dPaid ++ paidIds txs, dRefund := g.dRefund ++ refundIds txs }
    | _ => g
  | .relayer rel' => { g with rel := rel' }

def run (e : Env) (g : G) : List Op → G
  | [] => g
  | op :: ops => run e (apply e g op) ops

/-- the environment hypothesis, per operation: creation requests carry fresh ids -/
def FreshOK (g : G) : Op → Prop
  | .bridge r => Fresh g.st r
  | _ => True

/-- the environment hypothesis along a history: each operation meets it in the state its predecessors left -/
def AllFresh (e : Env) : G → List Op → Prop
  | _, [] => True
  | g, op :: ops => FreshOK g op ∧ AllFresh e (apply e g op) ops

/-- all paid / refund notices ever issued: delivered ones followed by the queued ones -/
def allPaid (g : G) : List Nat := g.dPaid ++ paidNotices g.st
def allRefund (g : G) : List Nat := g.dRefund ++ refundNotices g.st

/-- **the invariant**: paid ⇒ exactly one paid notice and no refund notice; cancelled ⇒ exactly one
    refund notice and no paid notice; any other status (or unknown id) ⇒ no notice at all.
    (The three cases are exhaustive and exclusive, so each implication is an equivalence — see
    `Inv.paid_iff`, `Inv.canceled_iff`, `Inv.none_iff`.) -/
def Inv (g : G) : Prop :=
  ∀ id, (statusOf g.st id = some .paid → (allPaid g).count id = 1 ∧ (allRefund g).count id = 0) ∧
        (statusOf g.st id = some .canceled → (allRefund g).count id = 1 ∧ (allPaid g).count id = 0) ∧
        (NonTerminal (statusOf g.st id) → (allPaid g).count id = 0 ∧ (allRefund g).count id = 0)

theorem status_cases (o : Option WStatus) : o = some .paid ∨ o = some .canceled ∨ NonTerminal o := by
  by_cases h1 : o = some .paid
  · exact Or.inl h1
  · by_cases h2 : o = some .canceled
    · exact Or.inr (Or.inl h2)
    · exact Or.inr (Or.inr ⟨h1, h2⟩)

theorem Inv.paid_iff {g : G} (h : Inv g) (id : Nat) :
    statusOf g.st id = some .paid ↔ ((allPaid g).count id = 1 ∧ (allRefund g).count id = 0) := by
  refine ⟨(h id).1, fun hc => ?_⟩
  rcases status_cases (statusOf g.st id) with h1 | h2 | h3
  · exact h1
  · have := (h id).2.1 h2; omega
  · have := (h id).2.2 h3; omega

theorem Inv.canceled_iff {g : G} (h : Inv g) (id : Nat) :
    statusOf g.st id = some .canceled ↔ ((allRefund g).count id = 1 ∧ (allPaid g).count id = 0) := by
  refine ⟨(h id).2.1, fun hc => ?_⟩
  rcases status_cases (statusOf g.st id) with h1 | h2 | h3
  · have := (h id).1 h1; omega
  · exact h2
  · have := (h id).2.2 h3; omega

theorem Inv.none_iff {g : G} (h : Inv g) (id : Nat) :
    NonTerminal (statusOf g.st id) ↔ ((allPaid g).count id = 0 ∧ (allRefund g).count id = 0) := by
  refine ⟨(h id).2.2, fun hc => ?_⟩
  rcases status_cases (statusOf g.st id) with h1 | h2 | h3
  · have := (h id).1 h1; omega
  · have := (h id).2.1 h2; omega
  · exact h3

/-- **'paid' once or 'refund' once for an id, never both and never twice** -/
theorem Inv.at_most_once {g : G} (h : Inv g) (id : Nat) : (allPaid g).count id + (allRefund g).count id ≤ 1 := by
  rcases status_cases (statusOf g.st id) with h1 | h2 | h3
  · have := (h id).1 h1; omega
  · have := (h id).2.1 h2; omega
  · have := (h id).2.2 h3; omega

/-- in particular for what the execution layer has actually been told -/
theorem Inv.delivered_at_most_once {g : G} (h : Inv g) (id : Nat) : g.dPaid.count id + g.dRefund.count id ≤ 1 := by
  have := h.at_most_once id
  unfold allPaid allRefund at this
  rw [List.count_append, List.count_append] at this
  omega

/-- a delivered (or queued) notice tells the truth about the status -/
theorem Inv.paid_notice_status {g : G} (h : Inv g) (id : Nat) (hm : id ∈ allPaid g) : statusOf g.st id = some .paid := by
  have hpos := List.count_pos_iff.mpr hm
  rcases status_cases (statusOf g.st id) with h1 | h2 | h3
  · exact h1
  · have := (h id).2.1 h2; omega
  · have := (h id).2.2 h3; omega

theorem Inv.refund_notice_status {g : G} (h : Inv g) (id : Nat) (hm : id ∈ allRefund g) : statusOf g.st id = some .canceled := by
  have hpos := List.count_pos_iff.mpr hm
  rcases status_cases (statusOf g.st id) with h1 | h2 | h3
  · have := (h id).1 h1; omega
  · exact h2
  · have := (h id).2.2 h3; omega

/-- summary of one global step -/
def GStep (g g' : G) : Prop :=
  ∃ P R, Trans g.st g'.st P R ∧ allPaid g' = allPaid g ++ P ∧ allRefund g' = allRefund g ++ R

/-- a step of the bridge state that delivers nothing is a global step -/
theorem GStep.of_step {g g' : G} {P R : List Nat} (h : Step g.st g'.st P R) (h2 : g'.dPaid = g.dPaid) (h3 : g'.dRefund = g.dRefund) :
    GStep g g' :=
  ⟨P, R, h.1, by rw [allPaid, h2, h.2.1, ← List.append_assoc]; rfl, by rw [allRefund, h3, h.2.2, ← List.append_assoc]; rfl⟩

theorem GStep.refl_st {g g' : G} (h1 : g'.st = g.st) (h2 : g'.dPaid = g.dPaid) (h3 : g'.dRefund = g.dRefund) : GStep g g' :=
  GStep.of_step (Step.of_frame (by rw [h1]) (by rw [h1]) (by rw [h1])) h2 h3

theorem withRes_GStep (g : G) (o : Outcome (Relayer.State × State))
    (h : ∀ r, o = .ok r → ∃ P R, Step g.st r.2 P R) : GStep g (withRes g o) := by
  cases o with
  | ok r =>
    obtain ⟨P, R, hs⟩ := h r rfl
    exact GStep.of_step hs rfl rfl
  | err e => exact GStep.refl_st rfl rfl rfl
  | panic e => exact GStep.refl_st rfl rfl rfl

/-- every operation is a global step (creation under the fresh-id hypothesis) -/
theorem apply_GStep (e : Env) (g : G) (op : Op) (hf : FreshOK g op) : GStep g (apply e g op) := by
  cases op with
  | process v hv ids tx fee =>
    exact withRes_GStep g _ (fun r h => ⟨[], [], (process_step _ _ _ _ _ _ _ _ _ _ r h).1⟩)
  | replace v hv pid tx fee =>
    exact withRes_GStep g _ (fun r h => ⟨[], [], replace_step _ _ _ _ _ _ _ _ _ _ r h⟩)
  | finalize m =>
    refine withRes_GStep g _ (fun r h => ?_)
    obtain ⟨p, _, _, _, hs, _⟩ := finalize_step _ _ _ _ r h
    exact ⟨p.withdrawals, [], hs⟩
  | approve p ids =>
    exact withRes_GStep g _ (fun r h => ⟨[], ids, approve_step _ _ _ _ r h⟩)
  | bridge r =>
    simp only [apply]
    split
    · rename_i s' hb
      exact GStep.of_step (bridge_step e.c g.st s' r hf hb) rfl rfl
    · exact GStep.refl_st rfl rfl rfl
  | deposits m =>
    exact withRes_GStep g _ (fun r h => ⟨[], [], newDeposits_step _ _ _ _ r h⟩)
  | blockHashes v hv start hashes =>
    exact withRes_GStep g _ (fun r h => ⟨[], [], newBlockHashes_step _ _ _ _ _ _ _ _ r h⟩)
  | pubkey v hv pk =>
    exact withRes_GStep g _ (fun r h => ⟨[], [], newPubkey_step _ _ _ _ _ _ _ r h⟩)
  | consolidation v hv tx =>
    exact withRes_GStep g _ (fun r h => ⟨[], [], newConsolidation_step _ _ _ _ _ _ _ _ r h⟩)
  | dequeue =>
    simp only [apply]
    split
    · -- what leaves the queues joins the delivered logs
      rename_i s' txs hd
      obtain ⟨c1, c2⟩ := dequeue_conserves g.st s' txs hd
      refine ⟨[], [], Trans.of_eq (dequeue_spec g.st s' txs hd).1, ?_, ?_⟩
      · rw [List.append_nil, allPaid, allPaid, ← c1, List.append_assoc]
      · rw [List.append_nil, allRefund, allRefund, ← c2, List.append_assoc]
    · exact GStep.refl_st rfl rfl rfl
  | relayer rel' => exact GStep.refl_st rfl rfl rfl

/-- a global step preserves the invariant -/
theorem inv_step {g g' : G} (hi : Inv g) (hs : GStep g g') : Inv g' := by
  obtain ⟨P, R, ⟨hresp, np, nr, dis, hP, hR, hO⟩, ep, er⟩ := hs
  intro id
  rw [ep, er, List.count_append, List.count_append]
  by_cases hp : id ∈ P
  · obtain ⟨hn, hpaid⟩ := hP id hp
    have hnr : id ∉ R := dis id hp
    have h0 := (hi id).2.2 hn
    rw [count_nodup_mem np hp, List.count_eq_zero.mpr hnr]
    refine ⟨fun _ => by omega, fun hc => ?_, fun hn' => absurd hpaid hn'.1⟩
    rw [hpaid] at hc; cases hc
  · by_cases hr : id ∈ R
    · obtain ⟨hn, hcan⟩ := hR id hr
      have h0 := (hi id).2.2 hn
      rw [count_nodup_mem nr hr, List.count_eq_zero.mpr hp]
      refine ⟨fun hc => ?_, fun _ => by omega, fun hn' => absurd hcan hn'.2⟩
      rw [hcan] at hc; cases hc
    · rw [List.count_eq_zero.mpr hp, List.count_eq_zero.mpr hr]
      obtain ⟨o1, o2⟩ := hO id hp hr
      refine ⟨fun hc => ?_, fun hc => ?_, fun hn => ?_⟩
      · have := (hi id).1 (o1 hc); omega
      · have := (hi id).2.1 (o2 hc); omega
      · have := (hi id).2.2 (nonTerminal_back hresp id hn); omega

/-- **History theorem, part 1**: the invariant holds along every history -/
theorem history_inv (e : Env) : ∀ (ops : List Op) (g : G), Inv g → AllFresh e g ops → Inv (run e g ops) := by
  intro ops
  induction ops with
  | nil => intro g hi _; exact hi
  | cons op ops ih =>
    intro g hi hf
    exact ih _ (inv_step hi (apply_GStep e g op hf.1)) hf.2

/-- **History theorem, part 2**: every id's status only moves along the allowed edges -/
theorem history_respects (e : Env) : ∀ (ops : List Op) (g : G), AllFresh e g ops → Respects g.st (run e g ops).st := by
  intro ops
  induction ops with
  | nil => intro g _; exact Respects.refl _
  | cons op ops ih =>
    intro g hf
    obtain ⟨P, R, t, _, _⟩ := apply_GStep e g op hf.1
    exact t.respects.trans (ih _ hf.2)

theorem run_append (e : Env) : ∀ (ops1 ops2 : List Op) (g : G), run e g (ops1 ++ ops2) = run e (run e g ops1) ops2 := by
  intro ops1
  induction ops1 with
  | nil => intro ops2 g; rfl
  | cons op ops ih => intro ops2 g; exact ih ops2 _

theorem AllFresh_append (e : Env) : ∀ (ops1 ops2 : List Op) (g : G),
    AllFresh e g (ops1 ++ ops2) → AllFresh e g ops1 ∧ AllFresh e (run e g ops1) ops2 := by
  intro ops1
  induction ops1 with
  | nil => intro ops2 g h; exact ⟨trivial, h⟩
  | cons op ops ih =>
    intro ops2 g h
    obtain ⟨h1, h2⟩ := h
    obtain ⟨i1, i2⟩ := ih ops2 _ h2
    exact ⟨⟨h1, i1⟩, i2⟩

/-- between *any two points* of a history the status of every known id moves along `Edge` (so the
    whole status sequence of an id is a path pending → (canceling) → processing → paid or
    pending → canceling → canceled, possibly created directly cancelled), and ids never disappear -/
theorem history_edges (e : Env) (g : G) (ops1 ops2 : List Op) (hf : AllFresh e g (ops1 ++ ops2))
    (id : Nat) (st1 : WStatus) (h1 : statusOf (run e g ops1).st id = some st1) :
    ∃ st2, statusOf (run e g (ops1 ++ ops2)).st id = some st2 ∧ Edge st1 st2 := by
  rw [run_append]
  exact history_respects e ops2 _ (AllFresh_append e ops1 ops2 g hf).2 id st1 h1

/-- terminal statuses are final along a history -/
theorem history_terminal (e : Env) (g : G) (ops1 ops2 : List Op) (hf : AllFresh e g (ops1 ++ ops2))
    (id : Nat) (st1 : WStatus) (h1 : statusOf (run e g ops1).st id = some st1) (ht : st1 = .paid ∨ st1 = .canceled) :
    statusOf (run e g (ops1 ++ ops2)).st id = some st1 := by
  obtain ⟨st2, e2, g2⟩ := history_edges e g ops1 ops2 hf id st1 h1
  rw [e2, terminal_absorbing _ _ g2 ht]

/-- the empty bridge (genesis without withdrawals) satisfies the invariant -/
theorem inv_init (rel : Relayer.State) (s : State) (hw : s.withdrawals = []) (hp : s.queue.paid = []) (hr : s.queue.rejected = []) :
    Inv { rel := rel, st := s, dPaid := [], dRefund := [] } := by
  intro id
  have hs : statusOf s id = none := by unfold statusOf; rw [hw]; rfl
  simp [allPaid, allRefund, paidNotices, refundNotices, hp, hr, hs, NonTerminal]

/-- **C05 over histories**: from a bridge without withdrawals, along every history whose creation
    requests carry fresh ids, the execution layer is told 'paid' at most once or 'refund' at most once
    for any id, never both; a told 'paid' means the withdrawal is (and stays) paid, a told 'refund'
    means it is (and stays) cancelled. -/
theorem C05_history (e : Env) (rel : Relayer.State) (s : State) (hw : s.withdrawals = []) (hp : s.queue.paid = [])
    (hr : s.queue.rejected = []) (ops : List Op)
    (hf : AllFresh e { rel := rel, st := s, dPaid := [], dRefund := [] } ops) (id : Nat) :
    let g := run e { rel := rel, st := s, dPaid := [], dRefund := [] } ops
    g.dPaid.count id + g.dRefund.count id ≤ 1 ∧
    (id ∈ g.dPaid → statusOf g.st id = some .paid) ∧ (id ∈ g.dRefund → statusOf g.st id = some .canceled) := by
  intro g
  have hi : Inv g := history_inv e ops _ (inv_init rel s hw hp hr) hf
  refine ⟨hi.delivered_at_most_once id, fun hm => hi.paid_notice_status id ?_, fun hm => hi.refund_notice_status id ?_⟩
  · exact List.mem_append_left _ hm
  · exact List.mem_append_left _ hm

/-! ## what happens without the hypotheses; non-vacuity -/

/-- a toy crypto: only the address "ok" decodes (to a 22-byte script of zeros); the double hash of a
    byte string is 32 copies of its length; hash160 is 20 zero bytes -/
def c0 : Crypto :=
  { sha256 := fun _ => [], dsha256 := fun b => List.replicate 32 (UInt8.ofNat b.length), hash160 := fun _ => List.replicate 20 0,
    tweak := fun _ _ => none,
    tweakNoScript := fun _ => none, decodeAddr := fun a => if a = "ok" then some (List.replicate 22 0) else none }

def q0 : Queue := { blockNumber := 0, deposits := [], paid := [], rejected := [] }
/-- the empty bridge -/
def s0 : State :=
  { params := default, pubkey := default, tip := 0, hashes := [], deposited := [], nonce := 0, withdrawals := [],
    processId := 0, processing := [], queue := q0 }

def rcpt : Receipt := { txid := List.replicate 32 7, txout := 0, amount := 5 }
def wWith (st : WStatus) : Withdrawal :=
  { address := "ok", requestAmount := 10, maxTxPrice := 1, status := st, receipt := some rcpt }
/-- id 7 already paid, its notice queued -/
def sPaid : State := { s0 with withdrawals := [(7, wWith .paid)], queue := { q0 with paid := [(7, rcpt)] } }
/-- id 7 in processing under record 0 (one candidate, fee 10), block hash of height 3 voted -/
def sProc : State :=
  { s0 with withdrawals := [(7, wWith .processing)], processId := 1, hashes := [(3, List.replicate 32 80)],
            processing := [(0, { txids := [List.replicate 32 7], outputs := [[5]], withdrawals := [7], fee := 10 })] }
def sPend : State := { s0 with withdrawals := [(7, { wWith .pending with receipt := none })] }

/-- **without the fresh-id hypothesis the edges are violated**: the execution layer reuses the id
    of a paid withdrawal in a creation request; the Go code (`Withdrawals.Set`) overwrites the record
    and the paid withdrawal is pending again -/
theorem reused_id_breaks_edges :
    ∃ s', processBridgeRequest c0 sPaid { withdraws := [{ id := 7, amount := 5, txPrice := 1, address := "ok" }] } = .ok s' ∧
      statusOf sPaid 7 = some .paid ∧ statusOf s' 7 = some .pending ∧ ¬ Respects sPaid s' := by
  refine ⟨_, rfl, by decide, by decide, fun hr => ?_⟩
  have := respects_paid hr 7 (by decide)
  revert this
  decide

/-- **… and 'paid' and 'refund' are both announced**: the reused id comes with an undecodable
    address; the record becomes cancelled and a refund notice joins the paid notice -/
theorem reused_id_paid_and_refund :
    ∃ s', processBridgeRequest c0 sPaid { withdraws := [{ id := 7, amount := 5, txPrice := 1, address := "bad" }] } = .ok s' ∧
      paidNotices s' = [7] ∧ refundNotices s' = [7] ∧ statusOf s' 7 = some .canceled :=
  ⟨_, rfl, by decide, by decide, by decide⟩

/-- **without distinctness inside one request list 'refund' is announced twice** -/
theorem duplicate_ids_two_refunds :
    ∃ s', processBridgeRequest c0 s0 { withdraws := [{ id := 1, amount := 5, txPrice := 1, address := "bad" },
                                                     { id := 1, amount := 6, txPrice := 1, address := "bad" }] } = .ok s' ∧
      refundNotices s' = [1, 1] :=
  ⟨_, rfl, by decide⟩

/-- a refunded id re-created in the same list with a good address: pending with a refund notice out -/
theorem duplicate_ids_refund_then_pending :
    ∃ s', processBridgeRequest c0 s0 { withdraws := [{ id := 1, amount := 5, txPrice := 1, address := "bad" },
                                                     { id := 1, amount := 6, txPrice := 1, address := "ok" }] } = .ok s' ∧
      refundNotices s' = [1] ∧ statusOf s' 1 = some .pending :=
  ⟨_, rfl, by decide, by decide⟩

/-- **a fee update is not restricted to pending withdrawals**: it also rewrites `maxTxPrice` of a
    withdrawal in processing (intended in the Go code: "relayer can use the latest tx price to do
    the rbf"); see `rbf_go_spec` for the exact statement -/
theorem rbf_updates_processing :
    ∃ s', processBridgeRequest c0 sProc { rbf := [(7, 99)] } = .ok s' ∧
      (nlookup s'.withdrawals 7).map (·.maxTxPrice) = some 99 ∧ statusOf s' 7 = some .processing :=
  ⟨_, rfl, by decide, by decide⟩

/-! ### non-vacuity -/

def rel0 : Relayer.State :=
  let mk (k : UInt8) : Relayer.Voter := { address := [], voteKey := [k], status := .activated, height := 0 }
  { params := { electingPeriod := 0, acceptProposerTimeout := 0 }, proposer := "p", voters := ["a", "b", "c"], epoch := 0,
    lastElected := 0, accepted := false, seq := 7, randao := [], recs := [("p", mk 1), ("a", mk 2), ("b", mk 3), ("c", mk 4)],
    onBoarding := [], offBoarding := [], pubkeys := [] }
def rc0 : Relayer.Crypto :=
  { sha256 := fun _ => [], hash160 := id, aggVerify := fun ks _ _ => ks.length == 3, blsVerify := fun _ _ _ => false,
    ecdsaVerify := fun _ _ _ => false, addrOf := fun _ => "" }
def vote0 : Relayer.VoteMsg :=
  { proposer := "p", method := "", sigDoc := [], seq := 7, epoch := 0, bitmap := [5,0,0,0,0,0,0,0], signature := [] }
def e0 : Env := { c := c0, rc := rc0, chainId := "x" }

/-- an 82-byte transaction: one input, one output of value 5 to the 22-byte zero script -/
def tx0 : Bytes :=
  [0,0,0,0] ++ [1] ++ List.replicate 36 0 ++ [0] ++ [0,0,0,0] ++ [1] ++ le64 5 ++ [22] ++ List.replicate 22 0 ++ [0,0,0,0]

/-- `process_step` / `process_terms` are not vacuous: a voted payout of a pending withdrawal succeeds -/
example : ∃ r, processWithdrawal c0 rc0 "x" rel0 sPend vote0 true [7] tx0 20 = .ok r ∧ statusOf r.2 7 = some .processing :=
  ⟨_, rfl, by decide⟩

/-- `replace_terms` is not vacuous: a voted fee bump (10 → 20) of record 0 succeeds and adds the candidate -/
example : ∃ r, replaceWithdrawal c0 rc0 "x" rel0 sProc vote0 true 0 tx0 20 = .ok r ∧
    (nlookup r.2.processing 0).map (·.txids) = some [List.replicate 32 7, List.replicate 32 82] ∧
    (nlookup r.2.processing 0).map (·.outputs) = some [[5], [5]] :=
  ⟨_, rfl, by decide, by decide⟩

/-- `finalize_step` is not vacuous: an SPV proof of the voted candidate marks 7 paid and queues one notice -/
def fin0 : FinalizeMsg :=
  { proposer := "p", pid := 0, txid := List.replicate 32 7, blockNumber := 3, txIndex := 1,
    proof := List.replicate 32 1, header := List.replicate 36 0 ++ List.replicate 32 64 ++ List.replicate 12 0 }
example : ∃ r, finalizeWithdrawal c0 rel0 sProc fin0 = .ok r ∧ paidNotices r.2 = [7] ∧ statusOf r.2 7 = some .paid ∧
    r.2.queue.paid.map (·.2.amount) = [5] :=
  ⟨_, rfl, by decide, by decide, by decide⟩

/-- a whole history from the empty bridge: ids 1 (good address) and 2 (bad address) are created,
    1 is cancel-requested and approved, everything is delivered: the hypotheses of `C05_history`
    hold and both refunds are delivered exactly once -/
def ops0 : List Op :=
  [ .bridge { withdraws := [{ id := 1, amount := 5, txPrice := 1, address := "ok" }, { id := 2, amount := 5, txPrice := 1, address := "bad" }] },
    .bridge { cancel1 := [1] },
    .approve "p" [1],
    .dequeue ]
def g0 : G := { rel := rel0, st := s0, dPaid := [], dRefund := [] }

example : AllFresh e0 g0 ops0 :=
  ⟨by show Fresh _ _; unfold Fresh; decide, by show Fresh _ _; exact ⟨fun v hv => (by cases hv), List.nodup_nil⟩, trivial, trivial, trivial⟩
example : (run e0 g0 ops0).dRefund = [2, 1] ∧ (run e0 g0 ops0).dPaid = [] ∧
    statusOf (run e0 g0 ops0).st 1 = some .canceled ∧ statusOf (run e0 g0 ops0).st 2 = some .canceled ∧
    refundNotices (run e0 g0 ops0).st = [] := by decide +kernel
example : Inv g0 := inv_init rel0 s0 rfl rfl rfl

/-- a 113-byte fee-bump transaction: output 0 pays 4 to the user's script, output 1 is change to the relayer key -/
def tx1 : Bytes :=
  [0,0,0,0] ++ [1] ++ List.replicate 36 0 ++ [0] ++ [0,0,0,0] ++ [2] ++ le64 4 ++ [22] ++ List.replicate 22 0 ++
    le64 1 ++ [22] ++ ([0, 0x14] ++ List.replicate 20 0) ++ [0,0,0,0]

/-- a history through payment: pending 7 is processed (fee 20), fee-bumped (fee 30, with a change
    output), finalised on the bumped candidate, delivered: 'paid' once, amount 4 = that candidate's output -/
def g1 : G := { rel := rel0, st := { sPend with hashes := [(3, List.replicate 32 80)] }, dPaid := [], dRefund := [] }
def ops1 : List Op :=
  [ .process vote0 true [7] tx0 20,
    .relayer rel0,
    .replace vote0 true 0 tx1 30,
    .finalize { fin0 with txid := List.replicate 32 113 } ]
set_option maxRecDepth 16384 in
example : paidNotices (run e0 g1 ops1).st = [7] ∧ (run e0 g1 ops1).st.queue.paid.map (·.2.amount) = [4] ∧
    statusOf (run e0 g1 ops1).st 7 = some .paid := by decide +kernel
set_option maxRecDepth 16384 in
example : (run e0 g1 (ops1 ++ [.dequeue])).dPaid = [7] ∧ (run e0 g1 (ops1 ++ [.dequeue])).dRefund = [] ∧
    paidNotices (run e0 g1 (ops1 ++ [.dequeue])).st = [] := by decide +kernel
example : AllFresh e0 g1 (ops1 ++ [.dequeue]) := ⟨trivial, trivial, trivial, trivial, trivial, trivial⟩

end Goat.C05H
