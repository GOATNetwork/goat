/-
  C13B — the rest of the block re-establishes the precondition of EndBlocker.

  C13H proves that EndBlocker never fails and keeps the recorded validator set equal to the top of the
  power ranking (and CometBFT's set equal to the recorded one) GIVEN `C13H.RankOk` before each
  EndBlocker; its chain theorem takes "the rest of the block" as a relation `R` with `C13H.Between R`.
  This file proves `C13H.Between` for the model `GoatModel/Locking.lean`: `Ranking.Inv now s`, the invariant of
  the locking state inside a block with time `now`, implies `C13H.RankOk` and is kept by every operation
  between two EndBlockers (`…_inv`, from `Ranking.…_tr`); `Start s` is its form at a block boundary (every
  recorded member Active), established by EndBlocker and by C18's import.  `R hash160` is one block:
  BeginBlock, then any sequence of request batches / dequeues, each committed on success and discarded
  on failure; `between_R`, then the chain theorems with no `RankOk` hypothesis left (`sync_chain`,
  `sync_chain_genesis`, `endBlockers_never_fail`).  `jail_*`: with a negative jail period a block makes
  EndBlocker fail with "pending-in-set" (by evaluation).

  Hypotheses, all on the genesis state / parameters (none on the requests):
    * `0 ≤ params.downtimeJail` (Go: `Params.Validate` demands ≥ 1 minute) — necessary, see `jail_*`;
    * `0 ≤ params.maxValidators` (as in C13H);
    * the locking index is sound (`IdxEntry`: `onWeightChanged` re-ranks every index holder with positive
      power *without looking at the status*, so a validator outside Active/Pending may only have stale
      zero entries and no power) — true of any imported genesis (`start_of_derived`), kept by the handlers;
    * `KeyOk hash160`: every address is `hash160` of the record's consensus key (true of an imported
      genesis and of `create`); this gives `PkInj` — no "create never reuses a key" hypothesis is needed;
    * BeginBlock and the request handlers of one block see the same block time `now`.
-/
import GoatProofs.C13H
import GoatProofs.Lemmas.Ranking
namespace Goat.C13B
open Goat Goat.Locking Goat.ValSet Goat.Ranking

export Goat.Ranking (Inv Elig IdxEntry KeyOk Tr)

/-! ## the invariant -/

/-- **`Inv` implies the precondition of EndBlocker** -/
theorem rankOk_of_inv {now : Int} {s : State} (h : Inv now s) : C13H.RankOk s where
  rank_nodup := h.rank_nodup
  rank_rec := h.rank_rec
  rank_complete := h.rank_complete
  valset_nodup := h.valset_nodup
  valset_rec := fun a _ hm => h.valset_rec a (mem_keys_of_mem hm)
  pending_out := fun a v hv hst hm => (h.member_status a v hm hv).1 hst
  max_nonneg := h.max_nonneg

/-- distinct consensus keys follow from "address = hash of the key" -/
theorem pkInj_of_keyOk {hash160 : Bytes → Bytes} {s : State} (h : KeyOk hash160 s) : C13H.PkInj s := by
  intro a b va vb ha hb heq
  rw [← h a va ha, ← h b vb hb, heq]

/-- **the invariant at a block boundary** (after EndBlocker / at genesis): `RankOk`, every recorded
    member is Active, and the soundness of the locking index that `onWeightChanged` relies on -/
structure Start (s : State) : Prop where
  rankOk : C13H.RankOk s
  members_active : ∀ a v, a ∈ s.valset.map (·.1) → vget s a = some v → v.status = .active
  idx_ok : ∀ d a x, ((d, a), x) ∈ s.lockingIdx → ∃ v, vget s a = some v ∧ IdxEntry v d x
  jail_nonneg : 0 ≤ s.params.downtimeJail

/-- at a block boundary the in-block invariant holds for every block time -/
theorem Start.inv {s : State} (h : Start s) (now : Int) : Inv now s where
  rank_nodup := h.rankOk.rank_nodup
  rank_rec := h.rankOk.rank_rec
  rank_complete := h.rankOk.rank_complete
  valset_nodup := h.rankOk.valset_nodup
  valset_rec := by
    intro a ha
    obtain ⟨p, hp⟩ := exists_of_mem_keys ha
    exact h.rankOk.valset_rec a p hp
  member_status := by
    intro a v ha hv
    have := h.members_active a v ha hv
    rw [this]
    exact ⟨by decide, fun hc => by cases hc⟩
  idx_ok := h.idx_ok
  max_nonneg := h.rankOk.max_nonneg
  jail_nonneg := h.jail_nonneg

/-- **EndBlocker re-establishes the boundary invariant** -/
theorem start_after_endBlocker {now : Int} {t s' : State} {ups : List Update} (h : Inv now t)
    (he : endBlocker t = .ok (s', ups)) : Start s' := by
  have hr := rankOk_of_inv h
  obtain ⟨_, hp⟩ := C13H.endBlocker_result hr he
  refine ⟨C13H.rankOk_preserved hr he, ?_, ?_, by rw [hp.frame.params]; exact h.jail_nonneg⟩
  · intro a v ha hv
    obtain ⟨p, hp'⟩ := exists_of_mem_keys ha
    obtain ⟨w, hw, hact, _⟩ := C13H.valset_members_active hr he hp'
    rw [hv] at hw
    cases hw
    exact hact
  · intro d a x hm
    rw [hp.frame.lockingIdx] at hm
    obtain ⟨v, hv, r⟩ := h.idx_ok d a x hm
    obtain ⟨v', hv', hrel⟩ := C13H.rec_forward hp hv
    obtain ⟨h1, _, h3, hlk⟩ := C13H.rec_same hrel
    exact ⟨v', hv', r.congr h3 hlk h1⟩

/-- EndBlocker keeps "address = hash of the key" -/
theorem keyOk_after_endBlocker {hash160 : Bytes → Bytes} {now : Int} {t s' : State} {ups : List Update} (h : Inv now t)
    (hk : KeyOk hash160 t) (he : endBlocker t = .ok (s', ups)) : KeyOk hash160 s' := by
  obtain ⟨_, hp⟩ := C13H.endBlocker_result (rankOk_of_inv h) he
  intro a v' hv'
  obtain ⟨v, hv, hrel⟩ := C13H.rec_backward hp hv'
  rw [(C13H.rec_same hrel).2.1]
  exact hk a v hv

/-! ## every operation between two EndBlockers preserves the invariant -/

section Ops
variable {now : Int} {s s' : State}

theorem create_inv (hash160 : Bytes → Bytes) (hasAccount : Bytes → Bool) {reqs : List CreateReq} {accs : List Bytes}
    (h : Inv now s) (he : create hash160 hasAccount s reqs = .ok (s', accs)) : Inv now s' :=
  (create_tr hash160 hasAccount h he).inv

theorem lockOne_inv {a : Bytes} {coins : Coins} (h : Inv now s) (he : lockOne s now a coins = .ok s') : Inv now s' :=
  (lockOne_tr id h he).inv

theorem lock_inv {reqs : List LockReq} (h : Inv now s) (he : lock s now reqs = .ok s') : Inv now s' :=
  (lock_tr id h he).inv

theorem unlockCore_inv {r : UnlockReq} {ex : Bool} {amt : Int} (h : Inv now s)
    (he : unlockCore s r = .ok (s', ex, amt)) : Inv now s' :=
  (unlockCore_tr id h he).inv

theorem unlockOne_inv {r : UnlockReq} (h : Inv now s) (he : unlockOne s now r = .ok s') : Inv now s' :=
  (unlockOne_tr id h he).inv

theorem unlock_inv {reqs : List UnlockReq} (h : Inv now s) (he : unlock s now reqs = .ok s') : Inv now s' :=
  (unlock_tr id h he).inv

theorem onWeightChanged_inv {token : String} {prev cur : Nat} (h : Inv now s)
    (he : onWeightChanged s token prev cur = .ok s') : Inv now s' :=
  (onWeightChanged_tr id h he).inv

theorem updateTokens_inv {weights : List (String × Nat)} {thresholds : List (String × Int)} (h : Inv now s)
    (he : updateTokens s weights thresholds = .ok s') : Inv now s' :=
  (updateTokens_tr id h he).inv

theorem claim_inv {reqs : List ClaimReq} (h : Inv now s) (he : claim s reqs = .ok s') : Inv now s' :=
  inv_equiv h (claim_equiv he)

theorem updateRewardPool_inv {height : Int} {gas grants : List Int} (h : Inv now s)
    (he : updateRewardPool s height gas grants = .ok s') : Inv now s' :=
  inv_equiv h (updateRewardPool_equiv he)

theorem processRequests_inv (hash160 : Bytes → Bytes) (hasAccount : Bytes → Bool) {height : Int} {R : Reqs}
    {accs : List Bytes} (h : Inv now s) (he : processRequests hash160 hasAccount s height now R = .ok (s', accs)) :
    Inv now s' :=
  (processRequests_tr hash160 hasAccount h he).inv

theorem distributeReward_inv {height : Int} {votes : List VoteInfo} (h : Inv now s)
    (he : distributeReward s height votes = .ok s') : Inv now s' :=
  inv_equiv h (distributeReward_equiv he)

theorem dequeueMature_inv (t : Int) (h : Inv now s) : Inv now (dequeueMature s t) :=
  inv_equiv h (dequeueMature_equiv s t)

theorem handleVote_inv {vi : VoteInfo} (h : Inv now s) (he : handleVote s now vi = .ok s') : Inv now s' :=
  (handleVote_tr id h he).inv

theorem handleVotes_inv {votes : List VoteInfo} (h : Inv now s) (he : handleVotes s now votes = .ok s') : Inv now s' :=
  (handleVotes_tr id h he).inv

theorem handleEvidence_inv {height : Int} {maxAge : Option (Int × Int)} {e : Evidence} (h : Inv now s)
    (he : handleEvidence s now height maxAge e = .ok s') : Inv now s' :=
  (handleEvidence_tr id h he).inv

theorem beginBlock_inv {height : Int} {votes : List VoteInfo} {maxAge : Option (Int × Int)} {evs : List Evidence}
    (h : Inv now s) (he : beginBlock s height now votes maxAge evs = .ok s') : Inv now s' :=
  (beginBlock_tr id h he).inv

theorem dequeue_inv (h : Inv now s) : Inv now (dequeue s).1 :=
  inv_equiv h (dequeue_equiv s)

end Ops

/-! ## one block; `Between`; the chain theorem -/

/-- what runs after BeginBlock and before EndBlocker: batches of execution-layer requests and the
    hand-over of matured rewards / unlocks -/
inductive MidOp where
  | process (hasAccount : Bytes → Bool) (r : Reqs)
  | dequeue

/-- the inputs of one block -/
structure Block where
  height : Int
  now : Int
  votes : List VoteInfo
  maxAge : Option (Int × Int)
  evs : List Evidence
  ops : List MidOp

/-- BeginBlock; a failing run leaves the state unchanged (as `C11H.apply`) -/
def applyBegin (s : State) (b : Block) : State :=
  match beginBlock s b.height b.now b.votes b.maxAge b.evs with
  | .ok s' => s'
  | _ => s

/-- one request batch / dequeue; a failing batch (error or panic) is not committed -/
def applyMid (hash160 : Bytes → Bytes) (b : Block) (s : State) : MidOp → State
  | .process hasAccount r =>
    match processRequests hash160 hasAccount s b.height b.now r with
    | .ok (s', _) => s'
    | _ => s
  | .dequeue => (dequeue s).1

/-- the state in which the block's EndBlocker runs -/
def blockStep (hash160 : Bytes → Bytes) (s : State) (b : Block) : State :=
  b.ops.foldl (applyMid hash160 b) (applyBegin s b)

theorem applyBegin_tr (hash160 : Bytes → Bytes) {s : State} (b : Block) (h : Inv b.now s) :
    Tr hash160 b.now s (applyBegin s b) := by
  unfold applyBegin
  split
  · rename_i s' he
    exact beginBlock_tr hash160 h he
  · exact Tr.refl hash160 h

theorem applyMid_tr (hash160 : Bytes → Bytes) (b : Block) {s : State} (op : MidOp) (h : Inv b.now s) :
    Tr hash160 b.now s (applyMid hash160 b s op) := by
  cases op with
  | process hasAccount r =>
    show Tr hash160 b.now s (match processRequests hash160 hasAccount s b.height b.now r with
      | .ok (s', _) => s'
      | _ => s)
    split
    · rename_i s' accs he
      exact processRequests_tr hash160 hasAccount h he
    · exact Tr.refl hash160 h
  | dequeue => exact tr_of_equiv hash160 h (dequeue_equiv s)

theorem foldl_applyMid_tr (hash160 : Bytes → Bytes) (b : Block) : ∀ (ops : List MidOp) (s : State), Inv b.now s →
    Tr hash160 b.now s (ops.foldl (applyMid hash160 b) s)
  | [], _, h => Tr.refl hash160 h
  | op :: ops, s, h => by
    rw [List.foldl_cons]
    have t1 := applyMid_tr hash160 b op h
    exact t1.trans (foldl_applyMid_tr hash160 b ops _ t1.inv)

/-- **a whole block (up to EndBlocker) is a transition** -/
theorem blockStep_tr (hash160 : Bytes → Bytes) {s : State} (b : Block) (h : Inv b.now s) :
    Tr hash160 b.now s (blockStep hash160 s b) := by
  unfold blockStep
  have t1 := applyBegin_tr hash160 b h
  exact t1.trans (foldl_applyMid_tr hash160 b b.ops _ t1.inv)

/-- **the block relation**: `t` is the state before the next EndBlocker, reached from a block-boundary
    state `s` by BeginBlock and any sequence of request batches / dequeues -/
def R (hash160 : Bytes → Bytes) (s t : State) : Prop :=
  Start s ∧ KeyOk hash160 s ∧ ∃ b : Block, t = blockStep hash160 s b

theorem R.tr {hash160 : Bytes → Bytes} {s t : State} (h : R hash160 s t) : ∃ now, Tr hash160 now s t := by
  obtain ⟨hs, _, b, rfl⟩ := h
  exact ⟨b.now, blockStep_tr hash160 b (hs.inv b.now)⟩

/-- **the rest of the block satisfies `C13H.Between`** -/
theorem between_R (hash160 : Bytes → Bytes) : C13H.Between (R hash160) where
  rankOk := fun _ _ h _ =>
    let ⟨_, ht⟩ := h.tr
    rankOk_of_inv ht.inv
  pkInj := fun _ _ h _ _ =>
    let ⟨_, ht⟩ := h.tr
    pkInj_of_keyOk (ht.key h.2.1)
  valset := fun _ _ h =>
    let ⟨_, ht⟩ := h.tr
    ht.valset
  pk := by
    intro s t h a ha
    obtain ⟨_, ht⟩ := h.tr
    obtain ⟨p, hp⟩ := exists_of_mem_keys ha
    obtain ⟨v, hv⟩ := h.1.rankOk.valset_rec a p hp
    obtain ⟨w, hw, hpk⟩ := ht.pk a v hv
    unfold C13H.pkOf
    rw [hv, hw, Option.map_some, Option.map_some, hpk]

/-- a chain of blocks: each block's pre-EndBlocker state, EndBlocker, CometBFT's update -/
def runBlocks (hash160 : Bytes → Bytes) : State → Comet.VSet → List Block → Option (State × Comet.VSet)
  | s, cs, [] => some (s, cs)
  | s, cs, b :: bs =>
    match C13H.blockEnd (blockStep hash160 s b) cs with
    | some (s', cs') => runBlocks hash160 s' cs' bs
    | none => none

/-- no block runs into one of the two excluded failure modes (total power above CometBFT's maximum —
    F6b; emptied set — F10) -/
def Safe (hash160 : Bytes → Bytes) : State → Comet.VSet → List Block → Prop
  | _, _, [] => True
  | s, cs, b :: bs =>
    C13H.SafeBlock (blockStep hash160 s b) ∧
    ∀ s' cs', C13H.blockEnd (blockStep hash160 s b) cs = some (s', cs') → Safe hash160 s' cs' bs

theorem blockEnd_some {t s' : State} {cs cs' : Comet.VSet} (h : C13H.blockEnd t cs = some (s', cs')) :
    ∃ ups, endBlocker t = .ok (s', ups) := by
  unfold C13H.blockEnd at h
  split at h
  · rename_i s2 ups he
    split at h
    · cases h; exact ⟨ups, he⟩
    · cases h
  · cases h

/-- the block boundary after one block: EndBlocker re-establishes `Start` and keeps `KeyOk` -/
theorem boundary_after_block {hash160 : Bytes → Bytes} {s s' : State} {cs cs' : Comet.VSet} {b : Block} (hs : Start s)
    (hk : KeyOk hash160 s) (hb : C13H.blockEnd (blockStep hash160 s b) cs = some (s', cs')) :
    Start s' ∧ KeyOk hash160 s' := by
  obtain ⟨ups, he⟩ := blockEnd_some hb
  have ht := blockStep_tr hash160 b (hs.inv b.now)
  exact ⟨start_after_endBlocker ht.inv he, keyOk_after_endBlocker ht.inv (ht.key hk) he⟩

/-- **(C13, accumulated from genesis, with no `RankOk` hypothesis left)**
    From a block-boundary state satisfying `Start` (e.g. an imported genesis) whose addresses are the
    hashes of the consensus keys, with CometBFT holding the recorded set: after every prefix of any
    chain of blocks — arbitrary votes, evidence, request batches, each batch committed or discarded —
    in which no block hits one of the two excluded failure modes, every EndBlocker has succeeded, every
    update list has been accepted, and CometBFT's set equals the module's record.
    Block by block from `C13H.good_after_block`, instantiated with `between_R`. -/
theorem sync_chain (hash160 : Bytes → Bytes) (bs : List Block) (s : State) (cs : Comet.VSet)
    (hs : Start s) (hk : KeyOk hash160 s) (hsync : C13H.Sync s cs) (hsafe : Safe hash160 s cs bs) (n : Nat) :
    ∃ s' cs', runBlocks hash160 s cs (bs.take n) = some (s', cs') ∧ C13H.RankOk s' ∧ C13H.Sync s' cs' := by
  induction n generalizing bs s cs with
  | zero => exact ⟨s, cs, by rw [List.take_zero]; rfl, hs.rankOk, hsync⟩
  | succ n ih =>
    cases bs with
    | nil => exact ⟨s, cs, rfl, hs.rankOk, hsync⟩
    | cons b bs =>
      obtain ⟨s1, cs1, hb, hg1⟩ := C13H.good_after_block (between_R hash160) ⟨hs.rankOk, pkInj_of_keyOk hk, hsync⟩
        ⟨hs, hk, b, rfl⟩ hsafe.1
      obtain ⟨hs1, hk1⟩ := boundary_after_block hs hk hb
      obtain ⟨s', cs', hrun, h'⟩ := ih bs s1 cs1 hs1 hk1 hg1.sync (hsafe.2 s1 cs1 hb)
      refine ⟨s', cs', ?_, h'⟩
      rw [List.take_succ_cons]
      unfold runBlocks
      rw [hb]
      exact hrun

/-- the boundary invariant itself is carried along the chain -/
theorem start_chain (hash160 : Bytes → Bytes) : ∀ (bs : List Block) (s : State) (cs : Comet.VSet) (s' : State)
    (cs' : Comet.VSet), Start s → KeyOk hash160 s → runBlocks hash160 s cs bs = some (s', cs') →
    Start s' ∧ KeyOk hash160 s'
  | [], s, cs, s', cs', hs, hk, hrun => by
    unfold runBlocks at hrun
    cases hrun
    exact ⟨hs, hk⟩
  | b :: bs, s, cs, s', cs', hs, hk, hrun => by
    unfold runBlocks at hrun
    split at hrun
    · rename_i s1 cs1 hb
      obtain ⟨hs1, hk1⟩ := boundary_after_block hs hk hb
      exact start_chain hash160 bs s1 cs1 s' cs' hs1 hk1 hrun
    · cases hrun

/-- **EndBlocker never fails after any block** from a block-boundary state, and re-establishes the
    boundary invariant (no hypothesis on votes, evidence or requests; no `Safe` needed) -/
theorem endBlocker_never_fails_after_block (hash160 : Bytes → Bytes) {s : State} (hs : Start s) (b : Block) :
    ∃ s' ups, endBlocker (blockStep hash160 s b) = .ok (s', ups) ∧ Start s' := by
  have ht := blockStep_tr hash160 b (hs.inv b.now)
  obtain ⟨s', ups, he⟩ := C13H.endBlocker_never_fails (rankOk_of_inv ht.inv)
  exact ⟨s', ups, he, start_after_endBlocker ht.inv he⟩

/-- the locking module alone along a chain of blocks -/
def runLocking (hash160 : Bytes → Bytes) : State → List Block → Option State
  | s, [] => some s
  | s, b :: bs =>
    match endBlocker (blockStep hash160 s b) with
    | .ok (s', _) => runLocking hash160 s' bs
    | _ => none

/-- **for any history of votes, evidence and execution-layer requests no EndBlocker fails** -/
theorem endBlockers_never_fail (hash160 : Bytes → Bytes) : ∀ (bs : List Block) (s : State), Start s →
    ∃ s', runLocking hash160 s bs = some s' ∧ Start s'
  | [], s, hs => ⟨s, rfl, hs⟩
  | b :: bs, s, hs => by
    obtain ⟨s1, ups, he, hs1⟩ := endBlocker_never_fails_after_block hash160 hs b
    obtain ⟨s2, hrun, hs2⟩ := endBlockers_never_fail hash160 bs s1 hs1
    refine ⟨s2, ?_, hs2⟩
    unfold runLocking
    rw [he]
    exact hrun

/-! ### genesis -/

/-- C18's `Derived` (what the import establishes) gives the boundary invariant, given distinct
    addresses and sane parameters -/
theorem start_of_derived {s : State} (hd : C18.Derived s) (hn : (s.validators.map (·.1)).Nodup)
    (hm : 0 ≤ s.params.maxValidators) (hj : 0 ≤ s.params.downtimeJail) : Start s where
  rankOk := C13H.rankOk_of_derived hd hn hm
  members_active := by
    intro a v ha hv
    obtain ⟨p, hp'⟩ := exists_of_mem_keys ha
    obtain ⟨w, hw, hact, _⟩ := (hd.valset_mem a p).mp hp'
    have := assoc_unique _ hn a v w (mem_of_vget hv) hw
    subst this
    exact hact
  idx_ok := by
    intro d a x hmem
    obtain ⟨v, hv, hel, hc⟩ := (hd.idx_mem d a x).mp hmem
    exact ⟨v, vget_of_mem hn hv, Or.inl ⟨hel, fun _ => List.mem_map.mpr ⟨(d, x), hc, rfl⟩⟩⟩
  jail_nonneg := hj

/-- **an imported genesis satisfies everything the chain theorem asks of the initial state** -/
theorem start_of_genesis (h : Bytes → Bytes) (g : Genesis.LGenesis) (wf : C18.WfGenesis h g)
    (hnn : ∀ t ∈ g.tokens, 0 ≤ t.2.threshold)
    (hm : 0 ≤ g.params.maxValidators) (hj : 0 ≤ g.params.downtimeJail) :
    Genesis.initGenesis h g = .ok (Genesis.initGenesisCore h g) ∧
    Start (Genesis.initGenesisCore h g).1 ∧ KeyOk h (Genesis.initGenesisCore h g).1 := by
  obtain ⟨hok, hder⟩ := C18.initGenesis_establishes_Derived h g wf hnn
  obtain ⟨sl, uq, hspec, _, _⟩ := C18.initGenesisCore_spec h g wf
  have hvals : (Genesis.initGenesisCore h g).1.validators = C18.keyed h g.validators := by rw [hspec]
  have hpar : (Genesis.initGenesisCore h g).1.params = g.params := by rw [hspec]
  have hn : ((Genesis.initGenesisCore h g).1.validators.map (·.1)).Nodup := by
    rw [hvals]
    unfold C18.keyed
    rw [List.map_map]
    exact wf.vals
  refine ⟨hok, start_of_derived hder hn (by rw [hpar]; exact hm) (by rw [hpar]; exact hj), ?_⟩
  · intro a v hv
    have hmem := mem_of_vget hv
    rw [hvals] at hmem
    unfold C18.keyed at hmem
    obtain ⟨w, _, heq⟩ := List.mem_map.mp hmem
    have h1 : h w.pubkey = a := congrArg Prod.fst heq
    have h2 : w = v := congrArg Prod.snd heq
    subst h2
    exact h1

/-- **the chain theorem from an imported genesis**: CometBFT is handed the recorded set at InitChain -/
theorem sync_chain_genesis (h : Bytes → Bytes) (g : Genesis.LGenesis) (wf : C18.WfGenesis h g)
    (hnn : ∀ t ∈ g.tokens, 0 ≤ t.2.threshold)
    (hm : 0 ≤ g.params.maxValidators) (hj : 0 ≤ g.params.downtimeJail) (bs : List Block)
    (hsafe : Safe h (Genesis.initGenesisCore h g).1 (C13H.cometOf (Genesis.initGenesisCore h g).1) bs) (n : Nat) :
    ∃ s' cs', runBlocks h (Genesis.initGenesisCore h g).1 (C13H.cometOf (Genesis.initGenesisCore h g).1) (bs.take n)
        = some (s', cs') ∧ C13H.RankOk s' ∧ C13H.Sync s' cs' := by
  obtain ⟨_, hs, hk⟩ := start_of_genesis h g wf hnn hm hj
  exact sync_chain h bs _ _ hs hk (C13H.sync_genesis _) hsafe n

/-! ## the hypothesis `0 ≤ downtimeJail` is necessary -/

section Jail

def cxV : Validator :=
  { pubkey := [1], power := 5, locking := [("goat", 5000000000000000000)], reward := 0, gasReward := 0, status := .active,
    offset := 0, missed := 0, jailedUntil := 0 }

def cxParams (jail : Int) : Params :=
  { (default : Params) with downtimeJail := jail, maxValidators := 2, maxMissed := 1, signedBlocksWindow := 100,
                            slashDowntime := 500000000000000000 }

/-- one Active validator `[1]` (key `[1]`, `hash160 = id`), power 5, recorded; jail period `jail` -/
def cxS (jail : Int) : State :=
  { (default : State) with
    params := cxParams jail,
    validators := [([1], cxV)],
    lockingIdx := [(("goat", [1]), 5000000000000000000)],
    ranking := [(5, [1])],
    valset := [([1], 5)],
    tokens := [("goat", { weight := 1, threshold := 0 })] }

/-- a block at time 100: the validator misses its vote (BeginBlock jails it until `100 + jail`), then a
    lock request for it arrives in the same block -/
def cxBlock : Block :=
  { height := 1, now := 100, votes := [{ address := [1], power := 5, absent := true }], maxAge := none, evs := [],
    ops := [.process (fun _ => false)
      { gas := [0], locks := [{ validator := [1], token := "goat", amount := 2000000000000000000 }] }] }

theorem cx_start : Start (cxS 0) :=
  start_of_derived (by decide +kernel) (by decide) (by decide) (by decide)

theorem cx_keyOk (jail : Int) : KeyOk id (cxS jail) := by
  intro a v hv
  have hm := mem_of_vget hv
  simp only [cxS, List.mem_cons, Prod.mk.injEq, List.not_mem_nil, or_false] at hm
  obtain ⟨rfl, rfl⟩ := hm
  rfl

/-- with `downtimeJail = 0` (any non-negative value) the block is harmless: EndBlocker succeeds -/
theorem jail_nonneg_ok : ∃ s' ups, endBlocker (blockStep id (cxS 0) cxBlock) = .ok (s', ups) :=
  C13H.endBlocker_never_fails (rankOk_of_inv (blockStep_tr id cxBlock (cx_start.inv cxBlock.now)).inv)

/-- **with `downtimeJail = -10` the same block breaks `pending_out`**: the validator jailed in BeginBlock
    (until 90 < 100) is re-locked to Pending by the lock request of the same block while it is still in
    the recorded set … -/
theorem jail_negative_breaks_invariant :
    (vget (blockStep id (cxS (-10)) cxBlock) [1]).map (fun v => (v.status, v.power)) = some (.pending, 4) ∧
    (blockStep id (cxS (-10)) cxBlock).valset = [([1], 5)] ∧
    (blockStep id (cxS (-10)) cxBlock).ranking = [(4, [1])] := by
  decide +kernel

/-- … **and EndBlocker fails** with "pending-in-set" (in the Go code: an error returned from EndBlocker,
    i.e. a consensus failure).  The initial state differs from `cxS 0` (which satisfies `Start`, `cx_start`)
    only in the sign of the jail period. -/
theorem jail_negative_endBlocker_fails :
    (endBlocker (blockStep id (cxS (-10)) cxBlock)).cls = "err:pending-in-set" := by
  decide +kernel

end Jail

/-! ## non-vacuity: an imported genesis and a block that exercises every writer of the ranking -/

section Examples

def exParams : Params :=
  { (default : Params) with downtimeJail := 60, maxValidators := 2, maxMissed := 1, signedBlocksWindow := 100,
                            slashDowntime := 500000000000000000, unlockDuration := 10, exitingDuration := 20 }

def exVal (pk : Bytes) (pw : Nat) (amt : Int) : Validator :=
  { pubkey := pk, power := pw, locking := [("goat", amt)], reward := 0, gasReward := 0, status := .active,
    offset := 0, missed := 0, jailedUntil := 0 }

/-- genesis: two Active validators (`hash160 = id`: address = key), one token of weight 1 -/
def exGenesis : Genesis.LGenesis :=
  { params := exParams,
    validators := [exVal [11] 5 5000000000000000000, exVal [12] 3 3000000000000000000],
    tokens := [("goat", { weight := 1, threshold := 0 })],
    slashed := [], nonce := 0, qRewards := [], qUnlocks := [], pool := { goat := 0, gas := 0, remain := 0 }, unlockQueue := [] }

def ex0 : State := (Genesis.initGenesisCore id exGenesis).1

/-- block at height 5, time 100: `[12]` misses its vote (→ Downgrade, power 0, un-ranked, slashed);
    then one batch: the token weight doubles (`onWeightChanged`: `[11]` 5 → 10), `[13]` is created
    (Pending, power 0), `[11]` locks 2 more (→ 14) and unlocks 1 (→ 12), `[11]` claims; then a dequeue -/
def exBlock : Block :=
  { height := 5, now := 100,
    votes := [{ address := [11], power := 5, absent := false }, { address := [12], power := 3, absent := true }],
    maxAge := none, evs := [],
    ops := [.process (fun _ => false)
              { gas := [7], weights := [("goat", 2)], creates := [{ validator := [13], compressed := [13] }],
                locks := [{ validator := [11], token := "goat", amount := 2000000000000000000 }],
                unlocks := [{ id := 1, validator := [11], recipient := [99], token := "goat", tokenAddr := [],
                              amount := 1000000000000000000 }],
                claims := [{ id := 2, validator := [11], recipient := [99] }] },
            .dequeue] }

/-- the import succeeds and establishes everything `sync_chain` asks of the initial state -/
theorem ex0_start : Start ex0 ∧ KeyOk id ex0 :=
  (start_of_genesis id exGenesis (by decide) (by decide) (by decide) (by decide)).2

/-- the invariant holds in the state in which the block's EndBlocker runs (by the theorems) … -/
theorem ex_inv : Inv 100 (blockStep id ex0 exBlock) :=
  (blockStep_tr id exBlock (ex0_start.1.inv 100)).inv

/-- … and that state is the expected one (by evaluation): every request was committed -/
theorem ex_state :
    (blockStep id ex0 exBlock).ranking = [(12, [11])] ∧
    (blockStep id ex0 exBlock).valset = [([11], 5), ([12], 3)] ∧
    (vget (blockStep id ex0 exBlock) [11]).map (fun v => (v.status, v.power)) = some (.active, 12) ∧
    (vget (blockStep id ex0 exBlock) [12]).map (fun v => (v.status, v.power, v.jailedUntil)) = some (.downgrade, 0, 160) ∧
    (vget (blockStep id ex0 exBlock) [13]).map (fun v => (v.status, v.power)) = some (.pending, 0) := by
  decide +kernel

theorem ex_top : C13H.top (blockStep id ex0 exBlock) = [(12, [11])] := by decide +kernel

theorem ex_safe : Safe id ex0 (C13H.cometOf ex0) [exBlock] := by
  refine ⟨?_, fun _ _ _ => trivial⟩
  intro s' ups he
  have hr := rankOk_of_inv ex_inv
  constructor
  · rw [C13H.total_after hr he, ex_top]; decide
  · intro h0
    have := (C13H.empty_after_iff hr he).mp h0
    rw [ex_top] at this
    cases this

/-- the chain theorem applies: its hypotheses are satisfiable -/
theorem ex_chain : ∃ s' cs', runBlocks id ex0 (C13H.cometOf ex0) [exBlock] = some (s', cs') ∧
    C13H.RankOk s' ∧ C13H.Sync s' cs' :=
  sync_chain id [exBlock] ex0 (C13H.cometOf ex0) ex0_start.1 ex0_start.2 (C13H.sync_genesis ex0) ex_safe 1

/-- the same by evaluation: EndBlocker reports the new power of key `[11]` and the removal of key `[12]`;
    CometBFT's set and the recorded set are both `{[11] ↦ 12}` -/
theorem ex_run : (runBlocks id ex0 (C13H.cometOf ex0) [exBlock]).map (fun r => (r.1.valset, r.2)) =
    some ([([11], 12)], [([11], 12)]) := by
  decide +kernel

end Examples

end Goat.C13B
