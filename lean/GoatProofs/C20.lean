/-
  C20 — bridge parameters set from the execution layer stay within safe bounds: genesis validation
  establishes `ParamInv`, applying a request list keeps it (`requests_preserve_bounds`), and within it the
  deposit tax stays below the value.  `ProcessBridgeRequest` writes the parameters through `applyParamReqs`
  only (`processBridgeRequest_params`); that it keeps `ParamInv` is these two put together and is not
  stated as one theorem.
-/
import GoatProofs.Lemmas.BitcoinOps
namespace Goat.C20
open Goat.Bitcoin

/-- the safe bounds: tax rate below 100 %, minimum deposit at least the dust limit, depth ≥ 1 -/
def ParamInv (p : Params) : Prop := p.taxRate < 10000 ∧ p.minDeposit ≥ 1000 ∧ p.confirmations ≥ 1

instance (p : Params) : Decidable (ParamInv p) := by unfold ParamInv; exact inferInstance

/-- genesis validation (as repaired: a rate of exactly 100 % is refused) establishes the bounds -/
theorem validate_establishes (p : Params) (h : paramsValidate p = true) : ParamInv p := by
  obtain ⟨h1, _, h3, h4⟩ := (paramsValidate_iff p).mp h
  refine ⟨?_, h1, Nat.pos_of_ne_zero h3⟩
  by_cases hr : p.taxRate > 0
  · rw [if_pos hr] at h4
    exact h4.2.1
  · omega

theorem foldl_preserves {α β : Type} {P : α → Prop} {f : α → β → α} (hf : ∀ a b, P a → P (f a b))
    (l : List β) {a : α} (ha : P a) : P (l.foldl f a) := by
  induction l generalizing a with
  | nil => exact ha
  | cons b l ih => exact ih (hf a b ha)

/-- **Every request list keeps the bounds**, for arbitrary 64-bit (indeed arbitrary) values:
    out-of-range requests are ignored. -/
theorem requests_preserve_bounds (p : Params) (r : BridgeReqs) (h : ParamInv p) : ParamInv (applyParamReqs p r) := by
  unfold applyParamReqs
  refine foldl_preserves ?_ _ (foldl_preserves ?_ _ (foldl_preserves ?_ _ h))
  · intro p n ⟨hr, hm, hc⟩
    split
    · exact ⟨hr, Nat.le_of_lt ‹n > 1000›, hc⟩
    · exact ⟨hr, hm, hc⟩
  · intro p n ⟨hr, hm, hc⟩
    split
    · exact ⟨hr, hm, Nat.pos_of_ne_zero ‹n ≠ 0›⟩
    · exact ⟨hr, hm, hc⟩
  · intro p t ⟨hr, hm, hc⟩
    dsimp only
    split
    · exact ⟨‹t.1 < 10000›, hm, hc⟩
    · exact ⟨hr, hm, hc⟩

/-- every history of request lists keeps the bounds -/
theorem history_preserves_bounds (p : Params) (rs : List BridgeReqs) (h : ParamInv p) :
    ParamInv (rs.foldl applyParamReqs p) :=
  foldl_preserves (fun p r => requests_preserve_bounds p r) rs h

/-- `ProcessBridgeRequest` changes the parameters only through `applyParamReqs` -/
theorem processBridgeRequest_params (c : Crypto) (s s' : State) (r : BridgeReqs)
    (h : processBridgeRequest c s r = .ok s') : s'.params = s.params ∨ s'.params = applyParamReqs s.params r := by
  rcases processBridgeRequest_ok h with ⟨_, rfl⟩ | ⟨_, s2, s3, h2, h3, rfl⟩
  · exact Or.inl rfl
  · exact Or.inr (by rw [processBridgeRequest_goCancel_frame h3, processBridgeRequest_goRbf_frame h2])

/-! ### consequences for deposits -/

theorem div_mul_lt {v d k : Nat} (hk : k < d) (hv : 0 < v) : v / d * k < v := by
  rcases Nat.eq_zero_or_pos (v / d) with h | h
  · rw [h, Nat.zero_mul]; exact hv
  · exact Nat.lt_of_lt_of_le (Nat.mul_lt_mul_of_pos_left hk h) (Nat.div_mul_le_self v d)

/-- **The tax never reaches the value, the credited amount is positive and nothing wraps**:
    for every parameter setting within the bounds and every 64-bit output value that passes the
    minimum-deposit test. -/
theorem tax_below_value (p : Params) (v : Nat) (h : ParamInv p) (hv : v < two64) (hmin : p.minDeposit ≤ v) :
    (taxOf p v).2 < v ∧ (taxOf p v).1 + (taxOf p v).2 = v ∧ 0 < (taxOf p v).1 := by
  obtain ⟨hr, hm, _⟩ := h
  obtain ⟨_, hle, h1⟩ := taxOf_spec p v hr hv
  have hlt : (taxOf p v).2 < v :=
    Nat.lt_of_le_of_lt hle (div_mul_lt hr (Nat.lt_of_lt_of_le (by decide) (Nat.le_trans hm hmin)))
  rw [h1]
  exact ⟨hlt, Nat.sub_add_cancel (Nat.le_of_lt hlt), Nat.sub_pos_of_lt hlt⟩

/-- the tax is `min(cap, ⌊value/10000⌋·rate)`, uncapped when the cap is 0,
    and no tax on values up to 10000 satoshi or with rate 0 -/
theorem tax_formula (p : Params) (v : Nat) (h : ParamInv p) (hv : v < two64) :
    (taxOf p v).2 =
      if p.taxRate > 0 ∧ v > 10000 then
        (if p.maxTax > 0 ∧ v / 10000 * p.taxRate > p.maxTax then p.maxTax else v / 10000 * p.taxRate)
      else 0 :=
  (taxOf_spec p v h.1 hv).1

/-- no dust deposit is ever accepted: the minimum stays at or above 1000 satoshi -/
theorem no_dust (p : Params) (rs : List BridgeReqs) (h : ParamInv p) : (rs.foldl applyParamReqs p).minDeposit ≥ 1000 :=
  (history_preserves_bounds p rs h).2.1

/-- finding F8: at a rate of exactly 100 % (which the unrepaired genesis validation admitted; `paramsValidate`
    refuses it, see `validate_establishes`) the whole value goes to tax -/
theorem F8_rate_10000_takes_everything :
    ∃ p : Params, p.taxRate = 10000 ∧ p.maxTax = 0 ∧ (taxOf p 20000).1 = 0 := by
  exact ⟨{ minDeposit := 1000, confirmations := 1, taxRate := 10000, maxTax := 0, magic := [] }, rfl, rfl, by decide⟩

-- the bounds can be met, so the theorems that assume `ParamInv` are not empty
example : ParamInv { minDeposit := 1000, confirmations := 1, taxRate := 9999, maxTax := 0, magic := [] } := by decide

end Goat.C20
