/-
  C11 — locked funds are conserved: locked = held + slashed + released.  Here: what a slash takes
  (`⌊holding · fraction⌋`, never more than the holding); conservation across histories is in C11H.
-/
import GoatModel.Locking
import GoatProofs.Lemmas.Arith
namespace Goat.C11
open Goat.Locking

/-- the amount taken by a slash is `⌊holding · fraction⌋` -/
theorem slash_amount (a frac : Nat) : slashAmount a frac = a * frac / e18 := slashAmount_eq a frac

/-- a slash never takes more than the holding (fractions are validated to be below one) -/
theorem slash_le_holding (a frac : Nat) (hf : frac ≤ e18) : slashAmount a frac ≤ a := slashAmount_le a frac hf

end Goat.C11
