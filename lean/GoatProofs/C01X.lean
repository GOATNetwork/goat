/-
  C01 / C02 — the sign document binds its fields, with the collision made EXPLICIT.

  `C01S` states "equal documents ⇒ equal fields, or `Collision sha256`" (some two different inputs with the same
  hash).  For an abstract hash this is a genuine reduction, but for any hash with fixed-length outputs the second
  disjunct is true anyway (pigeonhole, `exists_collision_of_length_lt`), and the disjunction then says nothing.
  Here the collision is named: it is the pair of the two documents' own pre-images (and, for the messages that embed a
  transaction digest, possibly the two transactions).  Whoever gets a vote for one message accepted for another has
  *these* two byte strings in hand, and they collide.
-/
import GoatProofs.C01S
namespace Goat.C01X
open Goat Goat.Relayer Goat.C01S

/-- `x` and `y` are a collision of `f` -/
def CollisionAt (f : Bytes → Bytes) (x y : Bytes) : Prop := x ≠ y ∧ f x = f y

theorem CollisionAt.collision {f x y} (h : CollisionAt f x y) : Collision f := ⟨x, y, h.1, h.2⟩

theorem eq_or_collisionAt (f : Bytes → Bytes) {x y : Bytes} (h : f x = f y) : x = y ∨ CollisionAt f x y :=
  if e : x = y then Or.inl e else Or.inr ⟨e, h⟩

/-- **the sign document binds sequence, epoch, action, proposer and payload — or the two pre-images collide** -/
theorem signDoc_binds_explicit (c : Crypto) {m m' : String} {d d' : Bytes}
    (hm : m ∈ methods) (hm' : m' ∈ methods)
    (hp : (strBytes p).length = (strBytes p').length)
    (hs : seq < two64) (hs' : seq' < two64) (he : epoch < two64) (he' : epoch' < two64)
    (h : voteSignDoc c m chain p seq epoch d = voteSignDoc c m' chain p' seq' epoch' d') :
    (seq = seq' ∧ epoch = epoch' ∧ m = m' ∧ p = p' ∧ d = d') ∨
      CollisionAt c.sha256 (preimage chain m p seq epoch d) (preimage chain m' p' seq' epoch' d') :=
  (eq_or_collisionAt c.sha256 h).imp_left (preimage_injective hm hm' hp hs hs' he he')

/-- the same over all six documents (bridge actions and the voter's proof of possession) -/
theorem signDoc_binds_all_explicit (c : Crypto) {m m' : String} {d d' : Bytes}
    (hm : m ∈ allMethods) (hm' : m' ∈ allMethods)
    (hp : (strBytes p).length = (strBytes p').length)
    (hs : seq < two64) (hs' : seq' < two64) (he : epoch < two64) (he' : epoch' < two64)
    (h : voteSignDoc c m chain p seq epoch d = voteSignDoc c m' chain p' seq' epoch' d') :
    (seq = seq' ∧ epoch = epoch' ∧ m = m' ∧ p = p' ∧ d = d') ∨
      CollisionAt c.sha256 (preimage chain m p seq epoch d) (preimage chain m' p' seq' epoch' d') :=
  (eq_or_collisionAt c.sha256 h).imp_left
    (preimage_injective_of_prefixFree allMethods_prefix_free hm hm' hp hs hs' he he')

/-- a vote signed for another chain id of the same length never verifies here — or the pre-images collide -/
theorem signDoc_binds_chain_explicit (c : Crypto) {m : String} {d : Bytes} {chain chain' : String}
    (hc : (strBytes chain).length = (strBytes chain').length)
    (h : voteSignDoc c m chain p seq epoch d = voteSignDoc c m chain' p seq epoch d) :
    strBytes chain = strBytes chain' ∨
      CollisionAt c.sha256 (preimage chain m p seq epoch d) (preimage chain' m p seq epoch d) := by
  refine (eq_or_collisionAt c.sha256 h).imp_left fun e => ?_
  simp only [List.append_assoc] at e
  exact (List.append_inj e hc).1

/-- ProcessWithdrawal: equal documents ⇒ the same ids in the same order, the same fee and the same transaction — or
    the two pre-images collide, or the two transactions do -/
theorem processWithdrawal_doc_binds_explicit (c : Crypto) (hlen : ∀ x, (c.sha256 x).length = 32)
    (hp : (strBytes p).length = (strBytes p').length)
    (hs : seq < two64) (hs' : seq' < two64) (he : epoch < two64) (he' : epoch' < two64)
    {ids ids' : List Nat} {tx tx' : Bytes} {fee fee' : Nat}
    (hi : ∀ i ∈ ids, i < two64) (hi' : ∀ i ∈ ids', i < two64) (hf : fee < two64) (hf' : fee' < two64)
    (h : voteSignDoc c "Bitcoin/ProcessWithdrawal" chain p seq epoch ((ids.map le64).flatten ++ c.sha256 tx ++ le64 fee)
       = voteSignDoc c "Bitcoin/ProcessWithdrawal" chain p' seq' epoch' ((ids'.map le64).flatten ++ c.sha256 tx' ++ le64 fee')) :
    (seq = seq' ∧ epoch = epoch' ∧ p = p' ∧ ids = ids' ∧ fee = fee' ∧ tx = tx') ∨
      CollisionAt c.sha256 (preimage chain "Bitcoin/ProcessWithdrawal" p seq epoch ((ids.map le64).flatten ++ c.sha256 tx ++ le64 fee))
        (preimage chain "Bitcoin/ProcessWithdrawal" p' seq' epoch' ((ids'.map le64).flatten ++ c.sha256 tx' ++ le64 fee')) ∨
      CollisionAt c.sha256 tx tx' := by
  refine doc_binds_of_payload c mem_ProcessWithdrawal hp hs hs' he he' (fun e => ?_) h
  obtain ⟨a, b, f⟩ := processWithdrawal_data_injective hi hi' ((hlen tx).trans (hlen tx').symm) hf hf' e
  exact (eq_or_collisionAt c.sha256 b).imp_left fun e => ⟨a, f, e⟩

/-- ReplaceWithdrawal: equal documents ⇒ the same process id, fee and transaction — or an explicit collision -/
theorem replaceWithdrawal_doc_binds_explicit (c : Crypto)
    (hp : (strBytes p).length = (strBytes p').length)
    (hs : seq < two64) (hs' : seq' < two64) (he : epoch < two64) (he' : epoch' < two64)
    {pid pid' fee fee' : Nat} {tx tx' : Bytes}
    (hpid : pid < two64) (hpid' : pid' < two64) (hf : fee < two64) (hf' : fee' < two64)
    (h : voteSignDoc c "Bitcoin/ReplaceWithdrawal" chain p seq epoch (le64 pid ++ le64 fee ++ c.sha256 tx)
       = voteSignDoc c "Bitcoin/ReplaceWithdrawal" chain p' seq' epoch' (le64 pid' ++ le64 fee' ++ c.sha256 tx')) :
    (seq = seq' ∧ epoch = epoch' ∧ p = p' ∧ pid = pid' ∧ fee = fee' ∧ tx = tx') ∨
      CollisionAt c.sha256 (preimage chain "Bitcoin/ReplaceWithdrawal" p seq epoch (le64 pid ++ le64 fee ++ c.sha256 tx))
        (preimage chain "Bitcoin/ReplaceWithdrawal" p' seq' epoch' (le64 pid' ++ le64 fee' ++ c.sha256 tx')) ∨
      CollisionAt c.sha256 tx tx' := by
  refine doc_binds_of_payload c mem_ReplaceWithdrawal hp hs hs' he he' (fun e => ?_) h
  obtain ⟨a, f, b⟩ := replaceWithdrawal_data_injective hpid hpid' hf hf' e
  exact (eq_or_collisionAt c.sha256 b).imp_left fun e => ⟨a, f, e⟩

/-- non-vacuity: the padding hash of `C01S` (32-byte outputs, not injective) does collide on two different transactions —
    the third disjunct of `processWithdrawal_doc_binds_explicit` is where that shows, and it names them -/
example : CollisionAt padCrypto.sha256 (List.replicate 40 7 ++ [1]) (List.replicate 40 7 ++ [2]) :=
  ⟨by decide, by decide⟩

end Goat.C01X
