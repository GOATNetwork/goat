/-
  C16 — the relayer group is always well formed.  `GroupInv` holds along every finite history of the
  operations of x/relayer that write its state (execution-layer add/remove requests, NewVoter,
  AcceptProposer, the vote check, the end-of-block election); on a well-formed group the election never
  fails, happens exactly when due, and admits only queued joiners.
-/
import GoatModel.Relayer
import GoatProofs.Lemmas.Relayer
import GoatProofs.Lemmas.RelayerGroup
namespace Goat.C16
open Goat.Relayer

/-- proposer followed by the voters: the current members of the group -/
def members (s : State) : List String := s.proposer :: s.voters

/-- **Group well-formedness.**  `stat recs k` is the status of the record stored under `k`. -/
structure GroupInv (s : State) : Prop where
  /-- proposer and voters are pairwise distinct (in particular the proposer is not a voter) -/
  nodup : (members s).Nodup
  /-- every member has a record, activated or awaiting removal at the next election -/
  memberRec : ∀ m ∈ members s, stat s.recs m = some .activated ∨ stat s.recs m = some .offBoarding
  /-- every queued joiner has a record in status on-boarding (so it is not a member) -/
  onRec : ∀ m ∈ s.onBoarding, stat s.recs m = some .onBoarding
  onNodup : s.onBoarding.Nodup
  /-- every entry of the removal queue has a record in status off-boarding -/
  offRec : ∀ m ∈ s.offBoarding, stat s.recs m = some .offBoarding
  offNodup : s.offBoarding.Nodup
  /-- a member awaiting removal is in the removal queue -/
  offListed : ∀ m ∈ members s, stat s.recs m = some .offBoarding → m ∈ s.offBoarding
  /-- at least one member is not in the removal queue -/
  count : ((members s).filter (fun m => s.offBoarding.contains m)).length ≤ s.voters.length

theorem members_congr {s s' : State} (hp : s'.proposer = s.proposer) (hv : s'.voters = s.voters) :
    members s' = members s := by
  unfold members
  rw [hp, hv]

/-! ### the invariant is satisfiable -/

def exampleState : State :=
  { params := { electingPeriod := 600, acceptProposerTimeout := 60 }
    proposer := "p", voters := ["v1", "v2", "v3"], epoch := 7, lastElected := 0, accepted := true, seq := 3,
    randao := [], pubkeys := []
    recs := [("p", ⟨[1], [1], .activated, 0⟩), ("v1", ⟨[2], [2], .activated, 0⟩),
             ("v2", ⟨[3], [3], .offBoarding, 5⟩), ("v3", ⟨[4], [4], .activated, 1⟩),
             ("n1", ⟨[5], [5], .onBoarding, 6⟩), ("n2", ⟨[6], [6], .pending, 6⟩),
             ("x", ⟨[7], [7], .offBoarding, 6⟩)]
    onBoarding := ["n1"], offBoarding := ["v2", "x"] }

example : GroupInv exampleState := by
  constructor <;> decide

/-! ### general consequences -/

theorem GroupInv.proposer_not_voter {s : State} (h : GroupInv s) : s.proposer ∉ s.voters :=
  (List.nodup_cons.mp h.nodup).1

theorem GroupInv.voters_nodup {s : State} (h : GroupInv s) : s.voters.Nodup :=
  (List.nodup_cons.mp h.nodup).2

/-- a member is never queued for joining -/
theorem GroupInv.member_not_onBoarding {s : State} (h : GroupInv s) {m : String} (hm : m ∈ members s) :
    m ∉ s.onBoarding := by
  intro hon
  have h1 := h.onRec m hon
  rcases h.memberRec m hm with h2 | h2 <;> rw [h1] at h2 <;> cases h2

/-- **at least one member is active** (activated and not awaiting removal) -/
theorem GroupInv.exists_active {s : State} (h : GroupInv s) :
    ∃ m ∈ members s, m ∉ s.offBoarding ∧ stat s.recs m = some .activated := by
  have hlt : ((members s).filter (fun m => s.offBoarding.contains m)).length < (members s).length := by
    have := h.count
    show _ < (s.proposer :: s.voters).length
    rw [List.length_cons]; exact Nat.lt_succ_of_le this
  obtain ⟨m, hm, hc⟩ := exists_not_of_filter_length_lt _ _ hlt
  have hno : m ∉ s.offBoarding := by simpa using hc
  refine ⟨m, hm, hno, ?_⟩
  rcases h.memberRec m hm with h2 | h2
  · exact h2
  · exact absurd (h.offListed m hm h2) hno

/-- the invariant reads only proposer, voters, records (through their status) and the two queues -/
theorem GroupInv.of_stat_eq {s s' : State} (h : GroupInv s)
    (hp : s'.proposer = s.proposer) (hv : s'.voters = s.voters)
    (hon : s'.onBoarding = s.onBoarding) (hoff : s'.offBoarding = s.offBoarding)
    (hst : ∀ m, (m ∈ members s ∨ m ∈ s.onBoarding ∨ m ∈ s.offBoarding) → stat s'.recs m = stat s.recs m) :
    GroupInv s' := by
  have hm := members_congr hp hv
  constructor
  · rw [hm]; exact h.nodup
  · rw [hm]; intro m hmm; rw [hst m (Or.inl hmm)]; exact h.memberRec m hmm
  · rw [hon]; intro m hmm; rw [hst m (Or.inr (Or.inl hmm))]; exact h.onRec m hmm
  · rw [hon]; exact h.onNodup
  · rw [hoff]; intro m hmm; rw [hst m (Or.inr (Or.inr hmm))]; exact h.offRec m hmm
  · rw [hoff]; exact h.offNodup
  · rw [hm, hoff]; intro m hmm; rw [hst m (Or.inl hmm)]; exact h.offListed m hmm
  · rw [hm, hoff, hv]; exact h.count

/-- every listed key (member or queued) has a record -/
theorem GroupInv.listed_isSome {s : State} (h : GroupInv s) {m : String}
    (hm : m ∈ members s ∨ m ∈ s.onBoarding ∨ m ∈ s.offBoarding) : (stat s.recs m).isSome := by
  rcases hm with hm | hm | hm
  · rcases h.memberRec m hm with h2 | h2 <;> rw [h2] <;> rfl
  · rw [h.onRec m hm]; rfl
  · rw [h.offRec m hm]; rfl

/-! ### what an election does -/

/-- the effect of an election on the group -/
structure Elected (s s' : State) (now : Int) : Prop where
  /-- records: removal queue erased, joiners activated, everything else untouched -/
  recs : ∀ k, stat s'.recs k =
    if k ∈ s.offBoarding then none
    else if k ∈ s.onBoarding ∧ (stat s.recs k).isSome then some .activated else stat s.recs k
  /-- the new group is a rearrangement of old members plus joiners, minus the removal queue -/
  perm : (members s').Perm ((s.proposer :: (s.voters ++ s.onBoarding)).filter (fun v => !s.offBoarding.contains v))
  onB : s'.onBoarding = []
  offB : s'.offBoarding = []
  epoch : s'.epoch = (s.epoch + 1) % two64
  last : s'.lastElected = now
  rest : s'.params = s.params ∧ s'.seq = s.seq ∧ s'.randao = s.randao ∧ s'.pubkeys = s.pubkeys

/-- membership after an election: exactly the old members and queued joiners that are not in the
    removal queue (no invariant needed) -/
theorem Elected.mem_iff {s s' : State} {now : Int} (e : Elected s s' now) (m : String) :
    m ∈ members s' ↔ (m ∈ members s ∨ m ∈ s.onBoarding) ∧ m ∉ s.offBoarding := by
  rw [e.perm.mem_iff, List.mem_filter]
  show m ∈ members s ++ s.onBoarding ∧ _ ↔ _
  rw [List.mem_append]
  simp only [List.contains_eq_mem, Bool.not_eq_eq_eq_not, Bool.not_true, decide_eq_false_iff_not]

/-- after an election from a well-formed group every member is activated -/
theorem Elected.activated {s s' : State} {now : Int} (e : Elected s s' now) (hinv : GroupInv s) :
    ∀ m ∈ members s', stat s'.recs m = some .activated := by
  intro m hm
  obtain ⟨h1, h2⟩ := (e.mem_iff m).mp hm
  rw [e.recs m, if_neg h2]
  rcases h1 with h1 | h1
  · rw [if_neg (fun hc => hinv.member_not_onBoarding h1 hc.1)]
    rcases hinv.memberRec m h1 with h3 | h3
    · exact h3
    · exact absurd (hinv.offListed m h1 h3) h2
  · rw [if_pos ⟨h1, hinv.listed_isSome (Or.inr (Or.inl h1))⟩]

theorem endBlocker_elected (c : Crypto) (s s' : State) (now : Int) (hdue : electionDue s now = true)
    (h : endBlocker c s now = .ok s') : Elected s s' now := by
  rcases endBlocker_ok_iff.mp h with ⟨hd, _⟩ | ⟨_, recs1, hfold, hc, rfl⟩
  · rw [hdue] at hd; cases hd
  · refine ⟨?_, elect_members_perm c s recs1 now hc, rfl, rfl, rfl, rfl, rfl, rfl, rfl, rfl⟩
    intro k
    show stat (s.offBoarding.foldl erase recs1) k = _
    rw [stat_eraseAll, activate_fold_some _ _ _ hfold]

/-! ### the end-of-block logic never fails -/

/-- the removal queue never swallows the whole group: some voter survives when the proposer goes -/
theorem GroupInv.survivor {s : State} (h : GroupInv s) (hrem : s.offBoarding.contains s.proposer = true) :
    (candidates s).isEmpty = false := by
  obtain ⟨m, hm, hno, _⟩ := h.exists_active
  have hmp : m ≠ s.proposer := by
    intro e; subst e; exact hno (by simpa using hrem)
  have hmv : m ∈ s.voters := by
    rcases List.mem_cons.mp hm with e | e
    · exact absurd e hmp
    · exact e
  have : m ∈ candidates s :=
    List.mem_filter.mpr ⟨List.mem_append_left _ hmv, by simpa using hno⟩
  cases hl : candidates s with
  | nil => rw [hl] at this; cases this
  | cons a t => rfl

/-- **EndBlocker never fails** on a well-formed group: neither the missing-record error nor
    "delete too many voters" is reachable. -/
theorem endBlocker_never_fails (c : Crypto) (s : State) (now : Int) (hinv : GroupInv s) :
    ∃ s', endBlocker c s now = .ok s' := by
  cases hdue : electionDue s now
  · exact ⟨s, endBlocker_ok_iff.mpr (Or.inl ⟨hdue, rfl⟩)⟩
  · obtain ⟨recs1, hfold⟩ := activate_fold_isSome s.onBoarding s.recs
      (fun k hk => hinv.listed_isSome (Or.inr (Or.inl hk)))
    refine ⟨_, endBlocker_ok_iff.mpr (Or.inr ⟨hdue, recs1, hfold, ?_, rfl⟩)⟩
    rintro ⟨hrem, hemp⟩
    rw [hinv.survivor hrem] at hemp
    cases hemp

/-! ### every operation keeps the group well formed -/

/-- an election keeps the group well formed -/
theorem Elected.preserves {s s' : State} {now : Int} (e : Elected s s' now) (hinv : GroupInv s) : GroupInv s' := by
  have hact := e.activated hinv
  have hnd : (members s ++ s.onBoarding).Nodup :=
    List.nodup_append.mpr ⟨hinv.nodup, hinv.onNodup, fun _ ha _ hb hab => hinv.member_not_onBoarding ha (hab ▸ hb)⟩
  constructor
  · exact (e.perm.nodup_iff).mpr (hnd.filter _)
  · intro m hm; exact Or.inl (hact m hm)
  · rw [e.onB]; intro m hm; cases hm
  · rw [e.onB]; exact List.nodup_nil
  · rw [e.offB]; intro m hm; cases hm
  · rw [e.offB]; exact List.nodup_nil
  · intro m hm hs; rw [hact m hm] at hs; cases hs
  · rw [e.offB, filter_nil_contains]; exact Nat.zero_le _

/-- EndBlocker keeps the group well formed -/
theorem endBlocker_preserves (c : Crypto) (s s' : State) (now : Int) (hinv : GroupInv s)
    (h : endBlocker c s now = .ok s') : GroupInv s' := by
  rcases endBlocker_ok_iff.mp h with ⟨_, rfl⟩ | ⟨hdue, _⟩
  · exact hinv
  · exact (endBlocker_elected c s s' now hdue h).preserves hinv

/-- a key whose record is pending is neither a member nor queued -/
theorem GroupInv.pending_unlisted {s : State} (h : GroupInv s) {addr : String}
    (hpend : stat s.recs addr = some .pending) :
    ¬ (addr ∈ members s ∨ addr ∈ s.onBoarding ∨ addr ∈ s.offBoarding) := by
  rintro (hc | hc | hc)
  · rcases h.memberRec addr hc with e | e <;> rw [hpend] at e <;> cases e
  · have e := h.onRec addr hc; rw [hpend] at e; cases e
  · have e := h.offRec addr hc; rw [hpend] at e; cases e

/-- queueing an unlisted key for joining, its record set to on-boarding -/
theorem GroupInv.enqueue_on {s s' : State} (h : GroupInv s) {addr : String}
    (hfree : ¬ (addr ∈ members s ∨ addr ∈ s.onBoarding ∨ addr ∈ s.offBoarding))
    (hp : s'.proposer = s.proposer) (hv : s'.voters = s.voters)
    (hon : s'.onBoarding = s.onBoarding ++ [addr]) (hoff : s'.offBoarding = s.offBoarding)
    (hst : ∀ m, stat s'.recs m = if m = addr then some .onBoarding else stat s.recs m) : GroupInv s' := by
  -- up to the join queue `s'` is `s` with the status of an unlisted key changed
  have ht : GroupInv { s' with onBoarding := s.onBoarding } :=
    h.of_stat_eq hp hv rfl hoff (fun m hl => (hst m).trans (if_neg (fun e : m = addr => hfree (e ▸ hl))))
  refine ⟨ht.nodup, ht.memberRec, ?_, ?_, ht.offRec, ht.offNodup, ht.offListed, ht.count⟩
  · rw [hon]; intro m hmm
    rcases List.mem_append.mp hmm with h1 | h1
    · exact ht.onRec m h1
    · rw [hst, if_pos (List.mem_singleton.mp h1)]
  · rw [hon]; exact nodup_append_singleton h.onNodup (fun hc => hfree (.inr (.inl hc)))

/-- queueing a key for removal, its record set to off-boarding: a rejected joiner (not a member),
    or a member while the queue is shorter than the list of voters -/
theorem GroupInv.enqueue_off {s s' : State} (h : GroupInv s) {addr : String}
    (hnon : addr ∉ s.onBoarding) (hnoff : addr ∉ s.offBoarding)
    (hroom : addr ∈ members s → s.offBoarding.length + 1 ≤ s.voters.length)
    (hp : s'.proposer = s.proposer) (hv : s'.voters = s.voters)
    (hon : s'.onBoarding = s.onBoarding) (hoff : s'.offBoarding = s.offBoarding ++ [addr])
    (hst : ∀ m, stat s'.recs m = if m = addr then some .offBoarding else stat s.recs m) : GroupInv s' := by
  have hm := members_congr hp hv
  constructor
  · rw [hm]; exact h.nodup
  · rw [hm]; intro m hmm; rw [hst]
    split
    · exact Or.inr rfl
    · exact h.memberRec m hmm
  · rw [hon]; intro m hmm; rw [hst, if_neg (fun e : m = addr => hnon (e ▸ hmm))]; exact h.onRec m hmm
  · rw [hon]; exact h.onNodup
  · rw [hoff]; intro m hmm; rw [hst]
    split
    · rfl
    · rename_i e
      rcases List.mem_append.mp hmm with h1 | h1
      · exact h.offRec m h1
      · exact absurd (List.mem_singleton.mp h1) e
  · rw [hoff]; exact nodup_append_singleton h.offNodup hnoff
  · rw [hm, hoff]; intro m hmm hs
    rw [hst] at hs
    by_cases e : m = addr
    · exact List.mem_append_right _ (List.mem_singleton.mpr e)
    · rw [if_neg e] at hs
      exact List.mem_append_left _ (h.offListed m hmm hs)
  · rw [hm, hoff, hv]
    by_cases hmem : addr ∈ members s
    · have := filter_contains_length_le (members s) (s.offBoarding ++ [addr]) h.nodup
      rw [List.length_append, List.length_singleton] at this
      exact Nat.le_trans this (hroom hmem)
    · have : (members s).filter (fun m => (s.offBoarding ++ [addr]).contains m)
          = (members s).filter (fun m => s.offBoarding.contains m) := by
        apply List.filter_congr
        intro m hmm
        have : m ≠ addr := fun e => hmem (e ▸ hmm)
        simp [this]
      rw [this]; exact h.count

/-- the remove loop of ProcessRelayerRequest: `active` under-approximates the number of members not
    in the removal queue, and a removal is applied only while it stays ≥ 1 -/
theorem removes_preserve (c : Crypto) (removes : List Bytes) (s : State) (active : Int) (hinv : GroupInv s)
    (hact : active ≤ (s.voters.length : Int) + 1 - (s.offBoarding.length : Int)) :
    GroupInv (processRequest.go c removes s active) := by
  induction removes generalizing s active with
  | nil => exact hinv
  | cons rm rest ih =>
    unfold processRequest.go
    dsimp only
    cases hl : lookup s.recs (c.addrOf rm) with
    | none => exact ih s active hinv hact
    | some v =>
      dsimp only
      by_cases hst : v.status ≠ .activated
      · rw [if_pos hst]; exact ih s active hinv hact
      rw [if_neg hst]
      by_cases hge : active - 1 < 1
      · rw [if_pos hge]; exact hinv
      rw [if_neg hge]
      have hact' : stat s.recs (c.addrOf rm) = some .activated := by
        rw [stat_some_of_lookup hl, Classical.not_not.mp hst]
      have hnon : c.addrOf rm ∉ s.onBoarding := by
        intro hc; have e := hinv.onRec _ hc; rw [hact'] at e; cases e
      have hnoff : c.addrOf rm ∉ s.offBoarding := by
        intro hc; have e := hinv.offRec _ hc; rw [hact'] at e; cases e
      apply ih
      · exact hinv.enqueue_off hnon hnoff (fun _ => by omega) rfl rfl rfl rfl (fun m => stat_insert ..)
      · show active - 1 ≤ (s.voters.length : Int) + 1 - ((s.offBoarding ++ [c.addrOf rm]).length : Int)
        rw [List.length_append, List.length_singleton]
        omega

/-- **ProcessRelayerRequest keeps the group well formed** — for every list of add and remove
    requests and every address encoding (no injectivity of `addrOf` is needed: the code keys every
    check on the *encoded* address, and an add is skipped whenever a record already exists). -/
theorem processRequest_preserves (c : Crypto) (s : State) (height : Nat) (adds : List AddReq) (removes : List Bytes)
    (hinv : GroupInv s) : GroupInv (processRequest c s height adds removes) := by
  unfold processRequest
  dsimp only
  generalize hs1 : List.foldl _ s adds = s1
  have h1 : GroupInv s1 := by
    rw [← hs1]
    refine List.foldlRecOn adds _ hinv (fun s hs a _ => ?_)
    -- an add is skipped when a record exists; a fresh key is not listed anywhere
    cases hl : lookup s.recs (c.addrOf a.voter) with
    | some r => exact hs
    | none =>
      refine hs.of_stat_eq rfl rfl rfl rfl (fun m hm => ?_)
      have hne : m ≠ c.addrOf a.voter := by
        intro e
        have := hs.listed_isSome hm
        rw [e, stat_none_iff.mpr hl] at this
        cases this
      exact (stat_insert ..).trans (if_neg hne)
  by_cases hr : removes.isEmpty = true
  · rw [if_pos hr]; exact h1
  · rw [if_neg hr]; exact removes_preserve c removes s1 _ h1 (Int.le_refl _)

theorem verifyNonProposal_preserves (s s' : State) (p : String) (hinv : GroupInv s)
    (h : verifyNonProposal s p = .ok s') : GroupInv s' := by
  rw [(verifyNonProposal_ok h).2]
  exact hinv.of_stat_eq rfl rfl rfl rfl (fun _ _ => rfl)

theorem acceptProposer_preserves (s s' : State) (p : String) (e : Nat) (now : Int) (hinv : GroupInv s)
    (h : acceptProposer s p e now = .ok s') : GroupInv s' := by
  rw [(acceptProposer_ok h).2.2.2.2]
  exact hinv.of_stat_eq rfl rfl rfl rfl (fun _ _ => rfl)

theorem verifyProposal_preserves (c : Crypto) (chain : String) (s s' : State) (m : VoteMsg) (q : Nat)
    (hinv : GroupInv s) (h : verifyProposal c chain s m = .ok (s', q)) : GroupInv s' := by
  rw [(verifyProposal_frame h).1]
  exact hinv.of_stat_eq rfl rfl rfl rfl (fun _ _ => rfl)

theorem consumeVote_preserves (c : Crypto) (s : State) (seq : Nat) (sig : Bytes) (hinv : GroupInv s) :
    GroupInv (consumeVote c s seq sig) :=
  hinv.of_stat_eq rfl rfl rfl rfl (fun _ _ => rfl)

/-! ### a voter joins only by proof of possession, and votes only from the next election -/

/-- what a successful NewVoter establishes -/
structure JoinedByProof (c : Crypto) (chain : String) (s s' : State) (m : NewVoterMsg)
    (has : String → Bool) (acc : Option String) : Prop where
  /-- submitted by the current proposer -/
  byProposer : m.proposer = s.proposer
  /-- the execution layer registered this address (record pending) with this key hash -/
  registered : ∃ v, lookup s.recs (c.addrOf (c.hash160 m.txKey)) = some v ∧ v.status = .pending ∧
    c.sha256 m.blsKey = v.voteKey ∧
    -- both proofs of possession verify over a document bound to chain, epoch, proposer and registration
    c.ecdsaVerify m.txKey (voteSignDoc c "Relayer/NewVoter" chain m.proposer 0 s.epoch
        (le64 v.height ++ c.hash160 m.txKey ++ v.voteKey)) m.txProof = true ∧
    c.blsVerify m.blsKey (voteSignDoc c "Relayer/NewVoter" chain m.proposer 0 s.epoch
        (le64 v.height ++ c.hash160 m.txKey ++ v.voteKey)) m.blsProof = true ∧
    -- the record now carries the proved BLS key, queued for joining (fresh account) or discarded
    -- at the next election (an account already exists for the address)
    (has (c.addrOf (c.hash160 m.txKey)) = false →
      s'.recs = Relayer.insert s.recs (c.addrOf (c.hash160 m.txKey)) { v with voteKey := m.blsKey, status := .onBoarding } ∧
      s'.onBoarding = s.onBoarding ++ [c.addrOf (c.hash160 m.txKey)] ∧ s'.offBoarding = s.offBoarding ∧
      acc = some (c.addrOf (c.hash160 m.txKey))) ∧
    (has (c.addrOf (c.hash160 m.txKey)) = true →
      s'.recs = Relayer.insert s.recs (c.addrOf (c.hash160 m.txKey)) { v with voteKey := m.blsKey, status := .offBoarding } ∧
      s'.offBoarding = s.offBoarding ++ [c.addrOf (c.hash160 m.txKey)] ∧ s'.onBoarding = s.onBoarding ∧
      acc = none)
  wellFormed : newVoterValidate m = true
  /-- the quorum is unchanged: the joiner takes part only from the next election -/
  voters : s'.voters = s.voters
  proposer : s'.proposer = s.proposer
  epoch : s'.epoch = s.epoch
  seq : s'.seq = s.seq

theorem newVoter_joined (c : Crypto) (chain : String) (s s' : State) (m : NewVoterMsg) (has : String → Bool)
    (acc : Option String) (h : newVoter c chain s m has = .ok (s', acc)) :
    JoinedByProof c chain s s' m has acc := by
  obtain ⟨hval, hp, v, hl, hpend, hkey, htx, hbls, hq⟩ := newVoter_ok h
  rcases hq with ⟨hh, rfl, rfl⟩ | ⟨hh, rfl, rfl⟩
  · exact ⟨hp.symm, ⟨v, hl, hpend, hkey, htx, hbls, fun hf => Bool.noConfusion (hf.symm.trans hh), fun _ => ⟨rfl, rfl, rfl, rfl⟩⟩,
      hval, rfl, rfl, rfl, rfl⟩
  · exact ⟨hp.symm, ⟨v, hl, hpend, hkey, htx, hbls, fun _ => ⟨rfl, rfl, rfl, rfl⟩, fun ht => Bool.noConfusion (hh.symm.trans ht)⟩,
      hval, rfl, rfl, rfl, rfl⟩

/-- **join by proof**: a successful NewVoter was submitted by the proposer for a
    registered, still pending address whose key hash matches the BLS key; both proofs of possession
    verify over a document bound to chain, epoch, proposer and the registration (height, address,
    key hash); proposer and voters are unchanged, so the joiner is in no quorum before an election -/
theorem newVoter_by_proof (c : Crypto) (chain : String) (s s' : State) (m : NewVoterMsg) (has : String → Bool)
    (acc : Option String) (h : newVoter c chain s m has = .ok (s', acc)) :
    m.proposer = s.proposer ∧
    ∃ v, lookup s.recs (c.addrOf (c.hash160 m.txKey)) = some v ∧ v.status = .pending ∧
      c.sha256 m.blsKey = v.voteKey ∧
      c.ecdsaVerify m.txKey (voteSignDoc c "Relayer/NewVoter" chain m.proposer 0 s.epoch
        (le64 v.height ++ c.hash160 m.txKey ++ v.voteKey)) m.txProof = true ∧
      c.blsVerify m.blsKey (voteSignDoc c "Relayer/NewVoter" chain m.proposer 0 s.epoch
        (le64 v.height ++ c.hash160 m.txKey ++ v.voteKey)) m.blsProof = true ∧
      s'.voters = s.voters ∧ s'.proposer = s.proposer := by
  have j := newVoter_joined c chain s s' m has acc h
  obtain ⟨v, a1, a2, a3, a4, a5, _, _⟩ := j.registered
  exact ⟨j.byProposer, v, a1, a2, a3, a4, a5, j.voters, j.proposer⟩

/-- NewVoter keeps the group well formed -/
theorem newVoter_preserves (c : Crypto) (chain : String) (s s' : State) (m : NewVoterMsg) (has : String → Bool)
    (acc : Option String) (hinv : GroupInv s) (h : newVoter c chain s m has = .ok (s', acc)) : GroupInv s' := by
  have j := newVoter_joined c chain s s' m has acc h
  obtain ⟨v, hl, hpend, _, _, _, hfresh, hexist⟩ := j.registered
  have hfree := hinv.pending_unlisted (addr := c.addrOf (c.hash160 m.txKey)) (by rw [stat_some_of_lookup hl, hpend])
  cases hh : has (c.addrOf (c.hash160 m.txKey)) with
  | false =>
    obtain ⟨r1, r2, r3, _⟩ := hfresh hh
    exact hinv.enqueue_on hfree j.proposer j.voters r2 r3 (fun m => by rw [r1]; exact stat_insert ..)
  | true =>
    obtain ⟨r1, r2, r3, _⟩ := hexist hh
    exact hinv.enqueue_off (fun hc => hfree (.inr (.inl hc))) (fun hc => hfree (.inr (.inr hc)))
      (fun hc => absurd (.inl hc) hfree) j.proposer j.voters r3 r2 (fun m => by rw [r1]; exact stat_insert ..)

/-! ### election timing -/

/-- **when an election is due**: the electing period has elapsed, or the proposer has not accepted
    within the (non-zero) accept timeout -/
theorem electionDue_iff (s : State) (now : Int) :
    electionDue s now = true ↔
      (now - s.lastElected ≥ s.params.electingPeriod ∨
        (¬ s.accepted ∧ s.params.acceptProposerTimeout ≠ 0 ∧ now - s.lastElected ≥ s.params.acceptProposerTimeout)) := by
  unfold electionDue
  dsimp only
  -- De Morgan on the model's "no election yet" condition
  rw [Bool.not_eq_true', decide_eq_false_iff_not, Classical.not_and_iff_not_or_not, not_or, not_or, Int.not_lt,
    Int.not_lt]

/-- **elections happen exactly when due**: otherwise EndBlocker changes nothing; when due, the epoch
    is incremented (mod 2^64) and the election time recorded -/
theorem endBlocker_timing (c : Crypto) (s s' : State) (now : Int) (h : endBlocker c s now = .ok s') :
    (electionDue s now = false → s' = s) ∧
    (electionDue s now = true → s'.epoch = (s.epoch + 1) % two64 ∧ s'.lastElected = now) := by
  rcases endBlocker_ok_iff.mp h with ⟨hd, rfl⟩ | ⟨hd, _, _, _, rfl⟩
  · exact ⟨fun _ => rfl, fun ht => Bool.noConfusion (hd.symm.trans ht)⟩
  · exact ⟨fun hf => Bool.noConfusion (hf.symm.trans hd), fun _ => ⟨rfl, rfl⟩⟩

/-- the epoch changes only by an election -/
theorem endBlocker_epoch_iff (c : Crypto) (s s' : State) (now : Int) (h : endBlocker c s now = .ok s')
    (hw : s.epoch + 1 < two64) : s'.epoch ≠ s.epoch ↔ electionDue s now = true := by
  obtain ⟨t1, t2⟩ := endBlocker_timing c s s' now h
  cases hd : electionDue s now with
  | false => rw [t1 hd]; simp
  | true =>
    have := (t2 hd).1
    rw [Nat.mod_eq_of_lt hw] at this
    simp only [iff_true]; omega

/-! ### who is in the group after an election -/

/-- **only queued joiners are added at an election**, and nobody in the removal queue stays -/
theorem endBlocker_members (c : Crypto) (s s' : State) (now : Int) (hdue : electionDue s now = true)
    (h : endBlocker c s now = .ok s') (m : String) :
    m ∈ members s' ↔ (m ∈ members s ∨ m ∈ s.onBoarding) ∧ m ∉ s.offBoarding :=
  (endBlocker_elected c s s' now hdue h).mem_iff m

/-- a voter that was not one before the election was a queued joiner -/
theorem endBlocker_new_voter_was_onBoarding (c : Crypto) (s s' : State) (now : Int) (hdue : electionDue s now = true)
    (h : endBlocker c s now = .ok s') (m : String) (hm : m ∈ s'.voters) (hnew : m ∉ members s) :
    m ∈ s.onBoarding := by
  have := (endBlocker_members c s s' now hdue h m).mp (List.mem_cons_of_mem _ hm)
  rcases this.1 with h1 | h1
  · exact absurd h1 hnew
  · exact h1

/-- **after an election** from a well-formed group, the proposer was a member or a queued joiner,
    was not queued for removal, and is activated; and so is every voter -/
theorem endBlocker_proposer_origin (c : Crypto) (s s' : State) (now : Int) (hinv : GroupInv s)
    (hdue : electionDue s now = true) (h : endBlocker c s now = .ok s') :
    (s'.proposer ∈ members s ∨ s'.proposer ∈ s.onBoarding) ∧ s'.proposer ∉ s.offBoarding ∧
    (∀ m ∈ members s', stat s'.recs m = some .activated) ∧ s'.onBoarding = [] ∧ s'.offBoarding = [] := by
  have e := endBlocker_elected c s s' now hdue h
  have hp := (e.mem_iff s'.proposer).mp (List.mem_cons_self ..)
  exact ⟨hp.1, hp.2, e.activated hinv, e.onB, e.offB⟩

/-- ProcessRelayerRequest changes neither proposer nor voters nor the join queue: removals only mark
    and queue, they take effect at the next election -/
theorem processRequest_keeps_group (c : Crypto) (s : State) (height : Nat) (adds : List AddReq) (removes : List Bytes) :
    (processRequest c s height adds removes).proposer = s.proposer ∧
    (processRequest c s height adds removes).voters = s.voters ∧
    (processRequest c s height adds removes).onBoarding = s.onBoarding := by
  obtain ⟨recs, off, h⟩ := processRequest_frame c s height adds removes
  rw [h]
  exact ⟨rfl, rfl, rfl⟩

theorem processRequest_members (c : Crypto) (s : State) (height : Nat) (adds : List AddReq) (removes : List Bytes) :
    members (processRequest c s height adds removes) = members s :=
  members_congr (processRequest_keeps_group c s height adds removes).1 (processRequest_keeps_group c s height adds removes).2.1

/-- **removals that would empty the group are ignored**: whatever is requested, after
    ProcessRelayerRequest some member is still activated and not queued for removal -/
theorem processRequest_keeps_active (c : Crypto) (s : State) (height : Nat) (adds : List AddReq) (removes : List Bytes)
    (hinv : GroupInv s) :
    ∃ m ∈ members s, m ∉ (processRequest c s height adds removes).offBoarding ∧
      stat (processRequest c s height adds removes).recs m = some .activated := by
  obtain ⟨m, hm, h1, h2⟩ := (processRequest_preserves c s height adds removes hinv).exists_active
  exact ⟨m, processRequest_members c s height adds removes ▸ hm, h1, h2⟩

/-! ### any finite history -/

/-- the operations that write relayer state.  A failing message leaves the state unchanged (the
    transaction is rolled back); `vote` is what every voted handler does: VerifyProposal, then
    SetProposalSeq/UpdateRandao. -/
inductive Op where
  | request (height : Nat) (adds : List AddReq) (removes : List Bytes)
  | newVoter (chain : String) (m : NewVoterMsg) (has : String → Bool)
  | accept (p : String) (epoch : Nat) (now : Int)
  | vote (chain : String) (m : VoteMsg)
  | verify (chain : String) (m : VoteMsg)
  | consume (seq : Nat) (sig : Bytes)
  | nonProposal (p : String)
  | endBlock (now : Int)

def apply (c : Crypto) (s : State) : Op → State
  | .request h a r => processRequest c s h a r
  | .newVoter chain m has => match newVoter c chain s m has with | .ok (s', _) => s' | _ => s
  | .accept p e now => match acceptProposer s p e now with | .ok s' => s' | _ => s
  | .vote chain m => match verifyProposal c chain s m with | .ok (s', q) => consumeVote c s' q m.signature | _ => s
  | .verify chain m => match verifyProposal c chain s m with | .ok (s', _) => s' | _ => s
  | .consume q sig => consumeVote c s q sig
  | .nonProposal p => match verifyNonProposal s p with | .ok s' => s' | _ => s
  | .endBlock now => match endBlocker c s now with | .ok s' => s' | _ => s

def run (c : Crypto) (s : State) (ops : List Op) : State := ops.foldl (apply c) s

/-- one operation keeps the group well formed, and changes proposer and voters only at an election -/
theorem apply_group (c : Crypto) (s : State) (op : Op) :
    (GroupInv s → GroupInv (apply c s op)) ∧
    ((∀ now, op = .endBlock now → electionDue s now = false) → members (apply c s op) = members s) := by
  cases op with
  | request h a r =>
    exact ⟨processRequest_preserves c s h a r, fun _ => processRequest_members c s h a r⟩
  | newVoter chain m has =>
    dsimp only [apply]
    split
    · rename_i s' acc hh
      have j := newVoter_joined c chain s s' m has acc hh
      exact ⟨fun hinv => newVoter_preserves c chain s s' m has acc hinv hh,
        fun _ => members_congr j.proposer j.voters⟩
    · exact ⟨id, fun _ => rfl⟩
  | accept p e now =>
    dsimp only [apply]
    split
    · rename_i s' hh
      refine ⟨fun hinv => acceptProposer_preserves s s' p e now hinv hh, fun _ => ?_⟩
      rw [(acceptProposer_ok hh).2.2.2.2]; rfl
    · exact ⟨id, fun _ => rfl⟩
  | vote chain m =>
    dsimp only [apply]
    split
    · rename_i s' q hh
      refine ⟨fun hinv => consumeVote_preserves c s' q m.signature (verifyProposal_preserves c chain s s' m q hinv hh),
        fun _ => ?_⟩
      rw [(verifyProposal_frame hh).1]; rfl
    · exact ⟨id, fun _ => rfl⟩
  | verify chain m =>
    dsimp only [apply]
    split
    · rename_i s' q hh
      refine ⟨fun hinv => verifyProposal_preserves c chain s s' m q hinv hh, fun _ => ?_⟩
      rw [(verifyProposal_frame hh).1]; rfl
    · exact ⟨id, fun _ => rfl⟩
  | consume q sig => exact ⟨consumeVote_preserves c s q sig, fun _ => rfl⟩
  | nonProposal p =>
    dsimp only [apply]
    split
    · rename_i s' hh
      refine ⟨fun hinv => verifyNonProposal_preserves s s' p hinv hh, fun _ => ?_⟩
      rw [(verifyNonProposal_ok hh).2]; rfl
    · exact ⟨id, fun _ => rfl⟩
  | endBlock now =>
    dsimp only [apply]
    split
    · rename_i s' hh
      refine ⟨fun hinv => endBlocker_preserves c s s' now hinv hh, fun hno => ?_⟩
      rw [(endBlocker_timing c s s' now hh).1 (hno now rfl)]
    · exact ⟨id, fun _ => rfl⟩

/-- proposer and voters change only at an election -/
theorem apply_members (c : Crypto) (s : State) (op : Op)
    (hno : ∀ now, op = .endBlock now → electionDue s now = false) : members (apply c s op) = members s :=
  (apply_group c s op).2 hno

/-- **the group stays well formed along every finite history** of requests, messages and blocks -/
theorem run_preserves (c : Crypto) (s : State) (ops : List Op) (hinv : GroupInv s) : GroupInv (run c s ops) := by
  unfold run
  induction ops generalizing s with
  | nil => exact hinv
  | cons op rest ih => exact ih (apply c s op) ((apply_group c s op).1 hinv)

/-- **the end-of-block logic never fails, for any history** of add/remove requests, messages and
    earlier blocks -/
theorem run_endBlocker_never_fails (c : Crypto) (s0 : State) (ops : List Op) (now : Int) (h0 : GroupInv s0) :
    ∃ s', endBlocker c (run c s0 ops) now = .ok s' :=
  endBlocker_never_fails c _ now (run_preserves c s0 ops h0)

/-- **C16.** Start from any well-formed group and apply any finite history of add/remove requests,
    NewVoter / AcceptProposer / voted and non-voted messages and end-of-block calls.  Then:
    the group is well formed (one proposer, a current member, activated or awaiting removal, not
    among the voters; all members distinct; some member not awaiting removal), and the end-of-block
    logic succeeds at any time. -/
theorem C16 (c : Crypto) (s0 : State) (ops : List Op) (h0 : GroupInv s0) :
    let s := run c s0 ops
    GroupInv s ∧
    s.proposer ∉ s.voters ∧ s.voters.Nodup ∧
    (stat s.recs s.proposer = some .activated ∨ stat s.recs s.proposer = some .offBoarding) ∧
    (∃ m ∈ members s, m ∉ s.offBoarding ∧ stat s.recs m = some .activated) ∧
    (∀ now, ∃ s', endBlocker c s now = .ok s' ∧ GroupInv s' ∧
      (electionDue s now = false → s' = s) ∧
      (electionDue s now = true → s'.epoch = (s.epoch + 1) % two64 ∧ s'.lastElected = now ∧
        ∀ m, m ∈ members s' ↔ (m ∈ members s ∨ m ∈ s.onBoarding) ∧ m ∉ s.offBoarding)) := by
  intro s
  have hinv : GroupInv s := run_preserves c s0 ops h0
  refine ⟨hinv, hinv.proposer_not_voter, hinv.voters_nodup, hinv.memberRec _ (List.mem_cons_self ..),
    hinv.exists_active, ?_⟩
  intro now
  obtain ⟨s', hs'⟩ := endBlocker_never_fails c s now hinv
  obtain ⟨t1, t2⟩ := endBlocker_timing c s s' now hs'
  refine ⟨s', hs', endBlocker_preserves c s s' now hinv hs', t1, ?_⟩
  intro hd
  exact ⟨(t2 hd).1, (t2 hd).2, endBlocker_members c s s' now hd hs'⟩

/-! ### an observation on the removal counter (not a violation of C16)

`ProcessRelayerRequest` computes the number of members that would stay as
`len(voters) + 1 - len(queue.OffBoarding)`.  The removal queue can also hold *non-members*: a
`NewVoter` for an address that already has an account is queued for removal.  Each such entry makes
the counter one too small, so a removal that would leave the group non-empty is dropped.  The
invariant is unaffected (the counter errs on the safe side); the dropped request is simply lost. -/

def obsCrypto : Crypto :=
  { sha256 := id, hash160 := id, aggVerify := fun _ _ _ => true, blsVerify := fun _ _ _ => true,
    ecdsaVerify := fun _ _ _ => true, addrOf := fun b => if b = [1] then "v1" else "other" }

/-- proposer `p` and voter `v1`, both activated; `x` is a rejected joiner waiting in the removal queue -/
def obsState : State :=
  { exampleState with
    voters := ["v1"]
    recs := [("p", ⟨[0], [0], .activated, 0⟩), ("v1", ⟨[1], [1], .activated, 0⟩), ("x", ⟨[7], [7], .offBoarding, 6⟩)]
    onBoarding := [], offBoarding := ["x"] }

theorem obs_wellFormed : GroupInv obsState := by constructor <;> decide

/-- the request to remove `v1` (which would leave the proposer as sole member) is ignored -/
theorem obs_removal_dropped : processRequest obsCrypto obsState 9 [] [[1]] = obsState := by decide

/-- without the rejected joiner in the queue the same request is applied -/
theorem obs_removal_applied :
    (processRequest obsCrypto { obsState with offBoarding := [] } 9 [] [[1]]).offBoarding = ["v1"] := by decide

end Goat.C16
