/-
  C02 — a vote is single-use: every voted bridge handler advances the relayer's proposal sequence by
  exactly one (`SetProposalSeq` after `VerifyProposal`), nothing else writes it, and a vote is accepted
  for the current sequence only — so no vote is accepted twice.
-/
import GoatProofs.Lemmas.Relayer
import GoatProofs.Lemmas.RelayerGroup
import GoatProofs.Lemmas.BitcoinOps
import GoatProofs.FactsThms
namespace Goat.C02
open Goat.Relayer

/-- what an accepted vote does to the relayer state, exactly: sequence + 1, randao chained over the
    vote's signature, proposer-accepted flag set; nothing else -/
def Consumed (c : Crypto) (rel rel' : State) (sig : Bytes) : Prop :=
  rel'.seq = (rel.seq + 1) % two64 ∧ rel'.randao = c.sha256 (rel.randao ++ sig) ∧ rel'.accepted = true ∧
  rel'.epoch = rel.epoch ∧ rel'.proposer = rel.proposer ∧ rel'.voters = rel.voters

theorem verify_then_consume (c : Crypto) (chainId : String) (rel rel1 : State) (m : VoteMsg) (q : Nat)
    (h : verifyProposal c chainId rel m = .ok (rel1, q)) :
    Consumed c rel (consumeVote c rel1 q m.signature) m.signature ∧ m.seq = rel.seq ∧ m.epoch = rel.epoch := by
  obtain ⟨_, hs, he, _⟩ := verifyProposal_ok h
  obtain ⟨rfl, rfl⟩ := verifyProposal_frame h
  exact ⟨⟨rfl, rfl, rfl, rfl, rfl, rfl⟩, hs, he⟩

/-! ### each of the five voted handlers consumes exactly one sequence number -/

theorem newBlockHashes_consumes (rc : Crypto) (chainId : String) (rel : State) (s : Bitcoin.State)
    (vote : VoteMsg) (hv : Bool) (start : Nat) (hashes : List Bytes) (r : State × Bitcoin.State)
    (h : Bitcoin.newBlockHashes rc chainId rel s vote hv start hashes = .ok r) :
    Consumed rc rel r.1 vote.signature ∧ vote.seq = rel.seq ∧ vote.epoch = rel.epoch := by
  obtain ⟨_, _, _, _, _, _, rel1, q, hvp, rfl⟩ := Bitcoin.newBlockHashes_ok h
  -- `(… :)`: the message (the vote with method and document filled in) is to be read off `hvp`, not off the
  -- goal, which `vote` itself would fit
  exact (verify_then_consume rc chainId rel rel1 _ q hvp :)

theorem newConsolidation_consumes (c : Bitcoin.Crypto) (rc : Crypto) (chainId : String) (rel : State) (s : Bitcoin.State)
    (vote : VoteMsg) (hv : Bool) (tx : Bytes) (r : State × Bitcoin.State)
    (h : Bitcoin.newConsolidation c rc chainId rel s vote hv tx = .ok r) :
    Consumed rc rel r.1 vote.signature ∧ vote.seq = rel.seq ∧ vote.epoch = rel.epoch ∧ r.2 = s := by
  obtain ⟨_, _, _, _, _, _, _, _, rel1, q, hvp, rfl⟩ := Bitcoin.newConsolidation_ok h
  obtain ⟨hc, hs, he⟩ := verify_then_consume rc chainId rel rel1 _ q hvp
  exact ⟨hc, hs, he, rfl⟩

theorem newPubkey_consumes (rc : Crypto) (chainId : String) (rel : State) (s : Bitcoin.State)
    (vote : VoteMsg) (hv : Bool) (pk : Bitcoin.PubKey) (r : State × Bitcoin.State)
    (h : Bitcoin.newPubkey rc chainId rel s vote hv pk = .ok r) :
    Consumed rc rel r.1 vote.signature ∧ vote.seq = rel.seq ∧ vote.epoch = rel.epoch := by
  obtain ⟨_, _, _, rel1, q, hvp, _, rfl⟩ := Bitcoin.newPubkey_ok h
  -- the key list is extended before the vote is consumed; `Consumed` does not read it
  exact (verify_then_consume rc chainId rel rel1 _ q hvp :)

theorem processWithdrawal_consumes (c : Bitcoin.Crypto) (rc : Crypto) (chainId : String) (rel : State) (s : Bitcoin.State)
    (vote : VoteMsg) (hv : Bool) (ids : List Nat) (tx : Bytes) (fee : Nat) (r : State × Bitcoin.State)
    (h : Bitcoin.processWithdrawal c rc chainId rel s vote hv ids tx fee = .ok r) :
    Consumed rc rel r.1 vote.signature ∧ vote.seq = rel.seq ∧ vote.epoch = rel.epoch := by
  obtain ⟨_, _, _, _, _, _, _, _, _, rel1, q, hvp, _, _, _, _, rfl⟩ := Bitcoin.processWithdrawal_ok h
  exact (verify_then_consume rc chainId rel rel1 _ q hvp :)

theorem replaceWithdrawal_consumes (c : Bitcoin.Crypto) (rc : Crypto) (chainId : String) (rel : State) (s : Bitcoin.State)
    (vote : VoteMsg) (hv : Bool) (pid : Nat) (tx : Bytes) (fee : Nat) (r : State × Bitcoin.State)
    (h : Bitcoin.replaceWithdrawal c rc chainId rel s vote hv pid tx fee = .ok r) :
    Consumed rc rel r.1 vote.signature ∧ vote.seq = rel.seq ∧ vote.epoch = rel.epoch := by
  obtain ⟨_, _, _, _, _, _, _, _, _, _, _, rel1, q, hvp, _, _, _, _, rfl⟩ := Bitcoin.replaceWithdrawal_ok h
  exact (verify_then_consume rc chainId rel rel1 _ q hvp :)

/-! ### everything else leaves the sequence and the randao alone -/

theorem consumeVote_seq (c : Crypto) (s : State) (q : Nat) (sig : Bytes) : (consumeVote c s q sig).seq = (q + 1) % two64 := rfl

theorem nonProposal_keeps_seq (rel rel' : State) (p : String) (h : verifyNonProposal rel p = .ok rel') :
    rel'.seq = rel.seq ∧ rel'.randao = rel.randao ∧ rel'.epoch = rel.epoch := by
  rw [(verifyNonProposal_ok h).2]
  exact ⟨rfl, rfl, rfl⟩

theorem acceptProposer_keeps_seq (rel rel' : State) (p : String) (e : Nat) (now : Int) (h : acceptProposer rel p e now = .ok rel') :
    rel'.seq = rel.seq ∧ rel'.randao = rel.randao := by
  rw [(acceptProposer_ok h).2.2.2.2]
  exact ⟨rfl, rfl⟩

theorem endBlocker_keeps_seq (c : Crypto) (rel rel' : State) (now : Int) (h : endBlocker c rel now = .ok rel') :
    rel'.seq = rel.seq ∧ rel'.randao = rel.randao ∧ (rel'.epoch = rel.epoch ∨ rel'.epoch = (rel.epoch + 1) % two64) := by
  rcases endBlocker_ok_iff.mp h with ⟨_, rfl⟩ | ⟨_, _, _, _, rfl⟩
  · exact ⟨rfl, rfl, Or.inl rfl⟩
  · exact ⟨rfl, rfl, Or.inr rfl⟩

theorem processRequest_keeps_seq (c : Crypto) (rel : State) (height : Nat) (adds : List AddReq) (removes : List Bytes) :
    (processRequest c rel height adds removes).seq = rel.seq ∧ (processRequest c rel height adds removes).randao = rel.randao := by
  obtain ⟨recs, off, h⟩ := processRequest_frame c rel height adds removes
  rw [h]
  exact ⟨rfl, rfl⟩

/-! ### no replay -/

/-- a vote is accepted only for the *current* sequence and epoch -/
theorem accept_needs_current_seq (c : Crypto) (chainId : String) (s : State) (m : VoteMsg) (r : State × Nat)
    (h : verifyProposal c chainId s m = .ok r) : m.seq = s.seq ∧ m.epoch = s.epoch := by
  obtain ⟨_, hs, he, _⟩ := verifyProposal_ok (s' := r.1) (q := r.2) h
  exact ⟨hs, he⟩

/-- **No replay**: in any later state whose sequence has moved on, a vote produced for an earlier
    (or any other) sequence is rejected by every voted handler (they all go through `verifyProposal`). -/
theorem stale_vote_rejected (c : Crypto) (chainId : String) (s : State) (m : VoteMsg) (h : m.seq ≠ s.seq) :
    ∀ r, verifyProposal c chainId s m ≠ .ok r := by
  intro r hr
  exact h (accept_needs_current_seq c chainId s m r hr).1

/-- a vote signed for another epoch is rejected as well -/
theorem other_epoch_rejected (c : Crypto) (chainId : String) (s : State) (m : VoteMsg) (h : m.epoch ≠ s.epoch) :
    ∀ r, verifyProposal c chainId s m ≠ .ok r := by
  intro r hr
  exact h (accept_needs_current_seq c chainId s m r hr).2

/-- steps of the relayer state that the model allows (successful operations only; failing ones keep
    the state by the transactional wrapper) -/
inductive Step (c : Crypto) : State → State → Prop where
  | consume (s : State) (sig : Bytes) (h : s.seq + 1 < two64) : Step c s (consumeVote c { s with accepted := true } s.seq sig)
  | addKey (s : State) (k : Bytes) : Step c s { s with pubkeys := s.pubkeys ++ [k] }
  | nonProposal (s s' : State) (p : String) (h : verifyNonProposal s p = .ok s') : Step c s s'
  | accept (s s' : State) (p : String) (e : Nat) (now : Int) (h : acceptProposer s p e now = .ok s') : Step c s s'
  | endBlock (s s' : State) (now : Int) (h : endBlocker c s now = .ok s') : Step c s s'
  | request (s : State) (height : Nat) (adds : List AddReq) (removes : List Bytes) : Step c s (processRequest c s height adds removes)

theorem step_seq_mono (c : Crypto) (s s' : State) (h : Step c s s') : s.seq ≤ s'.seq := by
  cases h
  · rename_i sig hw
    rw [consumeVote_seq, Nat.mod_eq_of_lt hw]
    exact Nat.le_succ _
  · exact Nat.le_refl _
  · rename_i p h; rw [(nonProposal_keeps_seq s s' p h).1]; exact Nat.le_refl _
  · rename_i p e now h; rw [(acceptProposer_keeps_seq s s' p e now h).1]; exact Nat.le_refl _
  · rename_i now h; rw [(endBlocker_keeps_seq c s s' now h).1]; exact Nat.le_refl _
  · rename_i height adds removes; rw [(processRequest_keeps_seq c s height adds removes).1]; exact Nat.le_refl _

/-- reachability by any history of steps -/
inductive Reach (c : Crypto) : State → State → Prop where
  | refl (s : State) : Reach c s s
  | step (s t u : State) : Reach c s t → Step c t u → Reach c s u

theorem reach_seq_mono (c : Crypto) (s s' : State) (h : Reach c s s') : s.seq ≤ s'.seq := by
  induction h with
  | refl => exact Nat.le_refl _
  | step t u _ hs ih => exact Nat.le_trans ih (step_seq_mono c t u hs)

/-- **A vote that was accepted once can never be accepted again**: after the acceptance consumed
    sequence `q`, in every state reachable by any history of relayer messages, elections and membership
    changes, a vote carrying sequence `q` is rejected. -/
theorem accepted_vote_never_again (c : Crypto) (chainId : String) (s s' : State) (sig : Bytes) (hw : s.seq + 1 < two64)
    (hreach : Reach c (consumeVote c { s with accepted := true } s.seq sig) s') (m : VoteMsg) (hm : m.seq = s.seq) :
    ∀ r, verifyProposal c chainId s' m ≠ .ok r := by
  apply stale_vote_rejected
  have h1 := reach_seq_mono c _ s' hreach
  have h2 : (consumeVote c { s with accepted := true } s.seq sig).seq = s.seq + 1 :=
    (consumeVote_seq ..).trans (Nat.mod_eq_of_lt hw)
  omega

/-- in the *code*, a write of the sequence / randao is reachable only from the five voted bridge handlers (each behind
    VerifyProposal) and from genesis (`Facts.seqReach` is generated from the Go source by /verif/factgen) -/
theorem code_writers_closed :
    Facts.seqReach.all (fun e => FactsThms.votedHandlers.contains e.1 || e.1 == "x/relayer/module.InitGenesis") = true :=
  FactsThms.seq_writers_closed

end Goat.C02
