/-
  C17 — deposit addresses handed out are exactly what deposit checking accepts.
  Parametric in the hash functions / taproot tweak (crypto is a parameter of the model).
-/
import GoatModel.Bitcoin
namespace Goat.C17
open Goat.Bitcoin

/-- a script is two given leading bytes followed by `r` iff it has the right length, those two bytes, and `r` behind them -/
theorem script_eq_iff {out r : Bytes} {a b : UInt8} {n : Nat} (hr : r.length + 2 = n) :
    out.length = n ∧ out[0]! = a ∧ out[1]! = b ∧ r = out.drop 2 ↔ out = [a, b] ++ r := by
  constructor
  · rintro ⟨h1, h2, h3, rfl⟩
    rw [← hr] at h1
    cases out with
    | nil => cases h1
    | cons x t =>
      cases t with
      | nil => cases h1
      | cons y t => cases h2; cases h3; rfl
  · rintro rfl
    exact ⟨hr, rfl, rfl, rfl⟩

/-- the same for the test as the verifiers write it -/
theorem script_test_iff {out r : Bytes} {a b : UInt8} {n : Nat} (hr : r.length + 2 = n) :
    (out.length == n && out[0]! == a && out[1]! == b && r == out.drop 2) = true ↔ out = [a, b] ++ r := by
  simp only [Bool.and_eq_true, beq_iff_eq, and_assoc]
  exact script_eq_iff hr

/-- **v0 acceptance is exactly equality with the handed-out script** ("for exactly that key and
    address and for no other" then reduces to the hash / tweak being collision-free, an explicit
    hypothesis wherever used). -/
theorem v0_accept_iff (c : Crypto) (pk : PubKey) (evm out : Bytes) (hv : pk.validate = true)
    (hlen : ∀ b, (c.sha256 b).length = 32) (htw : ∀ k e w, c.tweak k e = some w → w.length = 32) :
    verifyDepositScriptV0 c pk evm out = true ↔ depositOutputV0 c pk evm = some out := by
  unfold verifyDepositScriptV0 depositOutputV0
  by_cases hevm : evm.length ≠ 20
  · rw [if_pos hevm, if_pos (Or.inl hevm)]
    exact ⟨(fun h => nomatch h), fun h => nomatch h⟩
  rw [if_neg hevm, if_neg (not_or.mpr ⟨hevm, by rw [hv]; decide⟩)]
  by_cases hk0 : pk.kind = 0
  · rw [if_pos hk0, if_pos hk0, Option.some.injEq, eq_comm (b := out)]
    exact script_test_iff (by rw [hlen])
  rw [if_neg hk0, if_neg hk0]
  by_cases hk1 : pk.kind = 1
  · rw [if_pos hk1, if_pos hk1]
    cases ht : c.tweak pk.key evm with
    | none => rw [Bool.and_false]; exact ⟨(fun h => nomatch h), fun h => nomatch h⟩
    | some w =>
      rw [Option.map_some, Option.some.injEq, eq_comm (b := out)]
      exact script_test_iff (by rw [htw _ _ _ ht])
  · rw [if_neg hk1, if_neg hk1]
    exact ⟨(fun h => nomatch h), fun h => nomatch h⟩

theorem validate_of_outputV0 {c : Crypto} {pk : PubKey} {evm out : Bytes} (h : depositOutputV0 c pk evm = some out) :
    pk.validate = true := by
  unfold depositOutputV0 at h
  cases hv : pk.validate with
  | true => rfl
  | false => rw [if_pos (Or.inr (by rw [hv]; rfl))] at h; cases h

/-- **v0 round trip**: the output script the builder hands out for (key, EVM address) is accepted by
    the verifier for that same key and address — for both key types. -/
theorem v0_roundtrip (c : Crypto) (pk : PubKey) (evm out : Bytes)
    (hlen : ∀ b, (c.sha256 b).length = 32) (htw : ∀ k e w, c.tweak k e = some w → w.length = 32)
    (h : depositOutputV0 c pk evm = some out) : verifyDepositScriptV0 c pk evm out = true :=
  (v0_accept_iff c pk evm out (validate_of_outputV0 h) hlen htw).mpr h

/-- the pre-image script of the v0 ECDSA deposit commits to the EVM address and the key: it is
    injective in (address, key) for 20-byte addresses and 33-byte keys -/
theorem v0_script_injective (e1 e2 k1 k2 : Bytes) (h1 : e1.length = 20) (h2 : e2.length = 20)
    (hk1 : k1.length = 33) (hk2 : k2.length = 33) (h : depositScriptV0 e1 k1 = depositScriptV0 e2 k2) :
    e1 = e2 ∧ k1 = k2 := by
  unfold depositScriptV0 at h
  simp only [h1, h2, hk1, hk2, List.cons_append, List.cons.injEq, true_and, List.append_assoc, List.nil_append] at h
  have ha := List.append_inj h (by rw [h1, h2])
  obtain ⟨hl, hr⟩ := ha
  simp only [List.cons.injEq, true_and] at hr
  have hb := List.append_inj hr (by rw [hk1, hk2])
  exact ⟨hl, hb.1⟩

/-- **v1 acceptance is exactly equality with the handed-out pair of scripts** -/
theorem v1_accept_iff (c : Crypto) (pk : PubKey) (magic evm o0 o1 : Bytes) (hv : pk.validate = true)
    (hh : ∀ b, (c.hash160 b).length = 20) :
    verifyDepositScriptV1 c pk magic evm o0 o1 = true ↔ depositOutputsV1 c pk magic evm = some (o0, o1) := by
  unfold verifyDepositScriptV1 depositOutputsV1
  by_cases hm : magic.length ≠ 4
  · rw [if_pos hm, if_pos (Or.inr (Or.inl hm))]
    exact ⟨(fun h => nomatch h), fun h => nomatch h⟩
  by_cases hevm : evm.length ≠ 20
  · rw [if_neg hm, if_pos hevm, if_pos (Or.inl hevm)]
    exact ⟨(fun h => nomatch h), fun h => nomatch h⟩
  rw [if_neg hm, if_neg hevm, if_neg (not_or.mpr ⟨hevm, not_or.mpr ⟨hm, by rw [hv]; decide⟩⟩)]
  by_cases hk0 : pk.kind = 0
  · have hg : ∀ t b1 b2 b3 b4 : Bool, (t && b1 && b2 && b3 && b4) = (t && (b1 && b2 && b3 && b4)) := by decide
    rw [if_pos hk0, if_pos hk0, Option.some.injEq, Prod.mk.injEq, List.append_assoc, eq_comm (b := o0), eq_comm (b := o1),
      hg, Bool.and_eq_true, BEq.comm (a := o1.drop 2), script_test_iff (by rw [hh]),
      script_test_iff (by rw [List.length_append]; omega)]
  · rw [if_neg hk0, if_neg hk0]
    exact ⟨(fun h => nomatch h), fun h => nomatch h⟩

theorem validate_of_outputsV1 {c : Crypto} {pk : PubKey} {magic evm : Bytes} {o : Bytes × Bytes}
    (h : depositOutputsV1 c pk magic evm = some o) : pk.validate = true := by
  unfold depositOutputsV1 at h
  cases hv : pk.validate with
  | true => rfl
  | false => rw [if_pos (Or.inr (Or.inr (by rw [hv]; rfl)))] at h; cases h

/-- **v1 round trip** (version 1 exists only for ECDSA keys) -/
theorem v1_roundtrip (c : Crypto) (pk : PubKey) (magic evm o0 o1 : Bytes) (hh : ∀ b, (c.hash160 b).length = 20)
    (h : depositOutputsV1 c pk magic evm = some (o0, o1)) : verifyDepositScriptV1 c pk magic evm o0 o1 = true :=
  (v1_accept_iff c pk magic evm o0 o1 (validate_of_outputsV1 h) hh).mpr h

/-- version 1 is never accepted (and never handed out) for a Schnorr key -/
theorem v1_only_ecdsa (c : Crypto) (pk : PubKey) (magic evm o0 o1 : Bytes) (hk : pk.kind ≠ 0) :
    verifyDepositScriptV1 c pk magic evm o0 o1 = false ∧ depositOutputsV1 c pk magic evm = none := by
  unfold verifyDepositScriptV1 depositOutputsV1
  rw [if_neg hk, if_neg hk, ite_self, ite_self, ite_self]
  exact ⟨rfl, rfl⟩

/-- the change / consolidation output must pay the current key: the system-address check accepts
    exactly the P2WPKH (ECDSA) or key-path P2TR (Schnorr) script of that key -/
theorem system_script_ecdsa (c : Crypto) (k script : Bytes) (hh : ∀ b, (c.hash160 b).length = 20) :
    verifySystemAddressScript c { kind := 0, key := k } script = true ↔ script = [0x00, 0x14] ++ c.hash160 k := by
  unfold verifySystemAddressScript
  rw [if_pos rfl]
  exact script_test_iff (by rw [hh])

end Goat.C17
