/-
  C03 — deposits: SPV-proven, script-bound, matured, credited at most once, value-exact.  What ONE
  successful `verifyDeposit` / `NewDeposits` of x/bitcoin/keeper implies; C03H follows the credited set
  over histories.
-/
import GoatModel.Bitcoin
import GoatProofs.C04
import GoatProofs.C20
import GoatProofs.Lemmas.BitcoinOps
namespace Goat.C03
open Goat.Bitcoin

/-- script binding for the given deposit version -/
def ScriptOk (c : Crypto) (magic : Bytes) (d : Deposit) (outs : List BtcTx.TxOut) : Prop :=
  (d.version = 0 ∧ verifyDepositScriptV0 c d.pubkey d.evm (outs[d.outputIndex]!).pkScript = true) ∨
  (d.version = 1 ∧ d.outputIndex = 0 ∧ outs.length ≥ 2 ∧
    verifyDepositScriptV1 c d.pubkey magic d.evm (outs[d.outputIndex]!).pkScript (outs[1]!).pkScript = true)

/-- **C03 (what acceptance implies)** — one conjunct per clause of the statement.  A deposit is
    credited only if: the relayer key is registered; the block hash of that height was voted; the
    submitted header has 80 bytes and double-hashes to the voted hash; the transaction parses without
    trailing bytes; the designated output exists, is not yet credited, pays at least the minimum to a
    script committing to that key and that EVM address (v0 / v1); the transaction id hashes into the
    header's Merkle root at the claimed position; a claimed position 0 (coinbase) needs 100 voted
    blocks above; and the receipt is (amount, tax) = taxOf(value). -/
theorem C03_accept_implies (c : Crypto) (rel : Relayer.State) (s : State) (headers : List (Nat × Bytes)) (d : Deposit)
    (r : DepositReceipt) (h : verifyDeposit c rel s headers d = .ok r) :
    rel.pubkeys.contains d.pubkey.encode = true ∧
    ∃ blockHash header outs,
      nlookup s.hashes d.blockNumber = some blockHash ∧
      (d.txIndex = 0 → d.blockNumber + 100 ≤ s.tip) ∧
      nlookup headers d.blockNumber = some header ∧ header.length = 80 ∧ blockHash = c.dsha256 header ∧
      BtcTx.parseNoWitness d.noWitnessTx = some outs ∧ d.outputIndex < outs.length ∧
      hasDeposited s (c.dsha256 d.noWitnessTx) d.outputIndex = false ∧
      s.params.minDeposit ≤ (outs[d.outputIndex]!).value ∧
      ScriptOk c s.params.magic d outs ∧
      Merkle.verify c.dsha256 (c.dsha256 d.noWitnessTx) ((header.drop 36).take 32) d.proof d.txIndex = true ∧
      r = { address := d.evm, txid := c.dsha256 d.noWitnessTx, txout := d.outputIndex,
            amount := (taxOf s.params (outs[d.outputIndex]!).value).1, tax := (taxOf s.params (outs[d.outputIndex]!).value).2 } := by
  unfold verifyDeposit at h
  obtain ⟨hkey, h⟩ := Outcome.of_guard_err h
  split at h
  · cases h
  rename_i blockHash hbh
  obtain ⟨hcb, h⟩ := Outcome.of_guard_err h
  dsimp only at h
  obtain ⟨hlen, h⟩ := Outcome.of_guard_err h
  obtain ⟨hhash, h⟩ := Outcome.of_guard_err h
  split at h
  · cases h
  rename_i outs hparse
  obtain ⟨hidx, h⟩ := Outcome.of_guard_err h
  obtain ⟨hdep, h⟩ := Outcome.of_guard_err h
  obtain ⟨hmin, h⟩ := Outcome.of_guard_err h
  split at h
  · cases h
  · cases h
  rename_i hsc
  obtain ⟨hspv, h⟩ := Outcome.of_guard_err h
  cases h
  -- the version switch by hand: `split at hsc` is slow to check with the earlier forms of `h` around
  have hs : ScriptOk c s.params.magic d outs := by
    by_cases hv0 : d.version = 0
    · rw [if_pos hv0] at hsc
      split at hsc
      · rename_i hs0
        exact Or.inl ⟨hv0, hs0⟩
      · cases hsc
    rw [if_neg hv0] at hsc
    by_cases hv1 : d.version = 1
    · rw [if_pos hv1] at hsc
      obtain ⟨hi, hsc⟩ := Outcome.of_guard_err hsc
      split at hsc
      · rename_i hs1
        exact Or.inr ⟨hv1, by omega, by omega, hs1⟩
      · cases hsc
    · rw [if_neg hv1] at hsc
      cases hsc
  -- the header is looked up with default `[]`, which the length check refuses
  cases hh : nlookup headers d.blockNumber with
  | none =>
    rw [hh] at hlen
    exact absurd (by decide) hlen
  | some header =>
    rw [hh, Option.getD_some] at hlen hhash hspv
    exact ⟨by simpa only [Bool.not_eq_true', Bool.not_eq_false] using hkey, blockHash, header, outs, hbh, by omega, rfl,
      Classical.not_not.mp hlen, Classical.not_not.mp hhash, hparse, by omega, Bool.of_not_eq_true hdep, by omega, hs,
      by simpa only [Bool.not_eq_true', Bool.not_eq_false] using hspv, rfl⟩

/-- **Value-exact**: credited amount plus tax equals the output value, the tax is the capped
    per-10000 formula and is always smaller than the value (bounds of C20). -/
theorem C03_value_exact (c : Crypto) (rel : Relayer.State) (s : State) (headers : List (Nat × Bytes)) (d : Deposit)
    (r : DepositReceipt) (h : verifyDeposit c rel s headers d = .ok r) (hp : C20.ParamInv s.params)
    (outs : List BtcTx.TxOut) (hparse : BtcTx.parseNoWitness d.noWitnessTx = some outs)
    (hv : (outs[d.outputIndex]!).value < two64) :
    r.amount + r.tax = (outs[d.outputIndex]!).value ∧ r.tax < (outs[d.outputIndex]!).value ∧ 0 < r.amount := by
  obtain ⟨_, _, _, outs', _, _, _, _, _, hp', _, _, hmin, _, _, hr⟩ := C03_accept_implies c rel s headers d r h
  rw [hparse] at hp'
  cases hp'
  subst hr
  obtain ⟨h1, h2, h3⟩ := C20.tax_below_value s.params _ hp hv hmin
  exact ⟨h2, h1, h3⟩

/-- **Coinbase maturity cannot be bypassed**: by position binding (C04) a proof accepted for the
    block's tree under a position of the tree's depth presents the leaf that really is at that
    position — so the first transaction can only be presented at position 0, where the maturity
    rule applies.  Stated without any unsatisfiable idealisation: presenting another transaction at a
    position *exhibits a collision* of the hash: one of the strings the verifier hashed against one of the
    strings the block's producer hashed (`C04.RunCollision`). -/
theorem C03_coinbase_only_at_zero {H} (hH : C04.Out32 H) (t : C04.Tree) (hp : t.Perfect)
    (txid proof : Bytes) (i : Nat) (hdepth : proof.length / 32 = t.depth)
    (hacc : Merkle.verify H txid (t.root H) proof i = true) (hne : txid ≠ t.leafAt i) :
    C04.RunCollision H txid (Merkle.chunks proof) i t :=
  (C04.C04_accepted_is_leaf hH t hp txid proof i hdepth hacc).resolve_left hne

/-- keys of the credited set -/
def depositedKeys (s : State) : List (Bytes × Nat) := s.deposited.map (·.1)

theorem hasDeposited_iff (s : State) (t : Bytes) (v : Nat) : hasDeposited s t v = true ↔ (t, v) ∈ depositedKeys s := by
  unfold hasDeposited depositedKeys
  simp only [List.any_eq_true, Bool.and_eq_true, beq_iff_eq, List.mem_map]
  constructor
  · rintro ⟨e, he, h1, h2⟩; exact ⟨e, he, by rw [← h1, ← h2]⟩
  · rintro ⟨e, he, h⟩; exact ⟨e, he, by rw [h], by rw [h]⟩

theorem depositedKeys_snoc (s : State) (k : Bytes × Nat) (v : Nat) :
    depositedKeys { s with deposited := s.deposited ++ [(k, v)] } = depositedKeys s ++ [k] :=
  List.map_append

/-- the batch loop: every credited item is new (not in the set, which grows item by item — so
    duplicates inside one batch are rejected too), the set only grows, and the receipts are exactly
    the added keys. -/
theorem newDeposits_go_spec (c : Crypto) (rel : Relayer.State) (headers : List (Nat × Bytes)) :
    ∀ (ds : List Deposit) (s : State) (acc : List DepositReceipt) (s' : State) (rs : List DepositReceipt),
      newDeposits.go c headers rel ds s acc = .ok (s', rs) →
      (depositedKeys s).Nodup →
      ∃ new : List DepositReceipt, rs = acc.reverse ++ new ∧
        depositedKeys s' = depositedKeys s ++ new.map (fun r => (r.txid, r.txout)) ∧ (depositedKeys s').Nodup ∧
        s'.queue = s.queue ∧ s'.params = s.params := by
  intro ds
  induction ds with
  | nil =>
    intro s acc s' rs h hn
    simp only [newDeposits.go, Outcome.ok.injEq, Prod.mk.injEq] at h
    obtain ⟨rfl, rfl⟩ := h
    exact ⟨[], (List.append_nil _).symm, (List.append_nil _).symm, hn, rfl, rfl⟩
  | cons d ds ih =>
    intro s acc s' rs h hn
    obtain ⟨_, r, hr, h⟩ := newDeposits_go_cons h
    obtain ⟨_, _, _, _, _, _, _, _, _, _, _, hnd, _, _, _, hrr⟩ := C03_accept_implies c rel s headers d r hr
    have hnew : (r.txid, r.txout) ∉ depositedKeys s := by
      intro hin
      rw [← hasDeposited_iff, hrr, hnd] at hin
      cases hin
    have hn' : (depositedKeys s ++ [(r.txid, r.txout)]).Nodup :=
      List.nodup_append.mpr ⟨hn, List.pairwise_singleton _ _, fun a ha b hb hab => by
        rw [hab, List.mem_singleton.mp hb] at ha
        exact hnew ha⟩
    rw [← depositedKeys_snoc s _ ((r.amount + r.tax) % two64)] at hn'
    obtain ⟨new, e1, e2, e3, e4, e5⟩ := ih _ (r :: acc) s' rs h hn'
    refine ⟨r :: new, ?_, ?_, e3, e4, e5⟩
    · rw [e1, List.reverse_cons, List.append_assoc]
      rfl
    · rw [e2, depositedKeys_snoc, List.append_assoc]
      rfl

/-- **Each (txid, output) is credited at most once**: a successful batch adds to the credited set
    exactly the keys of the receipts it queues, all of them new and pairwise distinct; the set never
    shrinks.  (Over whole histories: `C03H.credited_at_most_once`.) -/
theorem C03_deposit_once (c : Crypto) (rel rel' : Relayer.State) (s s' : State) (m : NewDepositsMsg)
    (h : newDeposits c rel s m = .ok (rel', s')) (hn : (depositedKeys s).Nodup) :
    ∃ new : List DepositReceipt,
      s'.queue.deposits = s.queue.deposits ++ new ∧
      depositedKeys s' = depositedKeys s ++ new.map (fun r => (r.txid, r.txout)) ∧
      (depositedKeys s').Nodup := by
  obtain ⟨_, _, _, _, headers, _, rel1, _, s1, rs, hgo, hr⟩ := newDeposits_ok h
  obtain ⟨new, e1, e2, e3, e4, _⟩ := newDeposits_go_spec c rel1 headers m.deposits s [] s1 rs hgo hn
  cases hr
  refine ⟨new, ?_, e2, e3⟩
  show s1.queue.deposits ++ rs = _
  rw [e4, e1]
  rfl

end Goat.C03
