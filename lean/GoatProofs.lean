import GoatProofs.Lemmas.Outcome
import GoatProofs.Lemmas.Bytes
import GoatProofs.Lemmas.BitcoinOps
import GoatProofs.C01
import GoatProofs.C03
import GoatProofs.C04
import GoatProofs.C05
import GoatProofs.C06
import GoatProofs.C11
import GoatProofs.C12
import GoatProofs.C13
import GoatProofs.C14
import GoatProofs.C15
import GoatProofs.C17
import GoatProofs.C20
import GoatProofs.C02
import GoatProofs.C08
import GoatProofs.C09
import GoatProofs.C10
import GoatProofs.C19
import GoatProofs.FactsThms
import GoatProofs.C07
import GoatProofs.C16
import GoatProofs.C18
import GoatProofs.Lemmas.LockingOps
import GoatProofs.C05H
import GoatProofs.C13H
import GoatProofs.C11H
import GoatProofs.C12H
import GoatProofs.C13B
import GoatProofs.C14H
import GoatProofs.C15H
import GoatProofs.C01S
import GoatProofs.C06H
import GoatProofs.C18B
import GoatProofs.C09H
import GoatProofs.C11P
import GoatProofs.C17A
import GoatProofs.C03H
import GoatProofs.C19R
import GoatProofs.C06B
import GoatProofs.C04I
import GoatProofs.C08P
import GoatProofs.C01X
import GoatProofs.NonVacuity
import GoatProofs.C12G
import GoatProofs.C03T
import GoatProofs.C03U
import GoatProofs.C04L
import GoatProofs.C04S
import GoatProofs.C04O
